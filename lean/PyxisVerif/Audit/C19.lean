import PyxisVerif.Props.C19
#print axioms PyxisVerif.C19.lookup_local
#print axioms PyxisVerif.C19.lookup_answer_is_candidate
#print axioms PyxisVerif.C19.size_local
#print axioms PyxisVerif.C19.enum_items_local
#print axioms PyxisVerif.C19.type_items_local
#print axioms PyxisVerif.C19.type_items_no_bases
#print axioms PyxisVerif.C19.module_file_local
#print axioms PyxisVerif.C19.added_module_frame
#print axioms PyxisVerif.C19.added_module_frame_tight
#print axioms PyxisVerif.C19.added_module_files
#print axioms PyxisVerif.C19.added_module_o3
#print axioms PyxisVerif.C19.added_module_registry
#print axioms PyxisVerif.C19.Refute.added_module_registry_weak_refuted
#print axioms PyxisVerif.C19.Example.frame_applies
#print axioms PyxisVerif.C19.added_module_frame_vft
#print axioms PyxisVerif.C19.added_module_frame_tight_vft
#print axioms PyxisVerif.C19.added_module_files_vft
#print axioms PyxisVerif.C19.added_module_o3_vft
#print axioms PyxisVerif.C19.added_module_registry_vft
#print axioms PyxisVerif.C19.added_module_core_vft
#print axioms PyxisVerif.C19.removed_module_frame
#print axioms PyxisVerif.C19.changed_module_frame
