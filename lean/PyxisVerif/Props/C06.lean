import PyxisVerif.Spec.C06
import PyxisVerif.Lemmas.C06
import PyxisVerif.Lemmas.C01
/-!
# C06 – a derived type's vftable extends its first base's vftable and shares its pointer
-/
namespace PyxisVerif.C06
open Gen

/-- **accepted ⇒ prefix**: a type with its own vftable block whose first base has a vftable is accepted
    only if the base's slots are a prefix of its own (same position, same name, receiver, parameter
    types, return type, convention – in fact the same function value); it then gets no pointer of its
    own and records the base field through which the pointer is reached -/
theorem accept_implies_prefix (s s1 : State) (owner : Path) (vis : Vis) (fb : Option Region) (fns : List SFunc)
    (v : Option Vft) (ptr : Option Region) (bn : String) (bv : Vft)
    (vpath : Path) (hp : vftablePath owner = some vpath)
    (h : buildVftable s owner vis fb (some fns) = (s1, .ok (v, ptr)))
    (hb : baseVftable s1.reg fb = .ok (some (bn, bv))) :
    bv.fns <+: fns ∧ (bv.fns.map slotSig) <+: (fns.map slotSig) ∧ ptr = none ∧
      v = some { fns := fns, baseField := some bn, ty := .cptr (.raw vpath) } := by
  obtain ⟨item, hi, rfl⟩ := item_of_path s.reg owner vpath vis fns hp
  rcases vftCheck_ok (buildVftable_ok_inv s s1 owner vis fb fns item _ hi h) with ⟨bn', bv', hb', hpre, hr⟩ | ⟨hb', _⟩
  · rw [hb] at hb'
    cases hb'
    cases hr
    exact ⟨hpre, hpre.map slotSig, rfl, rfl⟩
  · rw [hb] at hb'; cases hb'

/-- every single-slot mutation of a compatible prefix (a slot that differs in any listed component, or
    a table shorter than the base's) is rejected -/
theorem mutation_rejected (s : State) (owner : Path) (vis : Vis) (fb : Option Region) (fns : List SFunc)
    (s1 : State) (item : ItemDef) (bn : String) (bv : Vft)
    (hi : buildVftableItem s.reg owner vis fns = some item) (ha : s.addItem item = .ok s1)
    (hc : (match s.reg.get item.path with | some e => e != item | none => false) = false)
    (hb : baseVftable s1.reg fb = .ok (some (bn, bv)))
    (hm : ¬ (bv.fns.map slotSig) <+: (fns.map slotSig)) :
    ∃ m, (buildVftable s owner vis fb (some fns)).2 = .err m := by
  rw [buildVftable_eq s s1 owner vis fb fns item hi hc ha]
  cases hv : vftCheck s1.reg fb fns item.path with
  | ok r =>
    rcases vftCheck_ok hv with ⟨bn', bv', hb', hpre, _⟩ | ⟨hb', _⟩
    · rw [hb] at hb'; cases hb'; exact absurd (hpre.map slotSig) hm
    · rw [hb] at hb'; cases hb'
  | err m => exact ⟨m, rfl⟩
  | _ =>
    unfold vftCheck at hv
    rw [hb] at hv
    simp only at hv
    split at hv
    · cases hv
    · split at hv <;> cases hv

/-- **own pointer**: a type that declares a vftable block and has no base supplying one gets exactly
    the pointer field `vftable : *const <T>Vftable`, private -/
theorem own_pointer (s s1 : State) (owner : Path) (vis : Vis) (fb : Option Region) (fns : List SFunc)
    (v : Option Vft) (ptr : Option Region)
    (vpath : Path) (hp : vftablePath owner = some vpath)
    (h : buildVftable s owner vis fb (some fns) = (s1, .ok (v, ptr)))
    (hb : baseVftable s1.reg fb = .ok none) :
    ptr = some (ownPointer vpath) ∧ v = some { fns := fns, baseField := none, ty := .cptr (.raw vpath) } := by
  obtain ⟨item, hi, rfl⟩ := item_of_path s.reg owner vpath vis fns hp
  rcases vftCheck_ok (buildVftable_ok_inv s s1 owner vis fb fns item _ hi h) with ⟨_, _, hb', _⟩ | ⟨_, hr⟩
  · rw [hb] at hb'; cases hb'
  · cases hr; exact ⟨rfl, rfl⟩

/-- no block of its own: the base's table and pointer type are inherited unchanged, no pointer field -/
theorem inherited (s s1 : State) (owner : Path) (vis : Vis) (fb : Option Region)
    (v : Option Vft) (ptr : Option Region)
    (h : buildVftable s owner vis fb none = (s1, .ok (v, ptr))) :
    s1 = s ∧ ptr = none ∧
      (match baseVftable s.reg fb with
       | .ok (some (bn, bv)) => v = some { fns := bv.fns, baseField := some bn, ty := bv.ty }
       | _ => v = none) := by
  unfold buildVftable at h
  simp only [Prod.mk.injEq] at h
  obtain ⟨rfl, h⟩ := h
  refine ⟨rfl, ?_⟩
  split at h
  · next hb => cases h; rw [hb]; exact ⟨rfl, rfl⟩
  · next hb => cases h; rw [hb]; exact ⟨rfl, rfl⟩
  · exact absurd h (Res.cast_ne_ok _ _)

/-- **the pointer is the first region, at offset 0, before all declared fields**: when the layout core
    is handed a vftable pointer region it places it first -/
theorem pointer_first {β} (vp : Layout.PField β) (fields : List (Layout.PField β)) (target : Option Nat)
    (placed : List (Layout.Placed β)) (size : Nat)
    (h : Layout.resolve (some vp) fields target = .ok (placed, size)) :
    ∃ sz rest, vp.size = .ok (some sz) ∧ (sz = 0 ∧ vp.isArr = true ∨
      placed = ⟨sz, vp.align, some vp.val⟩ :: rest) := by
  obtain ⟨st0, st1, st2, h0, h1, h2, rfl, _⟩ := C01.resolve_inv _ _ _ _ _ h
  -- every `push` appends, so what the first one left stays in front
  have hpush : ∀ (st : Layout.St β) sz al arr src st', st0.1 <+: st.1 → Layout.push st sz al arr src = .ok st' → st0.1 <+: st'.1 :=
    fun st sz al arr src st' hp hs => by
      obtain ⟨_, _, rfl⟩ := C01.push_ok_inv _ _ _ _ _ _ hs
      exact hp.trans (List.prefix_append _ _)
  obtain ⟨rest, hrest⟩ := C01.padTail_invariant hpush (C01.place_invariant hpush (List.prefix_refl _) h1) h2
  obtain ⟨sz, hsz, rfl⟩ := C01.push_ok_inv _ _ _ _ _ _ h0
  refine ⟨sz, rest, hsz, ?_⟩
  unfold C01.reg at hrest
  split at hrest
  · next hz => exact .inl hz
  · exact .inr hrest.symm

/-- the accessor emitted for a type with a vftable: reads the own field, or delegates to the base
    field's accessor, and reinterprets the result as the type's own table pointer type -/
theorem accessor_shape (reg : Registry) (path : Path) (size align : Nat) (vis : Vis) (td : TypeDefn) (v : Vft)
    (h : td.vft = some v) :
    ∃ pre post ms, Emit.typeItems reg path size align vis td = pre ++
      [Sexp.mk "impl" (.str (path.getLast?.getD "") ::
        Sexp.mk "some" [Sexp.mk "vftacc" [.str (Emit.tyStr v.ty), Sexp.ofOpt .str v.baseField]] :: ms)] ++ post := by
  unfold Emit.typeItems
  simp only [h]
  exact ⟨_, _, _, List.append_assoc (_ ++ [_]) _ _⟩

end PyxisVerif.C06
