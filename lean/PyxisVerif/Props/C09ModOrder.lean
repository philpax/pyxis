import PyxisVerif.Lemmas.ModOrder
/-!
# C09: the result does not depend on the order in which the modules are added

`Props/C09Novft.lean`, `Props/C09Case.lean` and `Props/C09Vft.lean` prove that the result of `SemanticState::build` does
not depend on the order of the resolution attempts.  The other half of C09 – "… or the order in which files are
discovered or modules are added" – is proved here: `Case.initialState` folds `add_module` over `c.modules` in list order,
and the verdict and the observations of a case are the same for every permutation of that list, provided the module
paths are pairwise distinct (`HashMap::insert` REPLACES a module stored under the same path, so with a duplicate path
the later file wins and the order does matter).

No hypothesis on the pointer width, on the literals, on vftable blocks or on generated names is needed: the two runs use
the same resolution schedule (`TypeRegistry::unresolved` sorts), so they are related step by step.

## How

* `ModOrder.addModule_transfer` (the frame rule for `add_module`): a successful `add_module` stores a module under its
  path and puts entries directly under that path in front of the registry, and does the same from every state that has
  no more items under that path.  Hence `add_module` respects `MPerm` (the same entries and stored modules in another
  order) and two of them for different paths commute up to `MPerm`; `ModOrder.fold_perm` lifts this to an arbitrary
  permutation (`C20.foldlM_perm`, by induction on `List.Perm`).
* the builder reads the stored modules by key only, so `MPerm` between states whose modules have distinct keys is kept
  by every attempt (`ModOrder.mpermD_buildRel`, an instance of the walk of `Lemmas/BuildRel.lean`) and so by the
  resolution loop; the extern-value pass goes through the modules in stored order (`ModOrder.finish_mperm`).
* `ModOrder.sortS` is the state with its stored modules sorted (stably) by key: O2 and O3 of a state are those of the
  sorted state (`ModOrder.resolvedS_sortS`: O2 sorts the extern values by module path and name – a stable sort, the
  values of one module keep their order; `ModOrder.files_sortS`: O3 sorts the files by file name), and two `MPerm` states
  with distinct keys have the same sorted modules.

## What is NOT true without a hypothesis

`Emit.files` sorts the files by `relFile key` (the segments joined with `/`, plus `.rs`), stably.  Two DIFFERENT module
paths can give the same file name when a segment contains a `/` (`["a/b", "c"]` and `["a", "b", "c"]`), and then the order
of the two files in O3 is the order of the stored modules.  `case_module_order_independent` therefore asks for distinct
file names (`DistinctFiles`, decidable; it holds whenever no segment contains `/`, which is the case for every path that
comes from a directory walk).  O2 and the verdict do not need it.

## Which failure is reported

may depend on the order: `add_module` of the first offending module fails, and the extern-value pass of `build` reports
the first module (in stored order) with an extern value whose type does not resolve.  `sameVerdictR` identifies all
failures; a non-terminating resolution reports the same list.
-/
namespace PyxisVerif.C09
open CaseLift2 (astPaths)

def ReorderedModules (c c' : Case) : Prop := c'.modules.Perm c.modules ∧ c' = { c with modules := c'.modules }

theorem ReorderedModules.symm {c c' : Case} (h : ReorderedModules c c') : ReorderedModules c' c := by
  refine ⟨h.1.symm, ?_⟩
  rw [h.2]

def DistinctPaths (c : Case) : Prop := (astPaths c.modules).Nodup

/-- no two modules of the case are written to the same file -/
def DistinctFiles (c : Case) : Prop := ((astPaths c.modules).map Emit.relFile).Nodup

instance (c : Case) : Decidable (DistinctPaths c) := by unfold DistinctPaths; infer_instance
instance (c : Case) : Decidable (DistinctFiles c) := by unfold DistinctFiles; infer_instance

theorem DistinctFiles.paths {c : Case} (h : DistinctFiles c) : DistinctPaths c :=
  List.Pairwise.of_map Emit.relFile (fun _ _ hne e => hne (congrArg _ e)) h

/-- `DistinctPaths` is what `CaseLift2.DistinctModulePaths` follows from -/
example (c : Case) (h : DistinctPaths c) : CaseLift2.DistinctModulePaths c :=
  CaseLift2.distinctModulePaths_of_nodup c h

/-- the verdicts of a case and of the same case with its modules in another order: accepted with the same registry
    entries and the same stored modules up to order (`ModOrder.PermM`), or the same list of unresolvable items, or two
    failures (which one is reported may differ) -/
def sameVerdictR : BuildOutcome → BuildOutcome → Prop
  | .ok s, .ok s' => ModOrder.PermM s s'
  | .nonterm l, .nonterm l' => l' = l
  | .fuel, .fuel => True
  | .err _, .err _ => True
  | .err _, .panic _ => True
  | .panic _, .err _ => True
  | .panic _, .panic _ => True
  | _, _ => False

/-- **the verdict of a case does not depend on the order in which its modules are added**: an accepted input set is
    accepted in every order (with the same entries and modules), a rejected one stays rejected, a non-terminating
    resolution reports the same items -/
theorem case_module_order_verdict (c c' : Case) (h : ReorderedModules c c') (hd : DistinctPaths c) :
    sameVerdictR c.run c'.run := by
  have hv := ModOrder.run_reordered_modules c c' h.1 h.2 hd
  revert hv
  generalize c.run = o
  generalize c'.run = o'
  intro hv
  cases o <;> cases o' <;> first
    | exact (show ModOrder.MPermD _ _ from hv).1.permM
    | exact hv

/-- accepted ⇒ accepted with the same O2, for any order of module addition; the two final states have the same registry
    entries and the same stored modules, up to order -/
theorem case_module_order_o2 (c c' : Case) (h : ReorderedModules c c') (hd : DistinctPaths c)
    (s : State) (hs : c.run = .ok s) : ∃ s', c'.run = .ok s' ∧ ModOrder.PermM s s' ∧ c'.o2 = c.o2 := by
  obtain ⟨s', h1, h2, h3⟩ := ModOrder.o2_reordered_modules c c' h.1 h.2 hd s hs
  exact ⟨s', h1, h2.1.permM, h3⟩

/-- **accepted ⇒ accepted with the same observations, for any order of module addition** -/
theorem case_module_order_independent (c c' : Case) (h : ReorderedModules c c') (hd : DistinctPaths c)
    (hf : DistinctFiles c) (s : State) (hs : c.run = .ok s) :
    ∃ s', c'.run = .ok s' ∧ c'.o2 = c.o2 ∧ c'.o3 = c.o3 := by
  obtain ⟨s', h1, _, h2⟩ := ModOrder.o2_reordered_modules c c' h.1 h.2 hd s hs
  exact ⟨s', h1, h2, ModOrder.o3_reordered_modules c c' h.1 h.2 hd hf s hs⟩

/-- the initial states: `add_module` of the same modules in another order gives the same registry entries and the same
    stored modules, in another order -/
theorem case_module_order_initial (c c' : Case) (h : ReorderedModules c c') (hd : DistinctPaths c)
    (s0 : State) (hs : c.initialState = .ok s0) : ∃ s0', c'.initialState = .ok s0' ∧ ModOrder.MPerm s0 s0' :=
  ModOrder.initialState_reordered_modules c c' h.1 h.2 hd s0 hs

/-! ## non-vacuity: the two-module case of `Props/C09Case.lean`, with its modules swapped -/

namespace Example

def swapped : Case :=
  { case with modules := [.ast ["b"] "b.pyxis" modB, .ast ["a"] "a.pyxis" modA] }

theorem reordered : ReorderedModules case swapped := ⟨List.Perm.swap _ _ _, rfl⟩

def s0' : State := C12.stateOf swapped.initialState

/-- no two modules share a path or a file; the swapped case passes `add_module` too; the keys of the stored modules after
    `add_module`, in order, in the two cases (one evaluation: the members share the states) -/
theorem evals :
    (DistinctPaths case ∧ DistinctFiles case) ∧ swapped.initialState.isOk = true ∧
    s0.modules.map (·.1) = [["b"], ["a"], []] ∧ s0'.modules.map (·.1) = [["a"], ["b"], []] := by
  decide +kernel

theorem distinctPaths : DistinctPaths case := evals.1.1
theorem distinctFiles : DistinctFiles case := evals.1.2

/-- the case is accepted (`run_ok`), so the swapped case is accepted, with the same O2 and O3 -/
theorem swapped_same : isOkB swapped.run = true ∧ swapped.o2 = case.o2 ∧ swapped.o3 = case.o3 := by
  obtain ⟨s, hs⟩ := (isOkB_iff _).mp run_ok
  obtain ⟨s', h1, h2, h3⟩ := case_module_order_independent case swapped reordered distinctPaths distinctFiles s hs
  exact ⟨by rw [h1]; rfl, h2, h3⟩

example : sameVerdictR case.run swapped.run := case_module_order_verdict case swapped reordered distinctPaths

theorem init' : swapped.initialState = .ok s0' := C12.eq_ok_stateOf _ evals.2.1

/-- the stored modules of the two accepted runs are in different orders (`add_module` puts the new module first) -/
theorem keys_differ (s s' : State) (h : case.run = .ok s) (h' : swapped.run = .ok s') :
    s.modules.map (·.1) = [["b"], ["a"], []] ∧ s'.modules.map (·.1) = [["a"], ["b"], []] := by
  rw [ModOrder.run_keys_eq case s0 s init h, ModOrder.run_keys_eq swapped s0' s' init' h']
  exact evals.2.2

end Example

/-- REFUTED: the statement with `sameVerdictV` (of `Lemmas/MonoVft.lean`) in place of `sameVerdictR`: `sameVerdictV` asks
    for the same keys IN THE SAME ORDER in the two lists of stored modules, and `add_module` puts the new module first.
    Witness: the two-module case above and the same case with its modules swapped (both accepted). -/
theorem case_module_order_verdict_sameVerdictV_refuted :
    ¬ ∀ (c c' : Case), ReorderedModules c c' → DistinctPaths c → DistinctFiles c → sameVerdictV c.run c'.run := by
  intro H
  have hv := H Example.case Example.swapped Example.reordered Example.distinctPaths Example.distinctFiles
  obtain ⟨s, hs⟩ := (isOkB_iff _).mp Example.run_ok
  obtain ⟨s', hs'⟩ := (isOkB_iff _).mp Example.swapped_same.1
  rw [hs, hs'] at hv
  have hk := ModOrder.modsEqv_keys hv.2.1
  obtain ⟨k1, k2⟩ := Example.keys_differ s s' hs hs'
  rw [k1, k2] at hk
  exact absurd hk (by decide)

/-! ## the statement about O3 is FALSE without `DistinctFiles`

Pointer width 8, two modules without definitions, one with an extern value:

```text
// module path ["a/b", "c"]                      // module path ["a", "b", "c"]
#[address(0x10)] pub extern g: u32;              (empty)
```

Both are written to `a/b/c.rs`.  Added in this order the stored modules are `[a::b::c, a/b::c, root]` and O3 lists the
file of the empty module first (2 entries: the file name's `rs` tag and the inner doc block), then the other (3 entries);
added in the other order O3 lists them the other way round.  What the kernel evaluates (`decide +kernel`) is gathered in
`FileClash.Evals`, once for each order. -/

namespace FileClash

def modX : G.Module :=
  { xvals := [{ vis := .pub, name := "g", ty := .ident "u32", attrs := [.fn "address" [.int 16]] }] }
def modY : G.Module := {}

def case : Case :=
  { id := "c09-fileclash", ps := 8, prio := [],
    modules := [.ast ["a/b", "c"] "x.pyxis" modX, .ast ["a", "b", "c"] "y.pyxis" modY], extras := [] }

def swapped : Case :=
  { case with modules := [.ast ["a", "b", "c"] "y.pyxis" modY, .ast ["a/b", "c"] "x.pyxis" modX] }

theorem reordered : ReorderedModules case swapped := ⟨List.Perm.swap _ _ _, rfl⟩
theorem distinctPaths : DistinctPaths case := by decide +kernel
theorem not_distinctFiles : ¬ DistinctFiles case := by decide +kernel

def s0 : State := C12.stateOf case.initialState
def s0' : State := C12.stateOf swapped.initialState

def outState : BuildOutcome → State | .ok s => s | _ => State.new 8

def sf : State := outState (finish s0)
def sf' : State := outState (finish s0')

/-- the number of entries of the abstract file: the inner doc block and the items -/
def fileSize : Sexp → Nat
  | .list [_, _, .list xs] => xs.length
  | _ => 0

/-- the sizes of the files of an O3 observation, in order -/
def sizes : Sexp → List Nat
  | .list (_ :: fs) => fs.map fileSize
  | _ => []

theorem moduleFile_size (s : State) (key : Path) (m : Mod) (hd : m.defPaths = []) (hb : m.backends = []) :
    fileSize (Emit.moduleFile s key m) = 2 + m.xvals.length := by
  simp [Emit.moduleFile, Mod.backendsFor, hd, hb, Emit.sortBy, fileSize, Sexp.mk]
  omega

theorem sort_two (a b : Path × Mod) :
    [a, b].mergeSort C20.fileLe = if C20.fileLe a b = true then [a, b] else [b, a] := by
  rw [ModOrder.mergeSort_cons_ins C20.fileLe ModOrder.fileLe_trans ModOrder.fileLe_total,
      ModOrder.mergeSort_cons_ins C20.fileLe ModOrder.fileLe_trans ModOrder.fileLe_total]
  simp only [List.mergeSort_nil, ModOrder.ins]

def nonRoot (s : State) : List (Path × Mod) := s.modules.filter fun e => !e.1.isEmpty

theorem sizes_o3 (c : Case) (s : State) (a b : Path × Mod) (hr : c.run = .ok s) (hn : nonRoot s = [a, b])
    (hle : C20.fileLe a b = true) (hda : a.2.defPaths = []) (hba : a.2.backends = [])
    (hdb : b.2.defPaths = []) (hbb : b.2.backends = []) :
    sizes c.o3 = [2 + a.2.xvals.length, 2 + b.2.xvals.length] := by
  unfold Case.o3
  rw [hr]
  simp only []
  unfold Emit.files Emit.sortBy
  simp only []
  show sizes (Sexp.mk "files" (((nonRoot s).mergeSort C20.fileLe).map fun e => Emit.moduleFile s e.1 e.2)) = _
  rw [hn, sort_two, if_pos hle]
  simp only [sizes, Sexp.mk, List.map_cons, List.map_nil, moduleFile_size s _ _ hda hba, moduleFile_size s _ _ hdb hbb]

/-- What the kernel evaluates about a case `c` with final state `sf`: the run is accepted and ends in `sf`; `sf` has two
    non-root modules, stored in file order, without definitions and backends, and their files have the sizes `ns`. -/
def Evals (c : Case) (sf : State) (ns : List Nat) : Prop :=
  runK c = .ok sf ∧
  match nonRoot sf with
  | [a, b] => (C20.fileLe a b = true ∧ a.2.defPaths = [] ∧ a.2.backends = [] ∧ b.2.defPaths = [] ∧ b.2.backends = []) ∧
      [2 + a.2.xvals.length, 2 + b.2.xvals.length] = ns
  | _ => False

instance (c : Case) (sf : State) (ns : List Nat) : Decidable (Evals c sf ns) := by
  unfold Evals; split <;> infer_instance

/-- … from which: the case is accepted with final state `sf`, and the sizes of its files are `ns` -/
theorem of_evals {c : Case} {sf : State} {ns : List Nat} (h : Evals c sf ns) : c.run = .ok sf ∧ sizes c.o3 = ns := by
  obtain ⟨hk, h2⟩ := h
  have hr : c.run = .ok sf := run_of_runK hk
  split at h2
  · next a b hn =>
    obtain ⟨⟨hle, hda, hba, hdb, hbb⟩, hns⟩ := h2
    exact ⟨hr, (sizes_o3 c sf a b hr hn hle hda hba hdb hbb).trans hns⟩
  · exact h2.elim

theorem evals : Evals case sf [2, 3] := by decide +kernel
theorem evals' : Evals swapped sf' [3, 2] := by decide +kernel

theorem run_ok : case.run = .ok sf := (of_evals evals).1
theorem sizes_case : sizes case.o3 = [2, 3] := (of_evals evals).2
theorem sizes_swapped : sizes swapped.o3 = [3, 2] := (of_evals evals').2

end FileClash

/-- REFUTED: `case_module_order_independent` without `DistinctFiles`.  Witness: the module paths `["a/b", "c"]` and
    `["a", "b", "c"]` are distinct and are both written to `a/b/c.rs`; `Emit.files` sorts by file name, stably, so the two
    files come in the order of the stored modules.  (A path segment with a `/` cannot come from a directory walk: this
    is about the generality of the model's `Case`, not a defect of the implementation.) -/
theorem case_module_order_o3_refuted :
    ¬ ∀ (c c' : Case), ReorderedModules c c' → DistinctPaths c → ∀ s, c.run = .ok s → c'.o3 = c.o3 := by
  intro H
  have h := H FileClash.case FileClash.swapped FileClash.reordered FileClash.distinctPaths _ FileClash.run_ok
  have h2 := congrArg FileClash.sizes h
  rw [FileClash.sizes_case, FileClash.sizes_swapped] at h2
  exact absurd h2 (by decide)

end PyxisVerif.C09
