import PyxisVerif.Spec.C09
import PyxisVerif.Lemmas.C10
import PyxisVerif.Props.C10Global
import PyxisVerif.Props.C10GlobalVft
/-!
# C10 – resolution succeeds exactly when names exist and by-value embedding is acyclic

What is proved: the loop always ends with a verdict within the rounds bound (never by running out
of fuel); a round that does not stop the build made progress; the error of a stuck build lists
exactly the items still unresolved; pointers never wait for their pointee; a size is known only
when the by-value dependencies are resolved; an unknown name or an unresolved by-value dependency
defers (never resolves) an item.  The global statements – every item of a `nonterm` verdict has a
cause in the dependency graph; "acyclic and all names defined ⇒ every schedule resolves everything"
(up to sizes beyond `usize::MAX`) and its converse – are in `Props/C10Global.lean` (without `vftable`
blocks) and `Props/C10GlobalVft.lean` (with them, when nothing mentions a generated name); on the
implementation they are checked against an independent graph analysis of the input (Tarjan) on every run.
-/
namespace PyxisVerif.C10
open C09

/-- the outcome of the resolution loop is a verdict, never "out of fuel": the rounds bound suffices -/
theorem rounds_bound_suffices (s : State) (prio : List Path)
    (hk : ∀ q j, s.reg.get q = some j → j.path = q) (hn : (s.reg.types.map (·.1)).Nodup) :
    (match resolveLoop prio (roundsBound s) s with | .fuel => False | _ => True) := by
  have _ := hk
  have hne : resolveLoop prio (roundsBound s) s ≠ .fuel :=
    resolveLoop_ne_fuel prio (roundsBound s) s hn (by
      have := mu_le s.reg
      unfold roundsBound; omega)
  split
  · next h => exact hne h
  · trivial

/-- **a round that does not stop the build made progress**: the measure `mu` (unresolved items + unresolved
    items whose generated vftable item is not registered yet) drops strictly -/
theorem rounds_progress (s s1 : State) (prio : List Path) (hn : (s.reg.types.map (·.1)).Nodup) (res : Res Unit)
    (hr : runRound s (s.reg.unresolved prio) = (s1, res))
    (hc : ¬ (s.reg.unresolved prio = s1.reg.unresolved prio ∧ s.reg.types.length = s1.reg.types.length)) :
    mu s1.reg < mu s.reg ∧ (s1.reg.types.map (·.1)).Nodup := by
  have hp := runRound_prog (s.reg.unresolved prio) s hn
  rw [hr] at hp
  exact ⟨round_progress prio s.reg s1.reg hn hp hc, hp.nodup⟩

/-- **the error names exactly the unresolved items**: when the loop gives up, the list in the error is
    the list of unresolved items of the registry at that moment -/
theorem nonterm_lists_unresolved (prio : List Path) (fuel : Nat) (s : State) (failed : List Path)
    (h : resolveLoop prio fuel s = .nonterm failed) :
    ∃ s' : State, failed = s'.reg.unresolved prio ∧ failed ≠ [] := by
  refine resolveLoop_rounds
    (P := fun _ _ o => o = .nonterm failed → ∃ s' : State, failed = s'.reg.unresolved prio ∧ failed ≠ [])
    (fun _ => nofun) (fun _ _ _ => nofun) ?_ (fun _ _ _ _ _ _ _ ih => ih) (fun _ _ _ _ _ => nofun)
    (fun _ _ _ _ _ => nofun) (fun _ _ _ _ => nofun) fuel s h
  intro n s s1 hne _ _ _ e
  cases e
  exact ⟨s, rfl, hne⟩

/-- **success leaves nothing out**: when the loop succeeds no non-predefined item is unresolved -/
theorem success_resolves_everything (prio : List Path) (fuel : Nat) (s s' : State)
    (h : resolveLoop prio fuel s = .ok s') : s'.reg.unresolved prio = [] := by
  refine resolveLoop_rounds (P := fun _ _ o => o = .ok s' → s'.reg.unresolved prio = [])
    (fun _ => nofun) ?_ (fun _ _ _ _ _ _ _ => nofun) (fun _ _ _ _ _ _ _ ih => ih) (fun _ _ _ _ _ => nofun)
    (fun _ _ _ _ _ => nofun) (fun _ _ _ _ => nofun) fuel s h
  intro n s he e
  cases e
  exact he

/-- **by-value dependencies decide**: the size of a type expression is known only when all the
    items it embeds by value are resolved – pointers contribute nothing (the converse needs the
    product to fit in a `usize`) -/
theorem size_known_iff (r : Registry) (t : DTy) :
    (∃ s, t.size r = .ok (some s)) → ∀ p ∈ byValue t, ∃ i, r.get p = some i ∧ i.isResolved = true := by
  intro ⟨s, h⟩
  refine DTy.size_induct (P := fun t _ => ∀ p ∈ byValue t, ∃ i, r.get p = some i ∧ i.isResolved = true)
    ?_ ?_ ?_ ?_ h
  · intro q i res hg hs p hp
    rw [List.mem_singleton.mp hp]
    exact ⟨i, hg, C02.isResolved_of_res hs⟩
  · intro t p hp; cases hp
  · intro t p hp; cases hp
  · intro t n s _ _ ih; exact ih

theorem size_unknown_defers (r : Registry) (t : DTy) (p : Path) (hp : p ∈ byValue t)
    (hu : ∀ i, r.get p = some i → i.isResolved = false) : t.size r = .ok none := by
  induction t with
  | raw q =>
    simp only [byValue, List.mem_singleton] at hp
    subst hp
    simp only [DTy.size, Res.ok.injEq]
    cases hg : r.get p with
    | none => rfl
    | some i =>
      have := hu i hg
      simp only [ItemDef.isResolved, Option.isSome_eq_false_iff, Option.isNone_iff_eq_none] at this
      simp [this]
  | cptr t _ => simp [byValue] at hp
  | mptr t _ => simp [byValue] at hp
  | arr t n ih =>
    simp only [byValue] at hp
    simp only [DTy.size, ih hp]

/-- an undefined name in a field defers the type (it is retried, and finally reported), it never
    produces a type with the field dropped -/
theorem unknown_field_name_defers (s : State) (path : Path) (vis : Vis) (d : G.TypeDef) (m : Mod)
    (hm : s.moduleFor path = some m) (st : G.Stmt) (hst : st ∈ d.stmts)
    (v : Vis) (n : String) (t : G.Ty) (hf : st.field = .field v n t)
    (hu : s.reg.resolveTy m.scope t = .defer) :
    ∀ r, (buildType s path vis d).2 ≠ .ok r := by
  intro r
  unfold buildType
  simp only [hm]
  split
  · simp
  · split
    · split
      · next sa hsa =>
        obtain ⟨dt, hdt, _⟩ := stmts_fold_covers s.reg m.scope d.stmts sa hsa st hst v n t hf
        rw [hu] at hdt
        cases hdt
      · exact Res.cast_ne_ok _ _
    · exact Res.cast_ne_ok _ _

/-- an undefined enum base defers the enum -/
theorem unknown_enum_base_defers (s : State) (path : Path) (d : G.EnumDef) (m : Mod)
    (hm : s.moduleFor path = some m) (hu : s.reg.resolveTy m.scope d.ty = .defer) :
    buildEnum s path d = .defer := by
  unfold buildEnum
  simp only [hm, hu]
  rfl

/- REFUTED: an *earlier* extern value whose type is an `unknown<N>` makes `padding_type` panic when
   `u8` is not registered, and `collect` stops at that element.  Counterexample (checked below as
   `unknown_extern_value_type_rejected_refuted`): `reg := { types := [], ps := 8 }`,
   `m.xvals := [a : unknown<1>, b : nope]`, `x := b`; then `resolveXVals reg m = .panic "padding_type: u8 missing"`,
   which is not `.err msg`.

/-- an undefined name in an extern value is an error of the build -/
theorem unknown_extern_value_type_rejected (reg : Registry) (m : Mod) (x : XValue) (hx : x ∈ m.xvals)
    (hu : reg.resolveTy m.scope x.gty = .defer) : ∃ msg, resolveXVals reg m = .err msg
  (no proof: the statement is false, see `unknown_extern_value_type_rejected_refuted`)
-/

/-- the counterexample to the unrestricted statement -/
theorem unknown_extern_value_type_rejected_refuted :
    ¬ ∀ (reg : Registry) (m : Mod) (x : XValue), x ∈ m.xvals → reg.resolveTy m.scope x.gty = .defer →
      ∃ msg, resolveXVals reg m = .err msg := by
  intro h
  obtain ⟨msg, hmsg⟩ := h { types := [], ps := 8 }
    { xvals := [⟨.pub, "a", .unk 1, none, 0⟩, ⟨.pub, "b", .ident "nope", none, 0⟩] }
    ⟨.pub, "b", .ident "nope", none, 0⟩ (by simp) rfl
  have : resolveXVals { types := [], ps := 8 }
      { xvals := [⟨.pub, "a", .unk 1, none, 0⟩, ⟨.pub, "b", .ident "nope", none, 0⟩] }
      = .panic "padding_type: u8 missing" := rfl
  rw [this] at hmsg
  cases hmsg

/-- an undefined name in an extern value: the build does not succeed (it is an error, or the panic of an
    earlier extern value) -/
theorem unknown_extern_value_type_rejected_partial (reg : Registry) (m : Mod) (x : XValue) (hx : x ∈ m.xvals)
    (hu : reg.resolveTy m.scope x.gty = .defer) : (resolveXVals reg m).isOk = false := by
  rw [resolveXVals_eq]
  split
  · next xvals h =>
    obtain ⟨y, hy⟩ := mapM'_ok_all _ _ _ h x hx
    simp [xvStep, hu] at hy
  · generalize Res.mapM' (xvStep reg m) m.xvals = e
    cases e <;> rfl

/-- … and it is an error with a message whenever no extern value of the module makes `padding_type` panic -/
theorem unknown_extern_value_type_rejected_partial_err (reg : Registry) (m : Mod) (x : XValue) (hx : x ∈ m.xvals)
    (hu : reg.resolveTy m.scope x.gty = .defer)
    (hnp : ∀ y ∈ m.xvals, ∀ site, reg.resolveTy m.scope y.gty ≠ .panic site) :
    ∃ msg, resolveXVals reg m = .err msg := by
  rw [resolveXVals_eq]
  obtain ⟨msg, hmsg⟩ := mapM'_err (xvStep reg m) m.xvals (by
    intro y hy
    unfold xvStep
    cases hr : reg.resolveTy m.scope y.gty with
    | ok t => exact Or.inl ⟨_, rfl⟩
    | defer => exact Or.inr ⟨_, rfl⟩
    | err e => exact Or.inr ⟨e, rfl⟩
    | panic site => exact absurd hr (hnp y hy site)) x hx
    ⟨"failed to resolve type for extern value", by simp [xvStep, hu]⟩
  rw [hmsg]
  exact ⟨msg, rfl⟩

end PyxisVerif.C10
