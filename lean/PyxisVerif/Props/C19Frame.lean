import PyxisVerif.Props.C19FrameVft
import PyxisVerif.Props.C09Case
/-!
# C19, end to end, for descriptions without vftable blocks: the frame theorem

The frame theorem of `Props/C19FrameVft.lean` – adding an unrelated module to the input set leaves the file of every old
module byte-identical, when both input sets are accepted – for descriptions without `vftable` blocks (`CaseNoVft`).
Such a case generates no `<T>Vftable` item, so nothing in it can mention one (`caseNoGenRefs_of_noVft`), and every
theorem here is the one there with that hypothesis discharged.  What `Unrelated` and `UnrelatedTight` have to ask is
said there; here follow a concrete pair of cases that satisfies every hypothesis (`Example`), and a kernel-checked
witness that the clause of `Unrelated` on module paths cannot be dropped (`Refute`).
-/
namespace PyxisVerif.C19
open C09 Mono

theorem modGenPaths_of_noVft {m : G.Module} (h : ModNoVft m) (path : Path) : modGenPaths path m = [] := by
  unfold modGenPaths
  rw [List.filterMap_eq_nil_iff]
  intro d hd
  have hn := h d hd
  unfold DefNoVft at hn
  cases hin : d.inner with
  | enum ed => rfl
  | type td =>
    rw [hin] at hn
    have hb : hasVftBlock td = false := by
      unfold hasVftBlock
      rw [List.any_eq_false]
      intro st hst
      have := hn st hst
      cases hf : st.field with
      | vftable fns => rw [hf] at this; exact this.elim
      | field vis n ty => simp
    simp only [hb]
    rfl

theorem caseGenPaths_of_noVft {c : Case} (h : CaseNoVft c) : caseGenPaths c = [] := by
  unfold caseGenPaths
  rw [List.flatMap_eq_nil_iff]
  intro me hme
  have := h me hme
  cases me with
  | ast path file m => exact modGenPaths_of_noVft this path
  | text f t => rfl

/-- a case without `vftable` blocks has no generated path, so the conditions on the generated paths are void -/
theorem caseNoGenRefs_of_noVft {c : Case} (h : CaseNoVft c) : CaseNoGenRefs c := by
  have hg := caseGenPaths_of_noVft h
  refine ⟨?_, ?_⟩
  · intro q hq
    rw [hg] at hq
    cases hq
  · intro me _
    rw [hg]
    cases me with
    | ast path file m =>
      exact ⟨List.not_mem_nil, fun _ _ => List.not_mem_nil, fun _ _ _ _ => List.not_mem_nil,
        fun _ _ _ _ _ _ => List.not_mem_nil⟩
    | text f t => trivial

/-- **frame, per module** (exact condition): the file of every module path other than `path` is the same in both
    final states; for the modules of `c` there is such a file -/
theorem added_module_frame_tight (c : Case) (path : Path) (file : String) (m : G.Module)
    (hps : c.ps = 4 ∨ c.ps = 8)
    (hb : C12.CaseBounded (c.withModule (.ast path file m))) (hv : CaseNoVft (c.withModule (.ast path file m)))
    (hu : UnrelatedTight c path)
    (s s' : State) (h : c.run = .ok s) (h' : (c.withModule (.ast path file m)).run = .ok s') :
    (∀ key, key ≠ path → fileOf s' key = fileOf s key) ∧
    (∀ mp f0 m0, ModEnt.ast mp f0 m0 ∈ c.modules → mp ≠ path ∧ (fileOf s mp).isSome = true) :=
  added_module_frame_tight_vft c path file m hps hb (caseNoGenRefs_of_noVft hv) hu s s' h h'

/-- **frame**: when both input sets are accepted, every old module's emitted file is the same (and there is one) -/
theorem added_module_frame (c : Case) (path : Path) (file : String) (m : G.Module)
    (hps : c.ps = 4 ∨ c.ps = 8)
    (hb : C12.CaseBounded (c.withModule (.ast path file m))) (hv : CaseNoVft (c.withModule (.ast path file m)))
    (hu : Unrelated c path)
    (s s' : State) (h : c.run = .ok s) (h' : (c.withModule (.ast path file m)).run = .ok s') :
    ∀ me ∈ c.modules, ∀ mp f0 m0, me = ModEnt.ast mp f0 m0 →
      fileOf s' mp = fileOf s mp ∧ (fileOf s mp).isSome = true :=
  added_module_frame_vft c path file m hps hb (caseNoGenRefs_of_noVft hv) hu s s' h h'

/-- **frame, file lists**: every file of `c` is a file of the bigger case, every file of the bigger case is a file of
    `c` or the file of the new module -/
theorem added_module_files (c : Case) (path : Path) (file : String) (m : G.Module)
    (hps : c.ps = 4 ∨ c.ps = 8)
    (hb : C12.CaseBounded (c.withModule (.ast path file m))) (hv : CaseNoVft (c.withModule (.ast path file m)))
    (hu : Unrelated c path) (hne : c.modules ≠ [])
    (s s' : State) (h : c.run = .ok s) (h' : (c.withModule (.ast path file m)).run = .ok s') :
    (∀ f ∈ Emit.files s, f ∈ Emit.files s') ∧
    (∀ f ∈ Emit.files s', f ∈ Emit.files s ∨ some f = fileOf s' path) ∧
    (Emit.files s').length = (Emit.files s).length + 1 :=
  added_module_files_vft c path file m hps hb (caseNoGenRefs_of_noVft hv) hu hne s s' h h'

/-- … and so for the observation O3: both are file lists, the bigger one is the smaller one plus one file -/
theorem added_module_o3 (c : Case) (path : Path) (file : String) (m : G.Module)
    (hps : c.ps = 4 ∨ c.ps = 8)
    (hb : C12.CaseBounded (c.withModule (.ast path file m))) (hv : CaseNoVft (c.withModule (.ast path file m)))
    (hu : Unrelated c path) (hne : c.modules ≠ [])
    (s s' : State) (h : c.run = .ok s) (h' : (c.withModule (.ast path file m)).run = .ok s') :
    ∃ fs fs' f, c.o3 = Sexp.mk "files" fs ∧ (c.withModule (.ast path file m)).o3 = Sexp.mk "files" fs' ∧
      fs'.Perm (f :: fs) :=
  added_module_o3_vft c path file m hps hb (caseNoGenRefs_of_noVft hv) hu hne s s' h h'

/-- … and for the resolved registry (O2's items): every item of the smaller final registry is in the bigger one,
    unchanged -/
theorem added_module_registry (c : Case) (path : Path) (file : String) (m : G.Module)
    (hps : c.ps = 4 ∨ c.ps = 8)
    (hb : C12.CaseBounded (c.withModule (.ast path file m))) (hv : CaseNoVft (c.withModule (.ast path file m)))
    (hu : Unrelated c path) (hne : c.modules ≠ [])
    (s s' : State) (h : c.run = .ok s) (h' : (c.withModule (.ast path file m)).run = .ok s') :
    (∀ q i, s.reg.get q = some i → s'.reg.get q = some i) ∧
    (∀ q, s'.reg.contains q = true → s.reg.contains q = true ∨ ∃ x, q = path ++ [x]) :=
  added_module_registry_vft c path file m hps hb (caseNoGenRefs_of_noVft hv) hu hne s s' h h'


/-! ## non-vacuity: a concrete pair of cases that satisfies every hypothesis, both accepted

The smaller case is the one of `C09.Example` (pointer width 8, modules `a` and `b` whose types reference each other
across modules), the added module is

```text
// z.pyxis
use a::A;
pub type Z { pub a: A, pub n: u64 }
```

It *does* depend on the old modules (it embeds `a::A` by value, which in turn needs `a::Kind`); nothing of `a` or
`b` mentions `z`.  The priority is `[z::Z, b::B, a::A]`, the worst one: the build of the bigger case takes three
rounds (`Kind`; `A`; `Z` and `B`) and a fourth to see that nothing is left.  As in `C09.Example` the run is
evaluated by the kernel in the form `C09.runK` (`Lemmas/KernelRun.lean`). -/
namespace Example

def modZ : G.Module :=
  { uses := [["a", "A"]],
    defs := [
      { vis := .pub, name := "Z",
        inner := .type { stmts := [{ field := .field .pub "a" (.ident "A"), attrs := [] },
                                   { field := .field .pub "n" (.ident "u64"), attrs := [] }],
                         attrs := [] } }] }

/-- the case of `C09.Example`, with a priority list that also names the item of the module to be added -/
def small : Case := { C09.Example.case with prio := [["z", "Z"], ["b", "B"], ["a", "A"]] }

def big : Case := small.withModule (.ast ["z"] "z.pyxis" modZ)

theorem modZ_bounded : C12.ModuleBounded modZ := by
  refine ⟨?_, ?_⟩
  · intro d hd
    simp only [modZ, List.mem_cons, List.not_mem_nil, or_false] at hd
    subst hd
    intro n args z ha; cases ha
  · intro xt hx; cases hx

theorem modZ_noVft : ModNoVft modZ := by
  intro d hd
  simp only [modZ, List.mem_cons, List.not_mem_nil, or_false] at hd
  subst hd
  intro st hst
  simp only [List.mem_cons, List.not_mem_nil, or_false] at hst
  rcases hst with rfl | rfl <;> trivial

theorem big_bounded : C12.CaseBounded big := by
  intro path file m hm
  simp only [big, small, Case.withModule, C09.Example.case, List.cons_append, List.nil_append, List.mem_cons,
    List.not_mem_nil, or_false, ModEnt.ast.injEq] at hm
  rcases hm with ⟨_, _, rfl⟩ | ⟨_, _, rfl⟩ | ⟨_, _, rfl⟩
  · exact C09.Example.modA_bounded
  · exact C09.Example.modB_bounded
  · exact modZ_bounded

theorem big_noVft : CaseNoVft big := by
  intro me hme
  simp only [big, small, Case.withModule, C09.Example.case, List.cons_append, List.nil_append, List.mem_cons,
    List.not_mem_nil, or_false] at hme
  rcases hme with rfl | rfl | rfl
  · exact C09.Example.modA_noVft
  · exact C09.Example.modB_noVft
  · exact modZ_noVft

theorem unrelated : Unrelated small ["z"] := by
  intro me hme
  simp only [small, C09.Example.case, List.mem_cons, List.not_mem_nil, or_false] at hme
  rcases hme with rfl | rfl
  · refine ⟨not_prefix_of_head (by decide) _ _, ?_⟩
    intro u hu
    simp only [C09.Example.modA, List.mem_cons, List.not_mem_nil, or_false] at hu
    subst hu
    exact not_prefix_of_head (by decide) _ _
  · refine ⟨not_prefix_of_head (by decide) _ _, ?_⟩
    intro u hu
    simp only [C09.Example.modB, List.mem_cons, List.not_mem_nil, or_false] at hu
    subst hu
    exact not_prefix_of_head (by decide) _ _

/-- the smaller case is accepted (`C09.Example`, under another priority) -/
theorem small_ok : isOkB small.run = true := (C09.Example.any_prio _).1

/-- the state after `add_module` of the three modules … -/
def t0 : State := C12.stateOf big.initialState
/-- … after round 1 (`Z`, `B` and `A` deferred, `Kind` resolved) … -/
def t1 : State := (runRound t0 [["z", "Z"], ["b", "B"], ["a", "A"], ["a", "Kind"]]).1
/-- … after round 2 (`Z` and `B` deferred, `A` resolved) … -/
def t2 : State := (runRound t1 [["z", "Z"], ["b", "B"], ["a", "A"]]).1
/-- … and after round 3 (`Z` and `B` resolved) -/
def t3 : State := (runRound t2 [["z", "Z"], ["b", "B"]]).1

/-- the finite facts about the bigger case, proved by ONE evaluation, which runs the rounds once for all of them: it
    is accepted, its final registry is `t3.reg`, and there the new item has size 24 -/
theorem big_facts : isOkB (runK big) = true ∧ (okState (runK big)).reg = t3.reg ∧
    (t3.reg.get ["z", "Z"]).bind (fun i => i.resolved?.map (·.size)) = some 24 := by decide +kernel

theorem big_ok : isOkB big.run = true := by
  rw [run_eq_okState (c := big) big_facts.1]; rfl

/-- the new item is resolved in the bigger final registry, with size 24: it needs `a::A` (16) from an old module -/
example : (t3.reg.get ["z", "Z"]).bind (fun i => i.resolved?.map (·.size)) = some 24 := big_facts.2.2

/-- the theorems apply: the files of `a` and `b` exist and are the same in both final states, the bigger case emits
    exactly one file more, and every item of the smaller final registry is in the bigger one unchanged -/
theorem frame_applies :
    ∃ s s', small.run = .ok s ∧ big.run = .ok s' ∧
      (fileOf s' ["a"] = fileOf s ["a"] ∧ (fileOf s ["a"]).isSome = true) ∧
      (fileOf s' ["b"] = fileOf s ["b"] ∧ (fileOf s ["b"]).isSome = true) ∧
      (∀ f ∈ Emit.files s, f ∈ Emit.files s') ∧ (Emit.files s').length = (Emit.files s).length + 1 ∧
      (∀ q i, s.reg.get q = some i → s'.reg.get q = some i) := by
  obtain ⟨s, hs⟩ := (isOkB_iff _).mp small_ok
  obtain ⟨s', hs'⟩ := (isOkB_iff _).mp big_ok
  have hne : small.modules ≠ [] := by simp [small, C09.Example.case]
  have hf := added_module_frame small ["z"] "z.pyxis" modZ (Or.inr rfl) big_bounded big_noVft unrelated s s' hs hs'
  have hl := added_module_files small ["z"] "z.pyxis" modZ (Or.inr rfl) big_bounded big_noVft unrelated hne s s' hs hs'
  have hr := added_module_registry small ["z"] "z.pyxis" modZ (Or.inr rfl) big_bounded big_noVft unrelated hne s s' hs hs'
  refine ⟨s, s', hs, hs', ?_, ?_, hl.1, hl.2.2, hr.1⟩
  · exact hf _ (by simp [small, C09.Example.case]) ["a"] "a.pyxis" C09.Example.modA rfl
  · exact hf _ (by simp [small, C09.Example.case]) ["b"] "b.pyxis" C09.Example.modB rfl

end Example


/-! ## the additional condition is needed: a kernel-checked witness

`UnrelatedWeak` is the condition without the clause on module paths: `path` is not the path of an old module, and
no `use` of an old module has it as a prefix.  Under it the frame property is FALSE.  The old case has the one
module `a::b`:

```text
// a/b.pyxis
pub type b { pub x: u32 }
pub type U { pub t: b }
```

and the added module `a` defines a type of the name of that module:

```text
// a.pyxis
pub type b { pub x: u64, pub y: u64 }
```

Alone, the field `t` of `a::b::U` is looked up as `b` in the scope `[a::b]`, where `a::b` is a module: it binds to
`a::b::b` (4 bytes).  With the module `a`, the scope member `a::b` is a registry key, hence a *type* import of the
name `b`: the same field binds to the new `a::b` (16 bytes).  Both cases are accepted, the module `a::b` has no
`use` at all and its path is not `a`, yet its item `a::b::U` – and so its file – changes.  The statement refuted
is the registry part of the frame property (`added_module_registry`), which the kernel can evaluate
(`Emit.moduleFile` sorts with `List.mergeSort`, which does not reduce in the kernel). -/
namespace Refute

def UnrelatedWeak (c : Case) (path : Path) : Prop :=
  ∀ me ∈ c.modules, match me with
    | .ast mp _ m => mp ≠ path ∧ ∀ u ∈ m.uses, ¬ path <+: u
    | .text .. => False

def modAB : G.Module :=
  { defs := [
      { vis := .pub, name := "b",
        inner := .type { stmts := [{ field := .field .pub "x" (.ident "u32"), attrs := [] }], attrs := [] } },
      { vis := .pub, name := "U",
        inner := .type { stmts := [{ field := .field .pub "t" (.ident "b"), attrs := [] }], attrs := [] } }] }

def modA : G.Module :=
  { defs := [
      { vis := .pub, name := "b",
        inner := .type { stmts := [{ field := .field .pub "x" (.ident "u64"), attrs := [] },
                                   { field := .field .pub "y" (.ident "u64"), attrs := [] }], attrs := [] } }] }

def small : Case :=
  { id := "c19-weak", ps := 8, prio := [], modules := [.ast ["a", "b"] "a/b.pyxis" modAB], extras := [] }

def big : Case := small.withModule (.ast ["a"] "a.pyxis" modA)

theorem big_bounded : C12.CaseBounded big := by
  intro path file m hm
  simp only [big, small, Case.withModule, List.cons_append, List.nil_append, List.mem_cons,
    List.not_mem_nil, or_false, ModEnt.ast.injEq] at hm
  rcases hm with ⟨_, _, rfl⟩ | ⟨_, _, rfl⟩
  · refine ⟨?_, fun xt hx => by cases hx⟩
    intro d hd
    simp only [modAB, List.mem_cons, List.not_mem_nil, or_false] at hd
    rcases hd with rfl | rfl <;> (intro n args z ha; cases ha)
  · refine ⟨?_, fun xt hx => by cases hx⟩
    intro d hd
    simp only [modA, List.mem_cons, List.not_mem_nil, or_false] at hd
    subst hd
    intro n args z ha; cases ha

theorem big_noVft : CaseNoVft big := by
  intro me hme
  simp only [big, small, Case.withModule, List.cons_append, List.nil_append, List.mem_cons,
    List.not_mem_nil, or_false] at hme
  rcases hme with rfl | rfl
  · intro d hd
    simp only [modAB, List.mem_cons, List.not_mem_nil, or_false] at hd
    rcases hd with rfl | rfl
    · intro st hst
      simp only [List.mem_cons, List.not_mem_nil, or_false] at hst
      subst hst; trivial
    · intro st hst
      simp only [List.mem_cons, List.not_mem_nil, or_false] at hst
      subst hst; trivial
  · intro d hd
    simp only [modA, List.mem_cons, List.not_mem_nil, or_false] at hd
    subst hd
    intro st hst
    simp only [List.mem_cons, List.not_mem_nil, or_false] at hst
    rcases hst with rfl | rfl <;> trivial

theorem unrelatedWeak : UnrelatedWeak small ["a"] := by
  intro me hme
  simp only [small, List.mem_cons, List.not_mem_nil, or_false] at hme
  subst hme
  exact ⟨by decide, fun u hu => by cases hu⟩

/-! the smaller case: two rounds (`U` deferred, `b` resolved; `U` resolved) -/

def s0 : State := C12.stateOf small.initialState
def s1 : State := (runRound s0 [["a", "b", "U"], ["a", "b", "b"]]).1
def s2 : State := (runRound s1 [["a", "b", "U"]]).1

/-! the bigger case: one round (`a::b`, then `U` – which binds `b` to the type `a::b` –, then `a::b::b`) -/

def t0 : State := C12.stateOf big.initialState
def t1 : State := (runRound t0 [["a", "b"], ["a", "b", "U"], ["a", "b", "b"]]).1

def entryU : ItemDef := match s2.reg.get ["a", "b", "U"] with | some i => i | none => default

/-- the finite facts about the two runs, proved by ONE evaluation, which runs the rounds of each case once for all of
    them: both cases are accepted, with the registries `s2.reg` and `t1.reg`, and the entry of `a::b::U` in `s2.reg`
    is not its entry in `t1.reg` -/
theorem run_facts :
    isOkB (runK small) = true ∧ (okState (runK small)).reg = s2.reg ∧
    isOkB (runK big) = true ∧ (okState (runK big)).reg = t1.reg ∧
    s2.reg.get ["a", "b", "U"] = some entryU ∧ t1.reg.get ["a", "b", "U"] ≠ some entryU ∧
    ((s2.reg.get ["a", "b", "U"]).bind (fun i => i.resolved?.map (·.size)) = some 4 ∧
      (t1.reg.get ["a", "b", "U"]).bind (fun i => i.resolved?.map (·.size)) = some 16) := by decide +kernel

/-- alone, `a::b::U` is 4 bytes; with the module `a` it is 16 bytes -/
example : (s2.reg.get ["a", "b", "U"]).bind (fun i => i.resolved?.map (·.size)) = some 4 ∧
    (t1.reg.get ["a", "b", "U"]).bind (fun i => i.resolved?.map (·.size)) = some 16 := run_facts.2.2.2.2.2.2

/-- **REFUTED**: the frame property under the condition without the clause on module paths -/
theorem added_module_registry_weak_refuted :
    ¬ ∀ (c : Case) (path : Path) (file : String) (m : G.Module), (c.ps = 4 ∨ c.ps = 8) →
      C12.CaseBounded (c.withModule (.ast path file m)) → CaseNoVft (c.withModule (.ast path file m)) →
      UnrelatedWeak c path →
      ∀ s s', c.run = .ok s → (c.withModule (.ast path file m)).run = .ok s' →
        ∀ q i, s.reg.get q = some i → s'.reg.get q = some i := by
  intro H
  obtain ⟨hs, es, hb, eb, hU, hU', -⟩ := run_facts
  have h := H small ["a"] "a.pyxis" modA (Or.inr rfl) big_bounded big_noVft unrelatedWeak _ _
    (run_eq_okState hs) (run_eq_okState (c := big) hb) ["a", "b", "U"] entryU (by rw [es]; exact hU)
  rw [eb] at h
  exact hU' h

end Refute

end PyxisVerif.C19
