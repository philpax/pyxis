import PyxisVerif.Lemmas.LexTrivia
/-!
# C18 – parsing is the inverse of printing

Property theorems only; helper lemmas live in `Lemmas/Parser.lean` (token level) and
`Lemmas/Lexer.lean`, `Lemmas/LexRender.lean`, `Lemmas/LexTrivia.lean` (character level).

`Parse.parseStr` is the model of `parser::parse_str` (`Model/Lexer.lean`: the `proc_macro2`
fallback lexer and `syn`'s literal decoding; `Model/Parser.lean`: `src/parser/mod.rs` node for
node); `Print.printModule` / `Print.printText` write a module as tokens / as text.
-/
namespace PyxisVerif.C18
open Lex (K Tok Pos)
open Print (Base)

/-- **Well-formed modules**: the modules "of the language", i.e. the abstract modules that some
    concrete text denotes.  `WF m` is `wfB m = true` (`Lemmas/Parser.lean`), decidable.  Required:

* every identifier is a plain ASCII identifier (`[A-Za-z_][A-Za-z0-9_]*`) that is not one of
  `syn`'s strict or reserved keywords; names read by pyxis's own `Ident::parse` (attribute,
  function, field, enum-variant, definition, impl, extern-value and backend names) may also be
  `_`; names read through `peek(syn::Ident)` (type names, path segments, extern-type names,
  argument names, identifier expressions) may not;
* contextual words are excluded exactly where the grammar reads them differently: a type may not
  be named `unknown` (it would start `unknown<N>`), a *private* field may not be named `vftable`
  (it would start a vftable block; `pub vftable: T` is a field and is allowed); `backend`, `use`,
  `prologue`, … need no exclusion at the positions where names occur;
* type names are single identifiers: a name such as `Shared<Ptr>` that `parse_type_ident`
  glues together from several tokens is not in the fragment (it is a token *sequence*, not an
  identifier; the executable printer still writes it and the parser reads it back);
* array lengths and `unknown` sizes are `< 2^64` (`usize`), integer expressions are within
  `[-2^63, 2^63)` (`isize`);
* backend prologue / epilogue texts are already trimmed (`str::trim`, Unicode `White_Space`),
  because the parser trims them;
* doc comments are ordinary `.assign "doc" (.str s)` attributes; strings are arbitrary.

Not required: any relation between the parts (duplicate names, missing types, … are all
well-formed *syntax*). -/
def WF (m : G.Module) : Prop := wfB m = true

instance (m : G.Module) : Decidable (WF m) := inferInstanceAs (Decidable (wfB m = true))

/-- a module that exercises every node of the grammar -/
def exampleModule : G.Module :=
  { attrs := [.assign "doc" (.str " module doc")]
    uses := [["game", "math", "Vec3"]]
    xtypes := [("Handle", [.fn "size" [.int 8]])]
    xvals := [{ vis := .pub, name := "g_world", ty := .mptr (.ident "World"),
                attrs := [.fn "address" [.int 0x1234]] }]
    defs := [
      { vis := .pub, name := "World", inner := .type {
          attrs := [.fn "size" [.int 0x40], .ident "copyable"],
          stmts := [
            { field := .vftable [{ vis := .pub, name := "update",
                                   attrs := [.assign "doc" (.str " tick \"now\"\n")],
                                   args := [.mutSelf, .named "dt" (.ident "f32")],
                                   ret := some (.cptr (.ident "u8")) }],
              attrs := [] },
            { field := .field .priv "_" (.unk 4), attrs := [] },
            { field := .field .pub "cells" (.arr (.arr (.ident "u8") 4) 2),
              attrs := [.fn "address" [.int 0x10]] }] } },
      { vis := .priv, name := "Mode", inner := .enum {
          ty := .ident "u32", attrs := [],
          stmts := [{ name := "A", expr := some (.int (-5)), attrs := [] },
                    { name := "B", expr := none, attrs := [.ident "default"] }] } },
      -- a type without statements: written `type Opaque;` / `type Opaque { }`
      { vis := .priv, name := "Opaque", inner := .type {
          attrs := [.fn "size" [.int 4]], stmts := [] } }]
    impls := [{ name := "World", attrs := [], fns := [
      { vis := .pub, name := "get", attrs := [.fn "address" [.int 0x500]], args := [.constSelf],
        ret := none }] }]
    backends := [{ name := "rust", prologue := some "use std::ffi;", epilogue := none }] }

theorem exampleModule_wf : WF exampleModule := by decide +kernel

example : WF exampleModule := exampleModule_wf

/-- **C18, token level.**  The tokens written for a well-formed module parse back to exactly
    that module – whichever positions the tokens carry, and whichever optional spelling is
    written (`tr`): the `,`/`;` terminated lists with or without their trailing separator, a type
    definition without statements as `type T;` or as `type T { }`. -/
theorem parse_print_tokens_any (tr : Bool) (m : G.Module) (h : WF m) (ts : List Tok)
    (hts : ts.map (·.k) = Print.printK tr m) : Parse.parseModule ts = .ok m := by
  simp only [Parse.parseModule, hts, parseK_printK tr m h]

theorem parseStr_of_lex (tr : Bool) (m : G.Module) (h : WF m) (s : String)
    (hl : ∃ ts, Lex.lex s = .ok ts ∧ ts.map (·.k) = Print.printK tr m) :
    Parse.parseStr s = .ok m := by
  obtain ⟨ts, h1, h2⟩ := hl
  simp only [Parse.parseStr, h1]
  exact parse_print_tokens_any tr m h ts h2

/-- **C18, token level**, for the tokens `Print.printModule` writes -/
theorem parse_print_tokens (m : G.Module) (h : WF m) :
    Parse.parseModule (Print.printModule m) = .ok m :=
  parse_print_tokens_any true m h _ (by simp [Print.printModule, Function.comp_def])

example : Parse.parseModule (Print.printModule exampleModule) = .ok exampleModule :=
  parse_print_tokens exampleModule exampleModule_wf

/-- **C18, the body-less spelling `type Name;`.**  A type definition without statements has a
    second spelling, `type Name;` (`parse_type_definition` peeks `Token![;]` before it looks for
    the braces).  `Print.printK true` writes it (`Print.pTypeBody`), `Print.printK false` writes
    `type Name { }`, so `parse_print_tokens_any` covers both; this is the `;` spelling made
    explicit: the tokens `#[a₁] … #[aₙ] [pub] type Name ;` of a well-formed item parse to exactly
    that item – its attributes and its visibility included, no statements. -/
theorem parse_type_semi (i : G.Item) (d : G.TypeDef) (hi : i.inner = .type d) (hd : d.stmts = [])
    (h : WF { defs := [i] }) (ts : List Tok)
    (hts : ts.map (·.k) = Print.pAttrs false true d.attrs ++ Print.pVis i.vis ++
      [.ident "type", .ident i.name, .punct ';' false]) :
    Parse.parseModule ts = .ok { defs := [i] } := by
  apply parse_print_tokens_any true _ h ts
  obtain ⟨vis, name, inner⟩ := i
  obtain ⟨stmts, attrs⟩ := d
  subst hi hd
  simpa [Print.printK, Print.pItemDef, Print.pTypeBody, Print.pAttrs] using hts

/-- `#[size(8)] #[doc = " opaque"] pub type Handle;` -/
def semiItem : G.Item :=
  { vis := .pub, name := "Handle",
    inner := .type { stmts := [], attrs := [.fn "size" [.int 8], .assign "doc" (.str " opaque")] } }

theorem semiModule_wf : WF { defs := [semiItem] } := by decide +kernel

example : Parse.parseModule
    ([.punct '#' false, .op .bracket, .ident "size", .op .paren, .int 8, .punct ',' false, .cl .paren,
      .cl .bracket, .punct '#' false, .op .bracket, .ident "doc", .punct '=' false, .str " opaque",
      .cl .bracket, .ident "pub", .ident "type", .ident "Handle", .punct ';' false].map
        fun k => ⟨k, (0, 0)⟩) = .ok { defs := [semiItem] } :=
  parse_type_semi semiItem _ rfl rfl semiModule_wf _ (by decide +kernel)

/-- the printer does write this spelling, and the other one without the optional spellings -/
example : Print.printK true { defs := [semiItem] } =
    [.punct '#' false, .op .bracket, .ident "size", .op .paren, .int 8, .punct ',' false, .cl .paren,
      .cl .bracket, .punct '#' false, .op .bracket, .ident "doc", .punct '=' false, .str " opaque",
      .cl .bracket, .ident "pub", .ident "type", .ident "Handle", .punct ';' false] := by decide +kernel

example : Print.printK false { defs := [semiItem] } =
    [.punct '#' false, .op .bracket, .ident "size", .op .paren, .int 8, .cl .paren,
      .cl .bracket, .punct '#' false, .op .bracket, .ident "doc", .punct '=' false, .str " opaque",
      .cl .bracket, .ident "pub", .ident "type", .ident "Handle", .op .brace, .cl .brace] := by decide +kernel

/-- equality of parse results, switched on around the two examples that run `parseStr` on a
    literal: with it the kernel alone evaluates them (`rfl` would run the parser in the elaborator
    first) -/
@[instance_reducible] def decEqResult : DecidableEq (Except Pos G.Module)
  | .ok a, .ok b => decidable_of_iff (a = b) (by simp)
  | .error a, .error b => decidable_of_iff (a = b) (by simp)
  | .ok _, .error _ => isFalse (by simp)
  | .error _, .ok _ => isFalse (by simp)

section
attribute [local instance] decEqResult

example : Parse.parseStr "#[size(8)] /// opaque\npub type Handle;" = .ok { defs := [semiItem] } := by decide +kernel

end

/-- **C18, character level (canonical trivia).**  The text written for a well-formed module –
    every token spelled canonically (decimal integers, cooked strings with escapes, doc
    comments as `#[doc = "…"]`), one blank after every token except between the two characters
    of `::` and `->` – lexes to exactly the printed tokens (up to positions).
    This is `lex_render` for one choice of trivia; the general statement is `lex_render`
    below. -/
theorem lex_render_partial (tr : Bool) (m : G.Module) (h : WF m) :
    ∃ ts, Lex.lex (String.ofList (Print.renderCanon (Print.printK tr m))) = .ok ts ∧
      ts.map (·.k) = Print.printK tr m := by
  simp only [Lex.lex, String.toList_ofList]
  exact lexL_render _ (chk_printK tr m h)

/-- **C18.**  Parsing is the inverse of printing: the text written for a well-formed module
    parses back to exactly that module. -/
theorem parse_print (m : G.Module) (h : WF m) : Parse.parseStr (Print.printText m) = .ok m :=
  parseStr_of_lex true m h _ (lex_render_partial true m h)

/-- the same without trailing separators in the `,`/`;` lists -/
theorem parse_print_no_trailing (m : G.Module) (h : WF m) :
    Parse.parseStr (String.ofList (Print.renderCanon (Print.printK false m))) = .ok m :=
  parseStr_of_lex false m h _ (lex_render_partial false m h)

example : Parse.parseStr (Print.printText exampleModule) = .ok exampleModule :=
  parse_print exampleModule exampleModule_wf

/-- … in particular the text `… type Handle ;` -/
example : Parse.parseStr (Print.printText { defs := [semiItem] }) = .ok { defs := [semiItem] } :=
  parse_print _ semiModule_wf

/-- **C18, character level.**  For *every* lay-out `τ` – any mixture of white space, `//`
    comments and nested `/* */` comments in any gap, any base / `_` separators / letter case for
    any integer, `///` / `/** */` / `//!` / `/*! */` for any doc attribute – the text
    `Print.render ts τ` of the tokens `ts` of a well-formed module lexes back to exactly these
    tokens (up to positions).

    `τ` is unrestricted because `render` itself refuses to write what would read differently
    (`Model/Printer.lean`): an ill-formed comment piece becomes a blank; a blank is inserted
    where two tokens would glue together (word next to word, punctuation next to punctuation –
    which would change its `Spacing` –, identifier next to punctuation – `r#`); nothing is
    put after the first character of `::` and `->`; a doc text that cannot be a comment
    (`///` text with a line break or a leading `/`, block text with an unbalanced `*/`, …)
    stays an attribute; and `(` `/*ERROR*/` `)` gets a blank, because `proc_macro2` reads
    `(/*ERROR*/)` as a single literal (the model reproduces this), so "any comment may stand in
    any gap" is false for the real lexer. -/
theorem lex_render (tr : Bool) (m : G.Module) (h : WF m) (ts : List Tok)
    (hts : ts.map (·.k) = Print.printK tr m) (τ : Print.Trivia) :
    ∃ ts', Lex.lex (Print.render ts τ) = .ok ts' ∧ ts'.map (·.k) = ts.map (·.k) := by
  simp only [Lex.lex, Print.render, String.toList_ofList, hts]
  have := lexL_renderT τ (Print.printK tr m) (chk_printK tr m h)
  rw [show ts.length = (Print.printK tr m).length by rw [← hts, List.length_map]]
  exact this

/-- **C18.**  Parsing is the inverse of printing, whatever the lay-out. -/
theorem parse_render (m : G.Module) (h : WF m) (τ : Print.Trivia) :
    Parse.parseStr (Print.render (Print.printModule m) τ) = .ok m := by
  have hk : (Print.printModule m).map (·.k) = Print.printK true m := by
    simp [Print.printModule, Function.comp_def]
  obtain ⟨ts', h1, h2⟩ := lex_render true m h (Print.printModule m) hk τ
  exact parseStr_of_lex true m h _ ⟨ts', h1, h2.trans hk⟩

example : Parse.parseStr (Print.render (Print.printModule exampleModule) (Print.Trivia.ofSeed 42))
    = .ok exampleModule :=
  parse_render exampleModule exampleModule_wf _

/-! ## integers keep their value, however they are spelled

`Spelling b cs` (`Lemmas/Lexer.lean`): `cs` consists of digits of base `b` (either case for hex
letters) and `_` separators, has at least one digit, and a decimal number starts with a digit.
`digitsVal r 0 cs` is the positional value of the digits, `_` skipped.  `b.pre` is the base
prefix (nothing, `0x`, `0o`, `0b`). -/

/-- **C18, numbers.**  Any spelling of a number, in any base, with any `_` separators, is read
    as one integer token whose value is the positional value of its digits. -/
theorem int_value (b : Base) (cs : List Char) (h : Spelling b cs) :
    Lex.lex (String.ofList (b.pre ++ cs)) = .ok [⟨.int (digitsVal b.radix 0 cs), (1, 0)⟩] := by
  simp only [Lex.lex, String.toList_ofList]
  exact lexL_int b cs h

/-- the same inside a longer text: whatever follows, as long as it cannot continue the number
    (no identifier character, which would be more digits or a suffix, and no `.`) -/
theorem int_value_in_context (b : Base) (cs : List Char) (h : Spelling b cs) (tail : List Char)
    (ht : IntTail tail) :
    Lex.lexLeaf (b.pre ++ cs ++ tail) = some (.int (digitsVal b.radix 0 cs), tail) :=
  lexLeaf_int b cs h tail ht

/-- the canonical digits of `n` in any base are a spelling of `n` … -/
theorem int_value_canonical (b : Base) (n : Nat) :
    Spelling b (numChars b.radix n) ∧ digitsVal b.radix 0 (numChars b.radix n) = n :=
  ⟨numChars_spelling b n, digitsVal_numChars b.radix n (by cases b <;> simp [Base.radix])
    (by cases b <;> simp [Base.radix])⟩

/-- … and `_` separators, wherever they stand, do not change the value -/
theorem int_value_separators (r : Nat) (cs : List Char) :
    digitsVal r 0 (cs.filter (fun c => !decide (c = '_'))) = digitsVal r 0 cs :=
  digitsVal_filter r 0 cs

/-- two spellings of the same number, in whatever bases, are the same token -/
theorem int_value_same (b₁ b₂ : Base) (cs₁ cs₂ : List Char) (h₁ : Spelling b₁ cs₁)
    (h₂ : Spelling b₂ cs₂) (hv : digitsVal b₁.radix 0 cs₁ = digitsVal b₂.radix 0 cs₂) :
    Lex.lex (String.ofList (b₁.pre ++ cs₁)) = Lex.lex (String.ofList (b₂.pre ++ cs₂)) := by
  rw [int_value b₁ cs₁ h₁, int_value b₂ cs₂ h₂, hv]

example : Lex.lex "0x_1_F" = .ok [⟨.int 31, (1, 0)⟩] :=
  int_value .hex ['_', '1', '_', 'F'] (spelling_of_B _ _ (by decide))

example : Lex.lex "1_000" = Lex.lex "0b11_1110_1000" :=
  int_value_same .dec .bin ['1', '_', '0', '0', '0']
    ['1', '1', '_', '1', '1', '1', '0', '_', '1', '0', '0', '0']
    (spelling_of_B _ _ (by decide)) (spelling_of_B _ _ (by decide)) (by decide)

/-- **C18, errors.**  Whenever the parser rejects a text, the reported line lies inside the text:
    between 1 and the number of line breaks + 1 (so at most "number of lines + 1"). -/
theorem parse_error_has_position (s : String) (l c : Nat) (h : Parse.parseStr s = .error (l, c)) :
    1 ≤ l ∧ l ≤ s.toList.count '\n' + 1 :=
  parseStr_error_ok s (l, c) h

section
attribute [local instance] decEqResult

example : Parse.parseStr "type A {\n  x: u8,\n  y: ,\n}" = .error (3, 5) := by decide +kernel

end

end PyxisVerif.C18
