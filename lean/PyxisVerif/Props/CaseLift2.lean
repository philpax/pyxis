import PyxisVerif.Lemmas.CaseLift2
/-!
# Per-item theorems, lifted to every accepted case – part 2 (C03, C04, C05, C07, C11, C13, C14)

`Props/CaseLift.lean` lifts C01, C06, C08, C15, C16, C17; this file lifts the per-item theorems of the remaining
properties in the same way: hypotheses `c.ps = 4 ∨ c.ps = 8`, `C12.CaseBounded c` (`isize` literals, what the parser
produces), `c.run = .ok s`; conclusions about every entry of the final registry `s.reg` / every emitted file
(`Emit.files s`).  Naming: `PyxisVerif.Cxx.case_<per-item name>`.

As in part 1, a resolved struct of the final registry is either a generated `<T>Vftable` struct (first disjunct of most
statements) or the result of an accepted build of a definition **written in a module of the case** (`CaseLift.Declared`),
in a state whose registry the final registry extends (`C02.Ext`); whatever the per-item theorem reads from the registry
is re-read in the *final* registry where that is possible, and otherwise in a registry `s0.reg` / `s1.reg` with
`C02.Ext … s.reg` (name lookup is not monotone: a later registration can change what a name binds to).

Two statements need the paths of the modules of the case to be pairwise distinct (`DistinctModulePaths`,
`(astPaths c.modules).Nodup`): "every function written in a function block is present" (C05) and "every item is
emitted in the file of its module" (C14).  Without it they are **false** – `add_module` replaces a stored module of the
same path – and the refuting case is `CaseLift2.Dup.case` (`C05.case_declared_functions_present_refuted`,
`C14.case_every_item_in_its_file_refuted`, at the end of the file).
-/


namespace PyxisVerif.C03
open Gen Layout CaseLift CaseLift2

/-- **C03 for every accepted case (the verdict).**  Every emitted struct `p` of the final registry is a generated vftable
    struct or was built from a definition `item` written in the case; then, with `sa.pending` its declared fields (each
    from a field statement of the definition with that statement's `#[address]` and resolved type, `FieldOf`), `vptr` its
    own vftable pointer if it has one, and `t` the C03 description read off them **in the final registry**
    (`specType`: per field the written address and the size / alignment / array-ness of its type as the final registry
    records them; `size` / `align` / `packed` of the definition), C03's `verdict` for `t` at the pointer width of the
    case is *accepted with the size and alignment of the emitted struct* -/
theorem case_verdict (c : Case) (hps : c.ps = 4 ∨ c.ps = 8) (hb : C12.CaseBounded c) (s : State)
    (h : c.run = .ok s) (p : Path) (i : ItemDef) (r : Resolved) (td : TypeDefn)
    (hg : s.reg.get p = some i) (hs : i.state = .res r) (hin : r.inner = .type td) (hc : i.cat = .defined) :
    (∃ (reg0 : Registry) (owner : Path) (vis : Vis) (fns : List SFunc),
      buildVftableItem reg0 owner vis fns = some i ∧ i.path = p) ∨
    ∃ (item : G.Item) (d : G.TypeDef) (s0 : State) (module : Mod) (ta : TypeAttrs) (sa : StmtAcc) (vptr : Option Region),
      Declared c p item ∧ item.inner = .type d ∧ s0.moduleFor p = some module ∧ C02.Ext s0.reg s.reg ∧
      Res.foldlM typeAttrStep {} d.attrs = .ok ta ∧
      Res.foldlM (stmtStep s0.reg module.scope) {} (d.stmts.zipIdx.map fun q => (q.2, q.1)) = .ok sa ∧
      (∀ q ∈ sa.pending, ∃ st ∈ d.stmts, FieldOf s0.reg module.scope st q) ∧
      (vptr = none ∨ ∃ vpath, vftablePath p = some vpath ∧ vptr = some (C06.ownPointer vpath)) ∧
      (∀ q ∈ sa.pending, ∃ n a, q.2.ty.size s.reg = .ok (some n) ∧ q.2.ty.align s.reg = some a ∧
        specField s.reg q = { addr := q.1, size := n, align := a, isArray := q.2.ty.isArray }) ∧
      verdict c.ps (specType s.reg vptr.isSome sa.pending ta) = .ok (r.size, r.align) := by
  rcases case_built c hps hb s h p i r td hg hs hin hc with hgen |
    ⟨item, d, s0, s1, module, module1, ta, sa, vptr, placed, acc1, acc2, hD, hd, hi, hp, hQ, he, B⟩
  · exact Or.inl hgen
  · have hres := B.layout_in he
    refine Or.inr ⟨item, d, s0, module, ta, sa, vptr, hD, hd, B.mod, B.ext.trans he, B.attrs, B.stmts,
      stmts_pending_src B.stmts, B.vptr_own, ?_, ?_⟩
    · intro q hq
      obtain ⟨n, hn⟩ := (resolve_sizes _ _ _ _ _ hres).2 (toPField s.reg q.1 q.2) (List.mem_map.mpr ⟨q, hq, rfl⟩)
      obtain ⟨a, ha, hspec⟩ := specField_known s.reg q n hn
      exact ⟨n, a, hn, ha, hspec⟩
    · rw [← case_ps c s h]
      refine verdict_of_layout s.reg vptr ?_ sa.pending ta placed r.size r.align hres (B.align_in he)
      rcases B.vptr_own with h1 | ⟨vpath, _, h1⟩
      · exact Or.inl h1
      · exact Or.inr ⟨vpath, h1⟩

/-- **`accepts_iff_realisable`, for every accepted case**: the description of every emitted struct built from a
    definition written in the case – read off in the final registry, `case_verdict` – is accepted by C03's `verdict`, and
    so, when it is in C03's domain, it is realisable (the executable oracle `realisableB` says so too) -/
theorem case_accepts_iff_realisable (c : Case) (hps : c.ps = 4 ∨ c.ps = 8) (hb : C12.CaseBounded c) (s : State)
    (h : c.run = .ok s) (p : Path) (i : ItemDef) (r : Resolved) (td : TypeDefn)
    (hg : s.reg.get p = some i) (hs : i.state = .res r) (hin : r.inner = .type td) (hc : i.cat = .defined) :
    (∃ (reg0 : Registry) (owner : Path) (vis : Vis) (fns : List SFunc),
      buildVftableItem reg0 owner vis fns = some i ∧ i.path = p) ∨
    ∃ (item : G.Item) (d : G.TypeDef) (s0 : State) (module : Mod) (ta : TypeAttrs) (sa : StmtAcc) (vptr : Option Region),
      Declared c p item ∧ item.inner = .type d ∧ s0.moduleFor p = some module ∧ C02.Ext s0.reg s.reg ∧
      Res.foldlM typeAttrStep {} d.attrs = .ok ta ∧
      Res.foldlM (stmtStep s0.reg module.scope) {} (d.stmts.zipIdx.map fun q => (q.2, q.1)) = .ok sa ∧
      (vptr = none ∨ ∃ vpath, vftablePath p = some vpath ∧ vptr = some (C06.ownPointer vpath)) ∧
      (verdict c.ps (specType s.reg vptr.isSome sa.pending ta)).isOk = true ∧
      (InDomain c.ps (specType s.reg vptr.isSome sa.pending ta) →
        Realisable c.ps (specType s.reg vptr.isSome sa.pending ta) ∧
        realisableB c.ps (specType s.reg vptr.isSome sa.pending ta) = true) := by
  rcases case_verdict c hps hb s h p i r td hg hs hin hc with hv |
    ⟨item, d, s0, module, ta, sa, vptr, hD, hd, hmod, he, hta, hsa, _, hvp, _, hver⟩
  · exact Or.inl hv
  · refine Or.inr ⟨item, d, s0, module, ta, sa, vptr, hD, hd, hmod, he, hta, hsa, hvp, by rw [hver]; rfl, ?_⟩
    intro hdom
    have hr := (accepts_iff_realisable _ _ hdom).mp (by rw [hver]; rfl)
    exact ⟨hr, (realisableB_iff _ _).mpr hr⟩

/-- **`accepted_size_align`, for every accepted case**: every emitted struct built from a definition written in the case
    has the size the spec computes for its description (`totalSize`: the declared size, else where the last field ends)
    and the spec's effective alignment (1 when packed), whenever the description – read off in the final registry – is in
    C03's domain -/
theorem case_accepted_size_align (c : Case) (hps : c.ps = 4 ∨ c.ps = 8) (hb : C12.CaseBounded c) (s : State)
    (h : c.run = .ok s) (p : Path) (i : ItemDef) (r : Resolved) (td : TypeDefn)
    (hg : s.reg.get p = some i) (hs : i.state = .res r) (hin : r.inner = .type td) (hc : i.cat = .defined) :
    (∃ (reg0 : Registry) (owner : Path) (vis : Vis) (fns : List SFunc),
      buildVftableItem reg0 owner vis fns = some i ∧ i.path = p) ∨
    ∃ (item : G.Item) (d : G.TypeDef) (s0 : State) (module : Mod) (ta : TypeAttrs) (sa : StmtAcc) (vptr : Option Region),
      Declared c p item ∧ item.inner = .type d ∧ s0.moduleFor p = some module ∧ C02.Ext s0.reg s.reg ∧
      Res.foldlM typeAttrStep {} d.attrs = .ok ta ∧
      Res.foldlM (stmtStep s0.reg module.scope) {} (d.stmts.zipIdx.map fun q => (q.2, q.1)) = .ok sa ∧
      (vptr = none ∨ ∃ vpath, vftablePath p = some vpath ∧ vptr = some (C06.ownPointer vpath)) ∧
      (InDomain c.ps (specType s.reg vptr.isSome sa.pending ta) →
        r.size = totalSize c.ps (specType s.reg vptr.isSome sa.pending ta) ∧
        r.align = (if ta.packed then 1 else effAlign c.ps (specType s.reg vptr.isSome sa.pending ta))) := by
  rcases case_verdict c hps hb s h p i r td hg hs hin hc with hv |
    ⟨item, d, s0, module, ta, sa, vptr, hD, hd, hmod, he, hta, hsa, _, hvp, _, hver⟩
  · exact Or.inl hv
  · refine Or.inr ⟨item, d, s0, module, ta, sa, vptr, hD, hd, hmod, he, hta, hsa, hvp, ?_⟩
    intro hdom
    exact accepted_size_align _ _ hdom r.size r.align hver

end PyxisVerif.C03

namespace PyxisVerif.C04
open Gen Layout CaseLift CaseLift2

/-- **`slots`, for every accepted case.**  Every emitted struct `p` of the final registry is a generated vftable struct
    (no table) or was built from a definition written in the case; if that definition starts with a vftable block `gfns`,
    the block converts to a table `out` in which function `k` sits in slot `pos[k]` – the slot the description says
    (`specPositions`: its written index, else predecessor + 1, else 0) –, every other slot holds the placeholder named
    after its own position, and `out` has the declared length (`specLength`: the block's `#[size]`, else exactly the slots
    needed); `out` is the table of the type in the final registry whenever it has one, and it has one (with accessor
    return type `*const <T>Vftable`) when the type has a parent path -/
theorem case_slots (c : Case) (hps : c.ps = 4 ∨ c.ps = 8) (hb : C12.CaseBounded c) (s : State)
    (h : c.run = .ok s) (p : Path) (i : ItemDef) (r : Resolved) (td : TypeDefn)
    (hg : s.reg.get p = some i) (hs : i.state = .res r) (hin : r.inner = .type td) (hc : i.cat = .defined) :
    ((∃ (reg0 : Registry) (owner : Path) (vis : Vis) (fns : List SFunc),
        buildVftableItem reg0 owner vis fns = some i ∧ i.path = p) ∧ td.vft = none) ∨
    ∃ (item : G.Item) (d : G.TypeDef) (s0 : State) (module : Mod),
      Declared c p item ∧ item.inner = .type d ∧ s0.moduleFor p = some module ∧ C02.Ext s0.reg s.reg ∧
      ∀ st gfns, d.stmts[0]? = some st → st.field = .vftable gfns →
        ∃ size out pos built len,
          vftableSizeAttr st.attrs = .ok size ∧
          (∀ v, td.vft = some v → v.fns = out) ∧
          (∀ vpath, vftablePath p = some vpath → ∃ v, td.vft = some v ∧ v.fns = out ∧ v.ty = .cptr (.raw vpath)) ∧
          specPositions 0 (gfns.map declIndex) = some pos ∧
          Res.mapM' (buildFunction s0.reg module.scope true) gfns = .ok built ∧
          pos.length = built.length ∧
          specLength size pos = some len ∧ out.length = len ∧
          (∀ pb ∈ pos.zip built, out[pb.1]? = some pb.2) ∧
          (∀ j, j < out.length → j ∉ pos → out[j]? = some (placeholderFn j)) := by
  rcases case_built c hps hb s h p i r td hg hs hin hc with hgen |
    ⟨item, d, s0, s1, module, module1, ta, sa, vptr, placed, acc1, acc2, hD, hd, hi, hp, hQ, he, B⟩
  · exact Or.inl ⟨hgen, (hgen.plain hs hin).2⟩
  · refine Or.inr ⟨item, d, s0, module, hD, hd, B.mod, B.ext.trans he, ?_⟩
    intro st gfns hst hf
    obtain ⟨size, out, hsize, hconv, _, _, hout, hitem⟩ := B.block he hst hf
    obtain ⟨pos, built, len, k1, k2, k3, k4, k5, k6, k7⟩ := slots s0.reg module.scope size gfns out hconv
    refine ⟨size, out, pos, built, len, hsize, hout, ?_, k1, k2, k3, k4, k5, k6, k7⟩
    intro vpath hvp
    obtain ⟨_, _, _, _, _, hv⟩ := hitem vpath hvp
    exact ⟨_, hv, rfl, rfl⟩

/-- **`placeholder_shape`, for every accepted case**: in the table of every emitted struct whose definition starts with
    a vftable block, every slot the description gives to no function of the block holds a function that is private, takes
    `&mut self`, returns nothing, is thiscall and is named `_vfunc_<slot>` -/
theorem case_placeholder_shape (c : Case) (hps : c.ps = 4 ∨ c.ps = 8) (hb : C12.CaseBounded c) (s : State)
    (h : c.run = .ok s) (p : Path) (i : ItemDef) (r : Resolved) (td : TypeDefn)
    (hg : s.reg.get p = some i) (hs : i.state = .res r) (hin : r.inner = .type td) (hc : i.cat = .defined)
    (v : Vft) (hv : td.vft = some v) :
    ∃ (item : G.Item) (d : G.TypeDef),
      Declared c p item ∧ item.inner = .type d ∧
      ∀ st gfns, d.stmts[0]? = some st → st.field = .vftable gfns →
        ∃ pos, specPositions 0 (gfns.map declIndex) = some pos ∧
          ∀ j, j < v.fns.length → j ∉ pos →
            v.fns[j]? = some { vis := .priv, name := "_vfunc_" ++ toString j, doc := none,
                               body := .vft ("_vfunc_" ++ toString j), args := [.mutSelf], ret := none, cc := .Thiscall } := by
  rcases case_slots c hps hb s h p i r td hg hs hin hc with ⟨_, hnone⟩ | ⟨item, d, s0, module, hD, hd, _, _, hblock⟩
  · rw [hnone] at hv; cases hv
  · refine ⟨item, d, hD, hd, ?_⟩
    intro st gfns hst hf
    obtain ⟨size, out, pos, built, len, _, hout, _, hpos, _, _, _, _, _, hph⟩ := hblock st gfns hst hf
    refine ⟨pos, hpos, ?_⟩
    intro j hj hnot
    rw [hout v hv] at hj ⊢
    rw [hph j hj hnot, placeholder_shape]

/-- **`vftable_item` and `slot_offset`, for every accepted case.**  For every emitted struct `T` (at `p`, with a parent
    path) of the final registry whose definition starts with a vftable block, the final registry holds under
    `<T>Vftable` a defined, resolved item with the visibility declared for `T`, of size `slots * pointer size` and
    pointer alignment, with one region per slot of `T`'s table, in slot order, named after the function in that slot,
    each pointer-sized and pointer-aligned **in the final registry**; and the modelled compiler puts field `k` of that
    struct at byte `k * ps` -/
theorem case_vftable_item (c : Case) (hps : c.ps = 4 ∨ c.ps = 8) (hb : C12.CaseBounded c) (s : State)
    (h : c.run = .ok s) (p : Path) (i : ItemDef) (r : Resolved) (td : TypeDefn)
    (hg : s.reg.get p = some i) (hs : i.state = .res r) (hin : r.inner = .type td) (hc : i.cat = .defined) :
    ((∃ (reg0 : Registry) (owner : Path) (vis : Vis) (fns : List SFunc),
        buildVftableItem reg0 owner vis fns = some i ∧ i.path = p) ∧ td.vft = none) ∨
    ∃ (item : G.Item) (d : G.TypeDef),
      Declared c p item ∧ item.inner = .type d ∧
      ∀ st gfns vpath, d.stmts[0]? = some st → st.field = .vftable gfns → vftablePath p = some vpath →
        ∃ (v : Vft) (vi : ItemDef) (vtd : TypeDefn),
          td.vft = some v ∧ v.ty = .cptr (.raw vpath) ∧
          s.reg.get vpath = some vi ∧ vi.path = vpath ∧ vi.vis = item.vis ∧ vi.cat = .defined ∧
          vi.state = .res { size := v.fns.length * s.reg.ps, align := s.reg.ps, inner := .type vtd } ∧
          vtd.regions = v.fns.map (functionToRegion p) ∧
          (∀ rg ∈ vtd.regions, rg.ty.size s.reg = .ok (some s.reg.ps) ∧ rg.ty.align s.reg = some s.reg.ps) ∧
          (∀ (k : Nat) (f : SFunc), v.fns[k]? = some f → ∃ rg : Region, vtd.regions[k]? = some rg ∧ rg.name = some f.name) ∧
          Exec.fieldOffsets s.reg vtd = some ((List.range v.fns.length).map (· * s.reg.ps)) ∧
          RustSem.offsets false 0 (List.replicate v.fns.length ⟨s.reg.ps, s.reg.ps⟩) =
            (List.range v.fns.length).map (· * s.reg.ps) := by
  rcases case_built c hps hb s h p i r td hg hs hin hc with hgen |
    ⟨item, d, s0, s1, module, module1, ta, sa, vptr, placed, acc1, acc2, hD, hd, hi, hp, hQ, he, B⟩
  · exact Or.inl ⟨hgen, (hgen.plain hs hin).2⟩
  · refine Or.inr ⟨item, d, hD, hd, ?_⟩
    intro st gfns vpath hst hf hvp
    obtain ⟨size, out, _, _, _, _, _, hitem⟩ := B.block he hst hf
    obtain ⟨vi, bf, hitem, hpath, hget, hv⟩ := hitem vpath hvp
    obtain ⟨vtd, hstate, hregions, _⟩ := vftable_item s0.reg p item.vis out vi hitem
    obtain ⟨htd, hvis, hcat, _, _⟩ := vftable_item_td s0.reg p item.vis out vi _ vtd hitem hstate rfl
    have hpos : 0 < s.reg.ps := C01.isPow2_pos _ (case_regOk c hps hb s h).ps_pow2
    have hoff := slot_offset s.reg.ps out.length hpos
    refine ⟨_, vi, vtd, hv, rfl, hget, hpath, hvis, hcat, by rw [hstate, (B.ext.trans he).ps], hregions, ?_, ?_, ?_, hoff⟩
    · intro rg hrg
      rw [hregions] at hrg
      obtain ⟨f, _, rfl⟩ := List.mem_map.mp hrg
      exact ⟨rfl, rfl⟩
    · intro k f hk
      refine ⟨functionToRegion p f, ?_, rfl⟩
      rw [hregions]
      simp only [List.getElem?_map, hk, Option.map_some]
    · unfold Exec.fieldOffsets
      rw [hregions, Exec.fldsOf_vftable, htd]
      simp only [Option.map_some]
      rw [hoff]

/-- **`wrapper_shape`, for every accepted case**: every slot of the table of an emitted struct whose definition starts
    with a vftable block holds the function built from a function `gf` of the block – and then its wrapper reads the slot
    *by the name of `gf`'s own field* and forwards the receiver followed by the arguments in declared order – or that
    slot's placeholder; the `impl` item emitted for the struct lists the wrappers of all slot functions whose name does
    not start with `_` (the placeholders, named `_vfunc_<slot>`, are filtered) -/
theorem case_wrapper_shape (c : Case) (hps : c.ps = 4 ∨ c.ps = 8) (hb : C12.CaseBounded c) (s : State)
    (h : c.run = .ok s) (p : Path) (i : ItemDef) (r : Resolved) (td : TypeDefn)
    (hg : s.reg.get p = some i) (hs : i.state = .res r) (hin : r.inner = .type td) (hc : i.cat = .defined)
    (v : Vft) (hv : td.vft = some v) :
    (∃ (item : G.Item) (d : G.TypeDef),
      Declared c p item ∧ item.inner = .type d ∧
      ∀ st gfns, d.stmts[0]? = some st → st.field = .vftable gfns →
        ∀ (k : Nat) (f : SFunc), v.fns[k]? = some f →
          (∃ gf ∈ gfns, f.name = gf.name ∧ f.body = .vft gf.name ∧
            ∃ hd, Emit.methodS f = Sexp.mk "method" (hd ++
              [Sexp.mk "call-slot" [.str gf.name, Sexp.mk "args" (f.args.map Emit.callArgS)]])) ∨
          f = placeholderFn k) ∧
    ∃ acc, Sexp.mk "impl" (.str (i.path.getLast?.getD "") :: acc ::
      ((td.fns.filter (!·.isInternal)).map Emit.methodS ++ (v.fns.filter (!·.isInternal)).map Emit.methodS))
      ∈ Emit.itemItems s.reg i := by
  refine ⟨?_, ?_⟩
  · rcases case_built c hps hb s h p i r td hg hs hin hc with hgen |
      ⟨item, d, s0, s1, module, module1, ta, sa, vptr, placed, acc1, acc2, hD, hd, hi, hp, hQ, he, B⟩
    · rw [(hgen.plain hs hin).2] at hv; cases hv
    · refine ⟨item, d, hD, hd, ?_⟩
      intro st gfns hst hf k f hk
      rcases B.slot_src hst hf hv hk with ⟨gf, hgf, hbf⟩ | hph
      · obtain ⟨hbody, hname⟩ := vfunc_body s0.reg module.scope gf f hbf
        exact Or.inl ⟨gf, hgf, hname, hbody, wrapper_shape f gf.name hbody⟩
      · exact Or.inr hph
  · have himpl := impl_mem_itemItems s.reg i r td hc hs hin
    rw [hv] at himpl
    exact ⟨_, himpl⟩

end PyxisVerif.C04

namespace PyxisVerif.C05
open Gen Layout CaseLift CaseLift2

/-- **`impl_functions_all_present` and `impl_blocks_merged`, for every accepted case.**  Every emitted struct `p` of the
    final registry is a generated vftable struct (no functions) or was built from a definition `item` written in the case
    under module path `path`; the module stored for `path` when the type was built is the root module without function
    blocks, or `add_module` of a module `m` **written in the case under `path`**, and then the type's merged function
    block is *all* functions of *all* `impl` blocks of `m` that name the type, in source order (`declaredImplFns`), the
    name scope is `path :: m.uses`; every function of the merged block is built, in source order, after the functions
    inherited from bases (forwarders), and these are all the struct's functions.

    (`m` is the module whose `add_module` was the last one for `path`; when two modules of the case have the same
    path it need not be the module that defines `item` – see `case_declared_functions_present`.) -/
theorem case_impl_functions_all_present (c : Case) (hps : c.ps = 4 ∨ c.ps = 8) (hb : C12.CaseBounded c) (s : State)
    (h : c.run = .ok s) (p : Path) (i : ItemDef) (r : Resolved) (td : TypeDefn)
    (hg : s.reg.get p = some i) (hs : i.state = .res r) (hin : r.inner = .type td) (hc : i.cat = .defined) :
    ((∃ (reg0 : Registry) (owner : Path) (vis : Vis) (fns : List SFunc),
        buildVftableItem reg0 owner vis fns = some i ∧ i.path = p) ∧ td.fns = []) ∨
    ∃ (item : G.Item) (d : G.TypeDef) (s1 : State) (module : Mod) (path : Path) (inherited built : List SFunc),
      Declared c p item ∧ item.inner = .type d ∧ p = path ++ [item.name] ∧
      C02.Ext s1.reg s.reg ∧ s1.moduleFor p = some module ∧
      ((path = [] ∧ module.impls = [] ∧ built = []) ∨
        ∃ file m, ModEnt.ast path file m ∈ c.modules ∧ module.scope = path :: m.uses ∧
          ((module.implFor p).map (·.fns)).getD [] = declaredImplFns m item.name ∧
          Res.mapM' (buildFunction s1.reg (path :: m.uses) false) (declaredImplFns m item.name) = .ok built) ∧
      ((module.implFor p).map (·.fns)).getD [] =
        ((module.impls.filter (fun e => e.1 == p)).map (·.2)).flatMap (·.fns) ∧
      td.fns = inherited ++ built ∧
      (∀ g ∈ inherited, ∃ b fn, g.body = .field b fn) := by
  rcases case_built c hps hb s h p i r td hg hs hin hc with hgen |
    ⟨item, d, s0, s1, module, module1, ta, sa, vptr, placed, acc1, acc2, hD, hd, hi, hp, hQ, he, B⟩
  · exact Or.inl ⟨hgen, (hgen.plain hs hin).1⟩
  · have hD' := hD
    obtain ⟨path, _, _, _, _, hp'⟩ := hD'
    subst hp'
    obtain ⟨dp, rfl⟩ := B.mod1_eq
    obtain ⟨built, hbuilt, hfns⟩ := B.built
    refine Or.inr ⟨item, d, s1, _, path, acc1.fns, built, hD, hd, rfl, he, B.mod1, ?_, impl_blocks_merged _ _, hfns,
      fun g hg' => (B.forwards (C02.Ext.refl _) g hg').body⟩
    rcases ModSrc.impl_src (moduleFor_src c s0 hQ path item.name module B.mod).2 item.name with ⟨hp0, himp⟩ |
      ⟨file, m, hm, hscope, hmerged⟩
    · refine Or.inl ⟨hp0, himp, ?_⟩
      rw [implFor_none_of_nil module _ himp] at hbuilt
      exact (Res.ok.inj hbuilt).symm
    · exact Or.inr ⟨file, m, hm, hscope, hmerged, by rw [← hscope, ← hmerged]; exact hbuilt⟩

/-- **`built_shape`, for every accepted case**: every associated function of every emitted struct of the final registry
    is an inherited forwarder (`self.<base field>.<fn>(..)`), or is built from a function `gf` written in a function
    block for this type in the case, and then has the declared (non-negative) address, the declared parameters in
    declared order with their types resolved, the declared return type resolved – in the scope `path :: m.uses` of the
    module `m` written in the case under the type's module path, in a registry `s1.reg` that the final registry extends –
    and the declared name and visibility -/
theorem case_built_shape (c : Case) (hps : c.ps = 4 ∨ c.ps = 8) (hb : C12.CaseBounded c) (s : State)
    (h : c.run = .ok s) (p : Path) (i : ItemDef) (r : Resolved) (td : TypeDefn)
    (hg : s.reg.get p = some i) (hs : i.state = .res r) (hin : r.inner = .type td) (hc : i.cat = .defined) :
    ∀ f ∈ td.fns,
      (∃ b fn, f.body = .field b fn) ∨
      ∃ (gf : G.Func) (s1 : State) (path : Path) (file : String) (m : G.Module),
        DeclaredFn c p gf ∧ ModEnt.ast path file m ∈ c.modules ∧ (∃ name, p = path ++ [name]) ∧ C02.Ext s1.reg s.reg ∧
        buildFunction s1.reg (path :: m.uses) false gf = .ok f ∧
        (∃ a : Int, declAddress gf = some a ∧ 0 ≤ a ∧ f.body = .addr a.toNat) ∧
        specArgs s1.reg (path :: m.uses) gf.args = some f.args ∧
        (match gf.ret with
         | none => f.ret = none
         | some t => ∃ t', s1.reg.resolveTy (path :: m.uses) t = .ok t' ∧ f.ret = some t') ∧
        f.name = gf.name ∧ f.vis = gf.vis := by
  intro f hf
  rcases case_impl_functions_all_present c hps hb s h p i r td hg hs hin hc with ⟨_, hnil⟩ |
    ⟨item, d, s1, module, path, inherited, built, hD, hd, hp, he, hmod, hsrc, _, hfns, hinh⟩
  · rw [hnil] at hf; cases hf
  · rw [hfns] at hf
    rcases List.mem_append.mp hf with h1 | h1
    · exact Or.inl (hinh f h1)
    · right
      rcases hsrc with ⟨_, _, hnil⟩ | ⟨file, m, hm, hscope, hmerged, hbuilt⟩
      · rw [hnil] at h1; cases h1
      · obtain ⟨gf, hgf, hbf⟩ := mapM'_mem _ _ _ hbuilt f h1
        obtain ⟨k1, k2, k3, k4, k5⟩ := built_shape s1.reg (path :: m.uses) gf f hbf
        refine ⟨gf, s1, path, file, m, ?_, hm, ⟨item.name, hp⟩, he, hbf, k1, k2, k3, k4, k5⟩
        rw [hp]
        exact declaredFn_of_mem c path file m hm item.name gf hgf

/-- **`wrapper_shape`, for every accepted case**: the `impl` item emitted for every struct of the final registry lists
    the wrappers of all its associated functions whose name does not start with `_` (the others are filtered), and the
    wrapper of an address-bound function is the transmute of *that* address to a function pointer whose parameters are
    the receiver pointer (iff declared) followed by the declared parameters in order, called with the receiver followed
    by the arguments in order -/
theorem case_wrapper_shape (c : Case) (s : State) (_h : c.run = .ok s) (p : Path) (i : ItemDef) (r : Resolved)
    (td : TypeDefn) (_hg : s.reg.get p = some i) (hs : i.state = .res r) (hin : r.inner = .type td)
    (hc : i.cat = .defined) :
    ∃ acc methods, Sexp.mk "impl" (.str (i.path.getLast?.getD "") :: acc :: methods) ∈ Emit.itemItems s.reg i ∧
      ∀ f ∈ td.fns,
        (f.isInternal = false → Emit.methodS f ∈ methods) ∧
        ∀ a, f.body = .addr a →
          Emit.methodS f = Sexp.mk "method" [Emit.docsS f.doc, Emit.visS f.vis, .str f.name,
            Sexp.mk "params" (f.args.map Emit.paramS), Emit.optTyS f.ret,
            Sexp.mk "call-addr" [.int a, .str f.cc.asStr, Sexp.mk "sig" (f.args.map Emit.sigArgS), Emit.optTyS f.ret,
              Sexp.mk "args" (f.args.map Emit.callArgS)]] := by
  refine ⟨Sexp.ofOpt (fun (v : Vft) => Sexp.mk "vftacc" [.str (Emit.tyStr v.ty), Sexp.ofOpt .str v.baseField]) td.vft,
    (td.fns.filter (!·.isInternal)).map Emit.methodS ++
      (match td.vft with | some v => (v.fns.filter (!·.isInternal)).map Emit.methodS | none => []), ?_, ?_⟩
  · exact impl_mem_itemItems s.reg i r td hc hs hin
  · intro f hf
    refine ⟨?_, fun a ha => wrapper_shape f a ha⟩
    intro hni
    apply List.mem_append_left
    apply List.mem_map_of_mem
    rw [List.mem_filter]
    exact ⟨hf, by rw [hni]; rfl⟩

/-- **every declared function is present, for every accepted case whose module paths are distinct.**  If no two
    modules of the case are written under the same path (otherwise `add_module` replaces the stored module and the
    function blocks of the earlier one are lost – the statement is false without this hypothesis), then for every
    emitted struct `p` of a non-root module, built from a definition written in the case, **every** function `gf` written
    in a function block for `p` anywhere in the case is built into an associated function `sf` of the struct in the final
    registry, with the declared name, visibility, (non-negative) address, parameters and return type; the wrapper
    printed for `sf` is the transmute-and-call of exactly that address, and it is listed in the `impl` item emitted for the
    struct unless the declared name starts with `_` (such functions are filtered by the backend: `sf.isInternal`) -/
theorem case_declared_functions_present (c : Case) (hps : c.ps = 4 ∨ c.ps = 8) (hb : C12.CaseBounded c) (s : State)
    (h : c.run = .ok s) (hdist : DistinctModulePaths c) (p : Path) (i : ItemDef) (r : Resolved) (td : TypeDefn)
    (hg : s.reg.get p = some i) (hs : i.state = .res r) (hin : r.inner = .type td) (hc : i.cat = .defined)
    (hroot : 2 ≤ p.length) :
    ((∃ (reg0 : Registry) (owner : Path) (vis : Vis) (fns : List SFunc),
        buildVftableItem reg0 owner vis fns = some i ∧ i.path = p) ∧ td.fns = []) ∨
    ∃ (item : G.Item) (d : G.TypeDef) (s1 : State) (path : Path) (file : String) (m : G.Module),
      Declared c p item ∧ item.inner = .type d ∧ ModEnt.ast path file m ∈ c.modules ∧ p = path ++ [item.name] ∧
      C02.Ext s1.reg s.reg ∧
      ∃ acc methods, Sexp.mk "impl" (.str (p.getLast?.getD "") :: acc :: methods) ∈ Emit.itemItems s.reg i ∧
      ∀ gf, DeclaredFn c p gf →
        ∃ (sf : SFunc) (a : Int),
          sf ∈ td.fns ∧ buildFunction s1.reg (path :: m.uses) false gf = .ok sf ∧
          declAddress gf = some a ∧ 0 ≤ a ∧ sf.body = .addr a.toNat ∧
          specArgs s1.reg (path :: m.uses) gf.args = some sf.args ∧
          (match gf.ret with
           | none => sf.ret = none
           | some t => ∃ t', s1.reg.resolveTy (path :: m.uses) t = .ok t' ∧ sf.ret = some t') ∧
          sf.name = gf.name ∧ sf.vis = gf.vis ∧
          Emit.methodS sf = Sexp.mk "method" [Emit.docsS sf.doc, Emit.visS sf.vis, .str sf.name,
            Sexp.mk "params" (sf.args.map Emit.paramS), Emit.optTyS sf.ret,
            Sexp.mk "call-addr" [.int a.toNat, .str sf.cc.asStr, Sexp.mk "sig" (sf.args.map Emit.sigArgS),
              Emit.optTyS sf.ret, Sexp.mk "args" (sf.args.map Emit.callArgS)]] ∧
          sf.isInternal = gf.name.startsWith "_" ∧
          (gf.name.startsWith "_" = false → Emit.methodS sf ∈ methods) := by
  rcases case_impl_functions_all_present c hps hb s h p i r td hg hs hin hc with hv |
    ⟨item, d, s1, module, path, inherited, built, hD, hd, hp, he, hmod, hsrc, _, hfns, hinh⟩
  · exact Or.inl hv
  · right
    rcases hsrc with ⟨hp0, _⟩ | ⟨file, m, hm, hscope, hmerged, hbuilt⟩
    · rw [hp, hp0] at hroot
      simp at hroot
    · obtain ⟨acc, methods, himpl, hmeth⟩ := case_wrapper_shape c s h p i r td hg hs hin hc
      rw [(case_regOk c hps hb s h).wellKeyed p i hg] at himpl
      refine ⟨item, d, s1, path, file, m, hD, hd, hm, hp, he, acc, methods, himpl, ?_⟩
      intro gf hgf
      rw [hp] at hgf
      obtain ⟨sf, hsf, hbf⟩ := mapM'_mem_fwd _ _ _ hbuilt gf (mem_of_declaredFn c hdist path file m hm item.name gf hgf)
      have hsf' : sf ∈ td.fns := by rw [hfns]; exact List.mem_append_right _ hsf
      obtain ⟨⟨a, ha, h0, hbody⟩, k2, k3, k4, k5⟩ := built_shape s1.reg (path :: m.uses) gf sf hbf
      have hint : sf.isInternal = gf.name.startsWith "_" := by unfold SFunc.isInternal; rw [k4]
      exact ⟨sf, a, hsf', hbf, ha, h0, hbody, k2, k3, k4, k5, (hmeth sf hsf').2 _ hbody, hint,
        fun hni => (hmeth sf hsf').1 (hint.trans hni)⟩

end PyxisVerif.C05

namespace PyxisVerif.C07
open Gen Layout CaseLift CaseLift2

/-- **`addFunctions_spec`, for every accepted case.**  Every emitted struct `p` of the final registry is a generated
    vftable struct (no functions, no `#[base]` field) or was built from a definition written in the case; then every
    `#[base]` field of the emitted struct is a named field whose type is a resolved struct **in the final registry**, and
    the struct's functions are exactly: for each `#[base]` field in field order, `specInject` of the functions of its
    type as found in the final registry (and, for every base but the first, of its type's vftable) – `specBases`,
    starting from the names of the type's own vftable functions – followed by its own `impl` functions (each
    address-bound), in source order -/
theorem case_addFunctions_spec (c : Case) (hps : c.ps = 4 ∨ c.ps = 8) (hb : C12.CaseBounded c) (s : State)
    (h : c.run = .ok s) (p : Path) (i : ItemDef) (r : Resolved) (td : TypeDefn)
    (hg : s.reg.get p = some i) (hs : i.state = .res r) (hin : r.inner = .type td) (hc : i.cat = .defined) :
    ((∃ (reg0 : Registry) (owner : Path) (vis : Vis) (fns : List SFunc),
        buildVftableItem reg0 owner vis fns = some i ∧ i.path = p) ∧ td.fns = [] ∧ ∀ rg ∈ td.regions, rg.isBase = false) ∨
    ∃ (item : G.Item) (d : G.TypeDef) (own : List SFunc),
      Declared c p item ∧ item.inner = .type d ∧
      (∀ rg ∈ td.regions, rg.isBase = true → ∃ b bp btd, rg.name = some b ∧ rg.ty = .data (.raw bp) ∧
        Exec.typeDefn? s.reg bp = some btd ∧ regionNameAndTypeDef s.reg rg = .ok (some (b, btd))) ∧
      td.fns = specBases s.reg ((td.regions.filter (·.isBase)).zipIdx.map fun q => (q.2, q.1))
          (match td.vft with | some v => v.fns.map (·.name) | none => []) ++ own ∧
      (∀ f ∈ own, ∃ gf, DeclaredFn c p gf ∧ f.name = gf.name ∧ ∃ a : Int, C05.declAddress gf = some a ∧ 0 ≤ a ∧
        f.body = .addr a.toNat) ∧
      (∀ g ∈ specBases s.reg ((td.regions.filter (·.isBase)).zipIdx.map fun q => (q.2, q.1))
          (match td.vft with | some v => v.fns.map (·.name) | none => []), ∃ b fn, g.body = .field b fn) := by
  rcases case_built c hps hb s h p i r td hg hs hin hc with hgen |
    ⟨item, d, s0, s1, module, module1, ta, sa, vptr, placed, acc1, acc2, hD, hd, hi, hp, hQ, he, B⟩
  · exact Or.inl ⟨hgen, (hgen.plain hs hin).1, hgen.not_base hs hin⟩
  · obtain ⟨hbases, hinh⟩ := B.inherited he
    obtain ⟨built, hbuilt, hfns⟩ := B.built
    refine Or.inr ⟨item, d, built, hD, hd, hbases, by rw [hfns, hinh]; rfl, ?_, ?_⟩
    · intro f hf
      obtain ⟨gf, hgf, hbf⟩ := mapM'_mem _ _ _ hbuilt f hf
      obtain ⟨ha, _, _, hname, _⟩ := C05.built_shape s1.reg module.scope gf f hbf
      exact ⟨gf, declaredFn_of_impl c s0 hQ p item hD module B.mod gf hgf, hname, ha⟩
    · intro g hg'
      exact (B.forwards he g (by rw [hinh]; exact hg')).body

/-- **`every_public_reexposed`, for every accepted case**: for every `#[base]` field `b` of every emitted struct of the
    final registry – a named field of a type `bp` that is a resolved struct in the final registry – every public,
    non-internal function `f` of `bp` **as found in the final registry** is re-exposed on the struct under its own name or
    `<b>_<name>`, with its receiver, parameters, return type and convention unchanged, forwarding to the original on the
    base field; and so is every such function of `bp`'s vftable when `b` is not the first `#[base]` field -/
theorem case_every_public_reexposed (c : Case) (hps : c.ps = 4 ∨ c.ps = 8) (hb : C12.CaseBounded c) (s : State)
    (h : c.run = .ok s) (p : Path) (i : ItemDef) (r : Resolved) (td : TypeDefn)
    (hg : s.reg.get p = some i) (hs : i.state = .res r) (hin : r.inner = .type td) (hc : i.cat = .defined)
    (k : Nat) (rg : Region) (hk : (td.regions.filter (·.isBase))[k]? = some rg) :
    ∃ (b : String) (bp : Path) (btd : TypeDefn),
      rg.name = some b ∧ rg.ty = .data (.raw bp) ∧ Exec.typeDefn? s.reg bp = some btd ∧
      (∀ f ∈ btd.fns, f.vis = .pub → f.isInternal = false →
        ∃ g ∈ td.fns, g.body = .field b f.name ∧ (g.name = f.name ∨ g.name = renamed b f.name) ∧
          g.args = f.args ∧ g.ret = f.ret ∧ g.cc = f.cc ∧ g.vis = .pub) ∧
      (0 < k → ∀ v, btd.vft = some v → ∀ f ∈ v.fns, f.vis = .pub → f.isInternal = false →
        ∃ g ∈ td.fns, g.body = .field b f.name ∧ (g.name = f.name ∨ g.name = renamed b f.name) ∧
          g.args = f.args ∧ g.ret = f.ret ∧ g.cc = f.cc ∧ g.vis = .pub) := by
  have hmem : rg ∈ td.regions.filter (·.isBase) := List.mem_of_getElem? hk
  obtain ⟨hrg, hbase⟩ := List.mem_filter.mp hmem
  rcases case_built c hps hb s h p i r td hg hs hin hc with hgen |
    ⟨item, d, s0, s1, module, module1, ta, sa, vptr, placed, acc1, acc2, hD, hd, hi, hp, hQ, he, B⟩
  · rw [hgen.not_base hs hin rg hrg] at hbase; cases hbase
  · obtain ⟨hbases, hinh⟩ := B.inherited he
    obtain ⟨built, _, hfns⟩ := B.built
    obtain ⟨b, bp, btd, hname, hty, htd, hr⟩ := hbases rg hrg hbase
    have hib : (k, rg) ∈ ((td.regions.filter (·.isBase)).zipIdx.map fun q => (q.2, q.1)) := by
      refine List.mem_map.mpr ⟨(rg, k), ?_, rfl⟩
      rw [List.mem_zipIdx_iff_getElem?]
      exact hk
    obtain ⟨⟨u1, h1⟩, h2⟩ := specBases_contains s.reg _
      (match td.vft with | some v => v.fns.map (·.name) | none => []) (k, rg) hib b btd hr
    have hsub : ∀ g ∈ specBases s.reg ((td.regions.filter (·.isBase)).zipIdx.map fun q => (q.2, q.1))
        (match td.vft with | some v => v.fns.map (·.name) | none => []), g ∈ td.fns :=
      fun g hg' => by rw [hfns, hinh]; exact List.mem_append_left _ hg'
    refine ⟨b, bp, btd, hname, hty, htd, ?_, ?_⟩
    · intro f hf hpub hint
      obtain ⟨g, hg', rest⟩ := every_public_reexposed b u1 btd.fns f hf hpub hint
      exact ⟨g, hsub g (h1 g hg'), rest⟩
    · intro hpos v hv f hf hpub hint
      obtain ⟨u2, h3⟩ := h2 hpos v hv
      obtain ⟨g, hg', rest⟩ := every_public_reexposed b u2 v.fns f hf hpub hint
      exact ⟨g, hsub g (h3 g hg'), rest⟩

/-- **`private_not_reexposed`, for every accepted case**: every associated function of every emitted struct of the
    final registry that forwards to a base field forwards to a **public, non-internal** function of the type of one of
    the struct's `#[base]` fields as found in the final registry (or of that type's vftable, for a base that is not the
    first); and every other associated function is one of the struct's own address-bound `impl` functions -/
theorem case_private_not_reexposed (c : Case) (hps : c.ps = 4 ∨ c.ps = 8) (hb : C12.CaseBounded c) (s : State)
    (h : c.run = .ok s) (p : Path) (i : ItemDef) (r : Resolved) (td : TypeDefn)
    (hg : s.reg.get p = some i) (hs : i.state = .res r) (hin : r.inner = .type td) (hc : i.cat = .defined) :
    ∀ g ∈ td.fns,
      (∃ a, g.body = .addr a) ∨
      ∃ (k : Nat) (rg : Region) (b : String) (bp : Path) (btd : TypeDefn) (f : SFunc),
        (td.regions.filter (·.isBase))[k]? = some rg ∧ rg.name = some b ∧ rg.ty = .data (.raw bp) ∧
        Exec.typeDefn? s.reg bp = some btd ∧
        (f ∈ btd.fns ∨ (0 < k ∧ ∃ v, btd.vft = some v ∧ f ∈ v.fns)) ∧
        f.vis = .pub ∧ f.isInternal = false ∧ g.body = .field b f.name := by
  intro g hgm
  rcases case_built c hps hb s h p i r td hg hs hin hc with hgen |
    ⟨item, d, s0, s1, module, module1, ta, sa, vptr, placed, acc1, acc2, hD, hd, hi, hp, hQ, he, B⟩
  · rw [(hgen.plain hs hin).1] at hgm; cases hgm
  · obtain ⟨built, hbuilt, hfns⟩ := B.built
    rw [hfns] at hgm
    rcases List.mem_append.mp hgm with h1 | h1
    · right
      rw [(B.inherited he).2] at h1
      obtain ⟨ib, hib, b, btd, used, hr, hor⟩ := specBases_mem _ _ _ g h1
      obtain ⟨q, hq, rfl⟩ := List.mem_map.mp hib
      have hk : (td.regions.filter (·.isBase))[q.2]? = some q.1 := by
        have := List.mem_zipIdx_iff_getElem?.mp hq
        simpa using this
      obtain ⟨bp, hname, hty, htd⟩ := Exec.regionNameAndTypeDef_inv s.reg q.1 b btd hr
      rcases hor with h2 | ⟨hpos, v, hv, h2⟩
      · obtain ⟨f, hf, hpub, hint, hbody⟩ := private_not_reexposed b used btd.fns g h2
        exact ⟨q.2, q.1, b, bp, btd, f, hk, hname, hty, htd, Or.inl hf, hpub, hint, hbody⟩
      · obtain ⟨f, hf, hpub, hint, hbody⟩ := private_not_reexposed b used v.fns g h2
        exact ⟨q.2, q.1, b, bp, btd, f, hk, hname, hty, htd, Or.inr ⟨hpos, v, hv, hf⟩, hpub, hint, hbody⟩
    · left
      obtain ⟨gf, _, hbf⟩ := mapM'_mem _ _ _ hbuilt g h1
      obtain ⟨⟨a, _, _, hb'⟩, _⟩ := C05.built_shape s1.reg module.scope gf g hbf
      exact ⟨_, hb'⟩

/-- **`conversions_emitted`, for every accepted case**: the items emitted for every struct of the final registry end
    with, for each base in the hierarchy **computed in the final registry** (in hierarchy order): one AsRef and one AsMut
    along its field path if its type occurs once in the hierarchy, a marker constant (and no conversion) if it occurs
    more than once; followed by the conversion of the type to itself.  The hierarchy lists every `#[base]` field of the
    struct (each is a resolved struct in the final registry) with the one-element field path, followed by that base's own
    hierarchy -/
theorem case_conversions_emitted (c : Case) (hps : c.ps = 4 ∨ c.ps = 8) (hb : C12.CaseBounded c) (s : State)
    (h : c.run = .ok s) (p : Path) (i : ItemDef) (r : Resolved) (td : TypeDefn)
    (hg : s.reg.get p = some i) (hs : i.state = .res r) (hin : r.inner = .type td) (hc : i.cat = .defined) :
    let name := i.path.getLast?.getD ""
    let hier := Emit.dfsHierarchy s.reg (s.reg.types.length + 1) td []
    (∃ pre, Emit.itemItems s.reg i = pre ++
      (hier.flatMap fun (fp, ty) =>
        if occurrences hier ty > 1 then
          [Sexp.mk "conflict" [.str ("_CONFLICTING_" ++ Emit.upper (unraw name) ++ "_" ++ "_".intercalate (fp.map fun s => Emit.upper (unraw s)))]]
        else
          [Sexp.mk "asref" [.str name, .str (Emit.rtyStr ty), Sexp.mk "fp" (fp.map .str)],
           Sexp.mk "asmut" [.str name, .str (Emit.rtyStr ty), Sexp.mk "fp" (fp.map .str)]]) ++
      [Sexp.mk "asref" [.str name, .str name, Sexp.mk "fp" []], Sexp.mk "asmut" [.str name, .str name, Sexp.mk "fp" []]]) ∧
    (∀ rg ∈ td.regions, rg.isBase = true → ∃ b bp btd, rg.name = some b ∧ rg.ty = .data (.raw bp) ∧
      Exec.typeDefn? s.reg bp = some btd ∧ ([b], rg.ty) ∈ hier ∧
      ∀ e ∈ Emit.dfsHierarchy s.reg s.reg.types.length btd [b], e ∈ hier) := by
  intro name hier
  refine ⟨?_, ?_⟩
  · rw [itemItems_type s.reg i r td hc hs hin]
    exact conversions_emitted s.reg i.path r.size r.align i.vis td
  · intro rg hrg hbase
    rcases case_built c hps hb s h p i r td hg hs hin hc with hgen |
      ⟨item, d, s0, s1, module, module1, ta, sa, vptr, placed, acc1, acc2, hD, hd, hi, hp, hQ, he, B⟩
    · rw [hgen.not_base hs hin rg hrg] at hbase; cases hbase
    · obtain ⟨b, bp, btd, hname, hty, htd, hr⟩ := (B.inherited he).1 rg hrg hbase
      have hsub : ∀ e ∈ ([b], rg.ty) :: Emit.dfsHierarchy s.reg s.reg.types.length btd [b], e ∈ hier := by
        intro e he'
        show e ∈ Emit.dfsHierarchy s.reg (s.reg.types.length + 1) td []
        rw [dfs_unfold, List.mem_flatMap]
        refine ⟨rg, List.mem_filter.mpr ⟨hrg, hbase⟩, ?_⟩
        rw [hr]
        exact he'
      exact ⟨b, bp, btd, hname, hty, htd, hsub _ List.mem_cons_self, fun e he' => hsub e (List.mem_cons_of_mem _ he')⟩

end PyxisVerif.C07

namespace PyxisVerif.C11
open Gen Layout CaseLift CaseLift2

/-- **`lookup_sites` and `emitted_reference` for the fields of every emitted struct of every accepted case.**  Every
    emitted struct `p` of the final registry is a generated vftable struct or was built from a definition written in the
    case under module path `path`; then every field of the emitted struct is generated (private, undocumented: padding,
    the vftable pointer) or is a named field statement `name: ty` of the definition, and its type is `ty` resolved
    (`resolve_grammar_type`) with the scope "own module path, then the `use` entries of the module written in the case
    under that path" (`UsesOf`), in a registry `s0.reg` that the final registry extends; a bare name goes through the one
    lookup rule (`resolveString` with that scope); every definition the binding mentions exists in the final registry;
    and the type string of the emitted field is `tyStr` of that binding – for a named definition its fully qualified crate
    path.  The struct item emitted lists one `fld` per region with that type string. -/
theorem case_lookup_sites_fields (c : Case) (hps : c.ps = 4 ∨ c.ps = 8) (hb : C12.CaseBounded c) (s : State)
    (h : c.run = .ok s) (p : Path) (i : ItemDef) (r : Resolved) (td : TypeDefn)
    (hg : s.reg.get p = some i) (hs : i.state = .res r) (hin : r.inner = .type td) (hc : i.cat = .defined) :
    (∃ (reg0 : Registry) (owner : Path) (vis : Vis) (fns : List SFunc),
        buildVftableItem reg0 owner vis fns = some i ∧ i.path = p ∧ i.vis = vis ∧
        td = { regions := fns.map (functionToRegion owner) }) ∨
    ∃ (item : G.Item) (d : G.TypeDef) (s0 : State) (path : Path) (uses : List Path),
      Declared c p item ∧ item.inner = .type d ∧ p = path ++ [item.name] ∧ C02.Ext s0.reg s.reg ∧ UsesOf c path uses ∧
      (∃ hd tl, Emit.itemItems s.reg i = Sexp.mk "struct" (hd ++ td.regions.map fun rg =>
          Sexp.mk "fld" [Emit.docsS rg.doc, Emit.visS rg.vis, .str (rg.name.getD ""), .str (Emit.rtyStr rg.ty)]) :: tl) ∧
      ∀ rg ∈ td.regions, (rg.vis = .priv ∧ rg.doc = none) ∨
        ∃ st ∈ d.stmts, ∃ (vis : Vis) (name : String) (ty : G.Ty) (t : DTy),
          st.field = .field vis name ty ∧ rg.name = some name ∧
          s0.reg.resolveTy (path :: uses) ty = .ok t ∧ rg.ty = .data t ∧
          (∀ nm, ty = .ident nm → s0.reg.resolveString (path :: uses) nm = some t) ∧
          (∀ q ∈ C13.rawPaths t, s.reg.contains q = true) ∧
          Emit.rtyStr rg.ty = Emit.tyStr t ∧
          (∀ q, t = .raw q → Emit.rtyStr rg.ty =
            if q = ["void"] then "::std::ffi::c_void"
            else if q.length > 1 then "crate::" ++ "::".intercalate q else "::".intercalate q) := by
  rcases case_built c hps hb s h p i r td hg hs hin hc with hgen |
    ⟨item, d, s0, s1, module, module1, ta, sa, vptr, placed, acc1, acc2, hD, hd, hi, hp, hQ, he, B⟩
  · exact Or.inl (hgen.td hs hin)
  · obtain ⟨path, uses, hp', hscope, huses⟩ := scope_src c s0 hQ hD module B.mod
    have he0 := B.ext.trans he
    refine Or.inr ⟨item, d, s0, path, uses, hD, hd, hp', he0, huses, ?_, ?_⟩
    · obtain ⟨derives, repr, tl, hem⟩ := C17.docs_on_struct_and_fields s.reg i.path r.size r.align i.vis td
      rw [itemItems_type s.reg i r td hc hs hin, hem]
      exact ⟨_, tl, rfl⟩
    · intro rg hrg
      rcases B.field_src rg hrg with hgen | ⟨st, hst, vis, name, ty, t, hf, _, hname, _, hrt, hty⟩
      · exact Or.inl hgen
      · rw [hscope] at hrt
        refine Or.inr ⟨st, hst, vis, name, ty, t, hf, hname, hrt, hty, ?_, ?_, by rw [hty]; rfl, ?_⟩
        · intro nm hnm
          subst hnm
          exact resolveTy_ident s0.reg (path :: uses) nm t hrt
        · intro q hq
          exact contains_ext he0 q (C13.printed_paths_exist s0.reg (path :: uses) ty t hrt q hq)
        · intro q hq
          rw [hty, hq]
          exact emitted_reference q

/-- **`lookup_sites` for the parameter and return types of every function of every emitted struct.**  Every
    associated function of an emitted struct of the final registry is an inherited forwarder, or is built from a function
    `gf` written in a function block for the type in the case, and then its parameters are the declared ones and every
    named parameter's type, and the return type, is the written type resolved with the scope "own module path, then the
    `use` entries of the module written under that path", in a registry `s1.reg` that the final registry extends
    (`FnTypes`); if the definition starts with a vftable block the same holds for every non-placeholder slot of the
    type's table.  The emitted wrapper lists the parameters as `name: tyStr(binding)` and the return type as
    `tyStr(binding)`. -/
theorem case_lookup_sites_functions (c : Case) (hps : c.ps = 4 ∨ c.ps = 8) (hb : C12.CaseBounded c) (s : State)
    (h : c.run = .ok s) (p : Path) (i : ItemDef) (r : Resolved) (td : TypeDefn)
    (hg : s.reg.get p = some i) (hs : i.state = .res r) (hin : r.inner = .type td) (hc : i.cat = .defined) :
    (∀ f ∈ td.fns,
      ((∃ b fn, f.body = .field b fn) ∨
       ∃ (gf : G.Func) (s1 : State) (path : Path) (uses : List Path),
        DeclaredFn c p gf ∧ (∃ name, p = path ++ [name]) ∧ C02.Ext s1.reg s.reg ∧ UsesOf c path uses ∧
        f.name = gf.name ∧ FnTypes s1.reg (path :: uses) gf f) ∧
      ∃ body, Emit.methodS f = Sexp.mk "method" [Emit.docsS f.doc, Emit.visS f.vis, .str f.name,
        Sexp.mk "params" (f.args.map Emit.paramS), Emit.optTyS f.ret, body]) ∧
    (∀ v, td.vft = some v →
      ∃ (item : G.Item) (d : G.TypeDef) (s0 : State) (path : Path) (uses : List Path),
        Declared c p item ∧ item.inner = .type d ∧ p = path ++ [item.name] ∧ C02.Ext s0.reg s.reg ∧ UsesOf c path uses ∧
        ∀ st gfns, d.stmts[0]? = some st → st.field = .vftable gfns →
          ∀ (k : Nat) (f : SFunc), v.fns[k]? = some f →
            (∃ gf ∈ gfns, f.name = gf.name ∧ FnTypes s0.reg (path :: uses) gf f) ∨ f = placeholderFn k) ∧
    (∀ n t, Emit.paramS (.field n t) = Sexp.mk "arg" [.str n, .str (Emit.tyStr t)]) ∧
    (∀ t, Emit.optTyS (some t) = Sexp.ofOpt (fun t => .str (Emit.tyStr t)) (some t)) := by
  refine ⟨?_, ?_, fun _ _ => rfl, fun _ => rfl⟩
  · intro f hf
    refine ⟨?_, _, rfl⟩
    rcases C05.case_built_shape c hps hb s h p i r td hg hs hin hc f hf with hfw |
      ⟨gf, s1, path, file, m, hgf, hm, hp, he, hbf, _, _, _, hname, _⟩
    · exact Or.inl hfw
    · exact Or.inr ⟨gf, s1, path, m.uses, hgf, hp, he, Or.inr ⟨file, m, hm, rfl⟩, hname,
        fnTypes_of_built s1.reg (path :: m.uses) false gf f hbf⟩
  · intro v hv
    rcases case_built c hps hb s h p i r td hg hs hin hc with hgen |
      ⟨item, d, s0, s1, module, module1, ta, sa, vptr, placed, acc1, acc2, hD, hd, hi, hp, hQ, he, B⟩
    · rw [(hgen.plain hs hin).2] at hv; cases hv
    · obtain ⟨path, uses, hp', hscope, huses⟩ := scope_src c s0 hQ hD module B.mod
      refine ⟨item, d, s0, path, uses, hD, hd, hp', B.ext.trans he, huses, ?_⟩
      intro st gfns hst hf k f hk
      rcases B.slot_src hst hf hv hk with ⟨gf, hgf, hbf⟩ | hph
      · rw [hscope] at hbf
        exact Or.inl ⟨gf, hgf, (C04.vfunc_body s0.reg (path :: uses) gf f hbf).2,
          fnTypes_of_built s0.reg (path :: uses) true gf f hbf⟩
      · exact Or.inr hph

/-- **`lookup_sites` for the base type of every enum**: the base of every resolved enum of the final registry is the
    written base type resolved with the scope "own module path, then the `use` entries of the module written under that
    path", in a registry the final one extends; the emitted item carries `repr(tyStr(binding))` -/
theorem case_lookup_sites_enum (c : Case) (hps : c.ps = 4 ∨ c.ps = 8) (hb : C12.CaseBounded c) (s : State)
    (h : c.run = .ok s) (p : Path) (i : ItemDef) (r : Resolved) (ed : EnumDefn)
    (hg : s.reg.get p = some i) (hs : i.state = .res r) (hin : r.inner = .enum ed) :
    ∃ (item : G.Item) (d : G.EnumDef) (s0 : State) (path : Path) (uses : List Path),
      Declared c p item ∧ item.inner = .enum d ∧ p = path ++ [item.name] ∧ C02.Ext s0.reg s.reg ∧ UsesOf c path uses ∧
      s0.reg.resolveTy (path :: uses) d.ty = .ok ed.ty ∧
      (∀ q ∈ C13.rawPaths ed.ty, s.reg.contains q = true) ∧
      ∃ docs derives rest tl, Emit.itemItems s.reg i =
        Sexp.mk "enum" (docs :: derives :: Sexp.mk "repr" [.str (Emit.tyStr ed.ty)] :: rest) :: tl := by
  obtain ⟨s0, item, d, hQ, hD, hd, hbe, he, hi⟩ := case_enum_origin c hps hb s h p i r ed hg hs hin
  obtain ⟨module, rng, acc, ea, E⟩ := EnumBuild.of_ok hbe hin
  obtain ⟨path, uses, hp, hscope, huses⟩ := scope_src c s0 hQ hD module E.mod
  have hres := E.ty
  rw [hscope] at hres
  refine ⟨item, d, s0, path, uses, hD, hd, hp, he, huses, hres, ?_, ?_⟩
  · intro q hq
    exact contains_ext he q (C13.printed_paths_exist s0.reg (path :: uses) d.ty ed.ty hres q hq)
  · obtain ⟨docs, derives, tl, hem⟩ := C08.emitted p r.size item.vis ed
    rw [itemItems_enum s.reg i r ed (by rw [hi]; rfl) hs hin, hi]
    exact ⟨docs, derives, _, tl, hem⟩

/-- **`lookup_sites` for extern values**: the type of every extern value of every module of the final state is the
    type written on an extern value of the case under the module's path, resolved – in the final registry – with the
    scope "own module path, then the `use` entries of the module written under that path"; the emitted accessor returns
    `tyStr(binding)` -/
theorem case_lookup_sites_xvals (c : Case) (hps : c.ps = 4 ∨ c.ps = 8) (hb : C12.CaseBounded c) (s : State)
    (h : c.run = .ok s) :
    ∀ e ∈ s.modules, ∀ x ∈ e.2.xvals, ∃ (gx : G.XVal) (uses : List Path) (t : DTy),
      DeclaredX c e.1 gx ∧ UsesOf c e.1 uses ∧ s.reg.resolveTy (e.1 :: uses) gx.ty = .ok t ∧ x.ty = some t ∧
      (∀ q ∈ C13.rawPaths t, s.reg.contains q = true) ∧
      Emit.xvalItem x = Sexp.mk "xaccessor" [Emit.visS x.vis, .str ("get_" ++ unraw x.name), .str (Emit.tyStr t), .int x.addr] := by
  intro e he x hx
  obtain ⟨gx, hgx, ⟨a, _, _, _, _, _, hgty⟩, t, ht, hty⟩ := case_xvals c s h e he x hx
  obtain ⟨hscope, huses⟩ := case_modules_src c hps hb s h e he
  rw [hscope, hgty] at ht
  exact ⟨gx, e.2.uses, t, hgx, huses, ht, hty, C13.printed_paths_exist s.reg _ gx.ty t ht,
    C15.extern_accessor_emitted x t hty⟩

/-- **`layout_uses_binding`, for every accepted case**: the layout core, run in the final registry on the declared
    fields of an emitted struct, accepts them with the struct's size (`TypeBuild.layout_in`), and the size and alignment it
    is handed for a field whose type is a named definition `bq` are exactly those recorded for `bq` in the final
    registry -/
theorem case_layout_uses_binding (c : Case) (hps : c.ps = 4 ∨ c.ps = 8) (hb : C12.CaseBounded c) (s : State)
    (h : c.run = .ok s) (p : Path) (i : ItemDef) (r : Resolved) (td : TypeDefn)
    (hg : s.reg.get p = some i) (hs : i.state = .res r) (hin : r.inner = .type td) (hc : i.cat = .defined) :
    (∃ (reg0 : Registry) (owner : Path) (vis : Vis) (fns : List SFunc),
      buildVftableItem reg0 owner vis fns = some i ∧ i.path = p) ∨
    ∃ (item : G.Item) (d : G.TypeDef) (ta : TypeAttrs) (pending : List (Option Nat × Region)) (vptr : Option Region)
      (placed : List (Placed Region)),
      Declared c p item ∧ item.inner = .type d ∧
      resolve (vptr.map (toPField s.reg none)) (pending.map fun q => toPField s.reg q.1 q.2) ta.targetSize
        = .ok (placed, r.size) ∧
      ∀ q ∈ pending, ∀ bq, q.2.ty = .data (.raw bq) →
        DTy.size s.reg (.raw bq) = .ok ((s.reg.get bq).bind fun i => i.resolved?.map (·.size)) ∧
        DTy.align s.reg (.raw bq) = ((s.reg.get bq).bind fun i => i.resolved?.map (·.align)) ∧
        ∃ bi br, s.reg.get bq = some bi ∧ bi.state = .res br ∧
          (toPField s.reg q.1 q.2).size = .ok (some br.size) ∧ (toPField s.reg q.1 q.2).align = some br.align := by
  rcases case_built c hps hb s h p i r td hg hs hin hc with hgen |
    ⟨item, d, s0, s1, module, module1, ta, sa, vptr, placed, acc1, acc2, hD, hd, hi, hp, hQ, he, B⟩
  · exact Or.inl hgen
  · have hres := B.layout_in he
    refine Or.inr ⟨item, d, ta, sa.pending, vptr, placed, hD, hd, hres, ?_⟩
    intro q hq bq hty
    obtain ⟨n, hn⟩ := (resolve_sizes _ _ _ _ _ hres).2 (toPField s.reg q.1 q.2) (List.mem_map.mpr ⟨q, hq, rfl⟩)
    refine ⟨(layout_uses_binding s.reg bq).1, (layout_uses_binding s.reg bq).2, ?_⟩
    have hn' : q.2.ty.size s.reg = .ok (some n) := hn
    rw [hty] at hn'
    simp only [RTy.size, DTy.size, Res.ok.injEq] at hn'
    cases hgq : s.reg.get bq with
    | none => rw [hgq] at hn'; cases hn'
    | some bi =>
      rw [hgq] at hn'
      simp only [Option.bind_some, Option.map_eq_some_iff] at hn'
      obtain ⟨br, hbr, rfl⟩ := hn'
      refine ⟨bi, br, rfl, C02.resolved?_eq hbr, ?_, ?_⟩
      · show q.2.ty.size s.reg = _
        rw [hty]
        simp only [RTy.size, DTy.size, hgq, Option.bind_some, hbr, Option.map_some]
      · show q.2.ty.align s.reg = _
        rw [hty]
        simp only [RTy.align, DTy.align, hgq, Option.bind_some, hbr, Option.map_some]

end PyxisVerif.C11

namespace PyxisVerif.C13
open Gen Layout CaseLift CaseLift2

/-- **`field_names_distinct` (E0124) and `base_fields_named`, for every accepted case.**  Every emitted struct of the
    final registry is a generated vftable struct or was built from a definition written in the case, and then the named
    fields the definition declares (the statement loop's pending fields) are pairwise distinct, every `#[base]` field
    among them is named, and every field of the emitted struct is generated (private, undocumented: padding, the
    vftable pointer) or one of these named declared fields; every `#[base]` field of the emitted struct is named -/
theorem case_field_names_distinct (c : Case) (hps : c.ps = 4 ∨ c.ps = 8) (hb : C12.CaseBounded c) (s : State)
    (h : c.run = .ok s) (p : Path) (i : ItemDef) (r : Resolved) (td : TypeDefn)
    (hg : s.reg.get p = some i) (hs : i.state = .res r) (hin : r.inner = .type td) (hc : i.cat = .defined) :
    (∃ (reg0 : Registry) (owner : Path) (vis : Vis) (fns : List SFunc),
        buildVftableItem reg0 owner vis fns = some i ∧ i.path = p ∧ i.vis = vis ∧
        td = { regions := fns.map (functionToRegion owner) }) ∨
    ∃ (item : G.Item) (d : G.TypeDef) (s0 : State) (module : Mod) (sa : StmtAcc),
      Declared c p item ∧ item.inner = .type d ∧ s0.moduleFor p = some module ∧ C02.Ext s0.reg s.reg ∧
      Res.foldlM (stmtStep s0.reg module.scope) {} (d.stmts.zipIdx.map fun q => (q.2, q.1)) = .ok sa ∧
      (sa.pending.filterMap (·.2.name)).Nodup ∧
      (∀ q ∈ sa.pending, q.2.isBase = true → q.2.name.isSome = true) ∧
      (∀ rg ∈ td.regions, (rg.vis = .priv ∧ rg.doc = none) ∨ (rg.name.isSome ∧ rg ∈ sa.pending.map (·.2))) ∧
      (∀ rg ∈ td.regions, rg.isBase = true → rg.name.isSome = true) := by
  rcases case_built c hps hb s h p i r td hg hs hin hc with hgen |
    ⟨item, d, s0, s1, module, module1, ta, sa, vptr, placed, acc1, acc2, hD, hd, hi, hp, hQ, he, B⟩
  · exact Or.inl (hgen.td hs hin)
  · refine Or.inr ⟨item, d, s0, module, sa, hD, hd, B.mod, B.ext.trans he, B.stmts,
      field_names_distinct s0.reg module.scope _ sa B.stmts, base_fields_named s0.reg module.scope _ sa B.stmts,
      B.region_src, ?_⟩
    intro rg hrg hbase
    obtain ⟨b, _, _, hname, _⟩ := (B.inherited he).1 rg hrg hbase
    rw [hname]; rfl

/-- **`base_fields_named`, for every accepted case** (the accessor and the forwarders refer to base fields by name):
    every `#[base]` field of every emitted struct of the final registry is a named field whose type is a resolved struct
    in the final registry -/
theorem case_base_fields_named (c : Case) (hps : c.ps = 4 ∨ c.ps = 8) (hb : C12.CaseBounded c) (s : State)
    (h : c.run = .ok s) (p : Path) (i : ItemDef) (r : Resolved) (td : TypeDefn)
    (hg : s.reg.get p = some i) (hs : i.state = .res r) (hin : r.inner = .type td) (hc : i.cat = .defined) :
    ∀ rg ∈ td.regions, rg.isBase = true →
      ∃ b bp btd, rg.name = some b ∧ rg.ty = .data (.raw bp) ∧ Exec.typeDefn? s.reg bp = some btd := by
  intro rg hrg hbase
  rcases case_built c hps hb s h p i r td hg hs hin hc with hgen |
    ⟨item, d, s0, s1, module, module1, ta, sa, vptr, placed, acc1, acc2, hD, hd, hi, hp, hQ, he, B⟩
  · rw [hgen.not_base hs hin rg hrg] at hbase; cases hbase
  · obtain ⟨b, bp, btd, h1, h2, h3, _⟩ := (B.inherited he).1 rg hrg hbase
    exact ⟨b, bp, btd, h1, h2, h3⟩

/-- **`enum_cases_distinct` (E0084, E0081, E0428), for every accepted case**: every resolved enum of the final registry
    has at least one case, and its cases have pairwise distinct names and pairwise distinct values -/
theorem case_enum_cases_distinct (c : Case) (hps : c.ps = 4 ∨ c.ps = 8) (hb : C12.CaseBounded c) (s : State)
    (h : c.run = .ok s) (p : Path) (i : ItemDef) (r : Resolved) (ed : EnumDefn)
    (hg : s.reg.get p = some i) (hs : i.state = .res r) (hin : r.inner = .enum ed) :
    ed.fields ≠ [] ∧ (ed.fields.map (·.1)).Nodup ∧ (ed.fields.map (·.2)).Nodup := by
  obtain ⟨s0, item, d, _, _, _, hbe, _, _⟩ := case_enum_origin c hps hb s h p i r ed hg hs hin
  obtain ⟨ed', hin', h1, h2, h3⟩ := enum_cases_distinct s0 p d r hbe
  cases hin.symm.trans hin'
  exact ⟨h1, h2, h3⟩

/-- **`align_is_pow2` (E0589), for every accepted case**: the alignment of every resolved item of the final registry –
    in particular the `N` written into `repr(C, align(N))` of every emitted struct that is not packed – is a power of
    two -/
theorem case_align_is_pow2 (c : Case) (hps : c.ps = 4 ∨ c.ps = 8) (hb : C12.CaseBounded c) (s : State)
    (h : c.run = .ok s) (p : Path) (i : ItemDef) (r : Resolved) (hg : s.reg.get p = some i) (hs : i.state = .res r) :
    (∃ k, r.align = 2 ^ k) ∧
    ∀ td, r.inner = .type td → i.cat = .defined →
      ∃ docs derives rest tl, Emit.itemItems s.reg i =
        Sexp.mk "struct" (docs :: derives ::
          Sexp.mk "repr" (if td.packed then [.str "C", .str "packed"]
            else [.str "C", .str ("align(" ++ toString r.align ++ ")")]) :: rest) :: tl := by
  refine ⟨?_, ?_⟩
  · have := ((case_regOk c hps hb s h).aligns p i r hg hs).1
    unfold Layout.isPow2 at this
    simp only [Bool.and_eq_true, bne_iff_ne, ne_eq, beq_iff_eq] at this
    exact ⟨_, this.2.symm⟩
  · intro td hin hc
    rw [itemItems_type s.reg i r td hc hs hin]
    exact C17.packed_no_align s.reg i.path r.size r.align i.vis td

/-- … and for a struct built from a definition that is not `#[packed]` this is the per-item theorem applied to the
    alignment block run, in the final registry, on the struct's placed fields -/
theorem case_align_is_pow2_block (c : Case) (hps : c.ps = 4 ∨ c.ps = 8) (hb : C12.CaseBounded c) (s : State)
    (h : c.run = .ok s) (p : Path) (i : ItemDef) (r : Resolved) (td : TypeDefn)
    (hg : s.reg.get p = some i) (hs : i.state = .res r) (hin : r.inner = .type td) (hc : i.cat = .defined) :
    (∃ (reg0 : Registry) (owner : Path) (vis : Vis) (fns : List SFunc),
      buildVftableItem reg0 owner vis fns = some i ∧ i.path = p) ∨
    ∃ (item : G.Item) (d : G.TypeDef) (ta : TypeAttrs) (placed : List (Placed Region)),
      Declared c p item ∧ item.inner = .type d ∧ Res.foldlM typeAttrStep {} d.attrs = .ok ta ∧
      td.packed = ta.packed ∧ alignCheck s.reg.ps ta.packed ta.align placed r.size = .ok r.align ∧
      (td.packed = false → ∃ k, r.align = 2 ^ k) := by
  rcases case_built c hps hb s h p i r td hg hs hin hc with hgen |
    ⟨item, d, s0, s1, module, module1, ta, sa, vptr, placed, acc1, acc2, hD, hd, hi, hp, hQ, he, B⟩
  · exact Or.inl hgen
  · have hal := B.align_in he
    refine Or.inr ⟨item, d, ta, placed, hD, hd, B.attrs, B.packed, hal, ?_⟩
    intro hnp
    rw [B.packed] at hnp
    rw [hnp] at hal
    exact align_is_pow2 s.reg.ps ta.align placed r.size r.align hal

/-- **`copy_implies_clone` (E0204), for every accepted case**: whenever the struct item emitted for a struct of the
    final registry derives `Copy`, it derives `Clone` too -/
theorem case_copy_implies_clone (c : Case) (hps : c.ps = 4 ∨ c.ps = 8) (hb : C12.CaseBounded c) (s : State)
    (h : c.run = .ok s) (p : Path) (i : ItemDef) (r : Resolved) (td : TypeDefn)
    (hg : s.reg.get p = some i) (hs : i.state = .res r) (hin : r.inner = .type td) (hc : i.cat = .defined) :
    ("Copy" ∈ Emit.derivesOf td.copyable td.cloneable td.defaultable →
      "Clone" ∈ Emit.derivesOf td.copyable td.cloneable td.defaultable) ∧
    ∃ docs rest tl, Emit.itemItems s.reg i =
      Sexp.mk "struct" (docs ::
        Sexp.mk "derives" ((Emit.derivesOf td.copyable td.cloneable td.defaultable).map .str) :: rest) :: tl := by
  refine ⟨?_, ?_⟩
  · rcases C17.case_type_flags c hps hb s h p i r td hg hs hin hc with ⟨_, hnil, _⟩ | ⟨item, d, _, _, hder, _⟩
    · rw [hnil]; intro hx; cases hx
    · rw [hder]; exact copy_implies_clone d.attrs
  · obtain ⟨tl, htl⟩ := C17.typeItems_head s.reg i.path r.size r.align i.vis td
    rw [itemItems_type s.reg i r td hc hs hin, htl]
    exact ⟨_, _, tl, rfl⟩

/-- … and the same for every resolved enum (after the five fixed derives) -/
theorem case_enum_copy_implies_clone (c : Case) (hps : c.ps = 4 ∨ c.ps = 8) (hb : C12.CaseBounded c) (s : State)
    (h : c.run = .ok s) (p : Path) (i : ItemDef) (r : Resolved) (ed : EnumDefn)
    (hg : s.reg.get p = some i) (hs : i.state = .res r) (hin : r.inner = .enum ed) :
    ∃ (item : G.Item) (d : G.EnumDef), Declared c p item ∧ item.inner = .enum d ∧
      ("Copy" ∈ C17.specDerives d.attrs → "Clone" ∈ C17.specDerives d.attrs) ∧
      ∃ rest tl, Emit.itemItems s.reg i =
        Sexp.mk "enum" (Emit.docsS ed.doc ::
          Sexp.mk "derives" ((["PartialEq", "Eq", "PartialOrd", "Ord", "Debug"] ++ C17.specDerives d.attrs).map .str) ::
          rest) :: tl := by
  obtain ⟨item, d, hD, hd, _, _, hem⟩ := C17.case_enum_flags c hps hb s h p i r ed hg hs hin
  exact ⟨item, d, hD, hd, copy_implies_clone d.attrs, hem⟩

/-- **`defaultable_fields` (E0277), for every accepted case**: in every `defaultable` struct of the final registry no
    field is a pointer or function pointer, and the type every field is made of (the element type of an array) is, in
    the **final** registry, a resolved item that is itself defaultable -/
theorem case_defaultable_fields (c : Case) (hps : c.ps = 4 ∨ c.ps = 8) (hb : C12.CaseBounded c) (s : State)
    (h : c.run = .ok s) (p : Path) (i : ItemDef) (r : Resolved) (td : TypeDefn)
    (hg : s.reg.get p = some i) (hs : i.state = .res r) (hin : r.inner = .type td) (hc : i.cat = .defined)
    (hdef : td.defaultable = true) :
    ∀ rg ∈ td.regions, ∃ q item res, defaultablePath rg.ty = some q ∧ s.reg.get q = some item ∧
      item.state = .res res ∧ res.inner.defaultable = true := by
  rcases case_built c hps hb s h p i r td hg hs hin hc with hgen |
    ⟨item, d, s0, s1, module, module1, ta, sa, vptr, placed, acc1, acc2, hD, hd, hi, hp, hQ, he, B⟩
  · obtain ⟨_, _, _, _, _, _, _, htd⟩ := hgen.td hs hin
    rw [htd] at hdef; cases hdef
  · intro rg hrg
    obtain ⟨q, item', hq, hget, hres⟩ := defaultable_fields s1.reg td.regions (B.checked hdef) rg hrg
    obtain ⟨f, hf⟩ := fldsOf_mem s1.reg td.regions _ (Exec.fldsOf_placed s1.reg (B.prims hp) vptr sa.pending
      ta.targetSize placed r.size B.layout td.regions B.named) rg hrg
    have hresd : ∃ it res, s1.reg.get q = some it ∧ it.state = .res res := by
      unfold Exec.fldOf at hf
      simp only [Option.map_eq_some_iff] at hf
      obtain ⟨x, hx, _⟩ := hf
      cases hty : rg.ty with
      | data t =>
        rw [hty] at hx hq
        exact tyLayout_defaultablePath s1.reg t x q hx hq
      | fn cc args ret => rw [hty] at hq; cases hq
    obtain ⟨it, res, hg1, hst⟩ := hresd
    rw [hget] at hg1
    cases hg1
    exact ⟨q, item', res, hq, he.res hget hst, hst, hres res hst⟩

/-- **`vfuncs_have_receiver` (E0424), for every accepted case**: every virtual function written in the vftable block of
    the definition of an emitted struct of the final registry has a `&self` / `&mut self` parameter -/
theorem case_vfuncs_have_receiver (c : Case) (hps : c.ps = 4 ∨ c.ps = 8) (hb : C12.CaseBounded c) (s : State)
    (h : c.run = .ok s) (p : Path) (i : ItemDef) (r : Resolved) (td : TypeDefn)
    (hg : s.reg.get p = some i) (hs : i.state = .res r) (hin : r.inner = .type td) (hc : i.cat = .defined) :
    (∃ (reg0 : Registry) (owner : Path) (vis : Vis) (fns : List SFunc),
        buildVftableItem reg0 owner vis fns = some i ∧ i.path = p ∧ i.vis = vis ∧
        td = { regions := fns.map (functionToRegion owner) }) ∨
    ∃ (item : G.Item) (d : G.TypeDef),
      Declared c p item ∧ item.inner = .type d ∧
      ∀ st gfns, d.stmts[0]? = some st → st.field = .vftable gfns → ∀ f ∈ gfns, hasReceiver f = true := by
  rcases case_built c hps hb s h p i r td hg hs hin hc with hgen |
    ⟨item, d, s0, s1, module, module1, ta, sa, vptr, placed, acc1, acc2, hD, hd, hi, hp, hQ, he, B⟩
  · exact Or.inl (hgen.td hs hin)
  · refine Or.inr ⟨item, d, hD, hd, ?_⟩
    intro st gfns hst hf f hfm
    obtain ⟨_, _, _, _, _, hrecv, _⟩ := B.block he hst hf
    exact hrecv f hfm

end PyxisVerif.C13

namespace PyxisVerif.C14
open Gen Layout CaseLift CaseLift2

/-- **`files_per_module` and `file_name`, for every accepted case: one file per (non-root) module of the case, named
    after the module path.**  The keys of the stored modules of the final state are pairwise distinct; there is one file
    per stored non-root module; every emitted file is the file of a stored module whose path is the path of a module
    **written in the case**, and is named `<path>.rs` (`specFile`); conversely every non-root module path of the case has
    exactly one stored module, whose file is emitted -/
theorem case_files_per_module (c : Case) (hps : c.ps = 4 ∨ c.ps = 8) (hb : C12.CaseBounded c) (s : State)
    (h : c.run = .ok s) :
    (s.modules.map (·.1)).Nodup ∧
    (Emit.files s).length = (s.modules.filter fun e => !e.1.isEmpty).length ∧
    (∀ f ∈ Emit.files s, ∃ e ∈ s.modules, e.1 ≠ [] ∧ (∃ file m, ModEnt.ast e.1 file m ∈ c.modules) ∧
      f = Emit.moduleFile s e.1 e.2 ∧ ∃ body, f = Sexp.mk "file" [.str (specFile e.1), body]) ∧
    (∀ path file m, ModEnt.ast path file m ∈ c.modules → path ≠ [] →
      ∃ md, (path, md) ∈ s.modules ∧ (∀ md', (path, md') ∈ s.modules → md' = md) ∧
        Emit.moduleFile s path md ∈ Emit.files s) := by
  have hinv := case_modInv c s h
  refine ⟨hinv.keys, (files_per_module s).1, ?_, ?_⟩
  · intro f hf
    obtain ⟨e, he, hne, rfl⟩ := (files_per_module s).2 f hf
    refine ⟨e, he, hne, ?_, rfl, file_name s e.1 e.2⟩
    rcases (case_modules_src c hps hb s h e he).2 with ⟨h0, _⟩ | ⟨file, m, hm, _⟩
    · exact absurd h0 hne
    · exact ⟨file, m, hm⟩
  · intro path file m hm hne
    obtain ⟨md, hmd⟩ := case_modules_present c s h path file m hm
    refine ⟨md, hmd, ?_, moduleFile_mem_files s (path, md) hmd hne⟩
    exact fun md' hmd' => mem_unique_of_nodup_keys s.modules hinv.keys hmd' hmd

/-- **`only_defined_emitted`, for every accepted case: a file contains only items of defined category of its module.**
    Every item of every emitted file is a backend block, the accessor of an extern value of the module, or one of the
    items printed for an entry `i` of the final registry that is listed in the module's definition paths under its own
    path `q`, is a child of the module's path, is of *defined* category and is resolved; and entries of any other
    category (built-in, extern) print nothing -/
theorem case_only_defined_emitted (c : Case) (hps : c.ps = 4 ∨ c.ps = 8) (hb : C12.CaseBounded c) (s : State)
    (h : c.run = .ok s) :
    (∀ f ∈ Emit.files s, ∀ x ∈ fileItems f,
      ∃ e ∈ s.modules, e.1 ≠ [] ∧ f = Emit.moduleFile s e.1 e.2 ∧
        (Sexp.head? x = some "opaque-block" ∨
         (∃ q ∈ e.2.defPaths, ∃ i, s.reg.get q = some i ∧ i.path = q ∧ Path.parent? q = some e.1 ∧
            i.cat = .defined ∧ (∃ r, i.state = .res r) ∧ x ∈ Emit.itemItems s.reg i) ∨
         (∃ xv ∈ e.2.xvals, x = Emit.xvalItem xv))) ∧
    (∀ p i, s.reg.get p = some i → i.cat ≠ .defined → Emit.itemItems s.reg i = []) := by
  have hinv := case_modInv c s h
  have hwk := (case_regOk c hps hb s h).wellKeyed
  refine ⟨?_, fun p i _ hc => only_defined_emitted s.reg i hc⟩
  intro f hf x hx
  obtain ⟨e, he, hne, hfe, hcases⟩ := files_items s f hf x hx
  refine ⟨e, he, hne, hfe, ?_⟩
  rcases hcases with hb' | ⟨q, hq, i, hg, hxi⟩ | hxv
  · exact Or.inl hb'
  · obtain ⟨hc, hr⟩ := itemItems_inv s.reg i x hxi
    exact Or.inr (Or.inl ⟨q, hq, i, hg, hwk q i hg, hinv.parent e he q hq, hc, hr, hxi⟩)
  · exact Or.inr (Or.inr hxv)

/-- **`defPaths_nodup`, for every accepted case: each definition is listed – and so emitted – once.**  In the final
    state the definition paths of every stored module are pairwise distinct, each is an entry of the final registry, and
    the entries the module's file is printed from are pairwise distinct -/
theorem case_defPaths_nodup (c : Case) (hps : c.ps = 4 ∨ c.ps = 8) (hb : C12.CaseBounded c) (s : State)
    (h : c.run = .ok s) :
    ∀ e ∈ s.modules, e.2.defPaths.Nodup ∧ (∀ q ∈ e.2.defPaths, ∃ i, s.reg.get q = some i ∧ i.path = q) ∧
      (e.2.defPaths.filterMap s.reg.get).Nodup := by
  have hinv := case_modInv c s h
  have hwk := (case_regOk c hps hb s h).wellKeyed
  intro e he
  refine ⟨hinv.nodup e he, ?_, ?_⟩
  · intro q hq
    have := hinv.listed e he q hq
    unfold Registry.contains at this
    cases hg : s.reg.get q with
    | none => rw [hg] at this; cases this
    | some i => exact ⟨i, rfl, hwk q i hg⟩
  · have hn : List.Pairwise (· ≠ ·) e.2.defPaths := hinv.nodup e he
    show List.Pairwise (· ≠ ·) (e.2.defPaths.filterMap s.reg.get)
    refine List.Pairwise.filterMap s.reg.get ?_ hn
    intro a a' hne b hb1 b' hb2 hbb
    apply hne
    subst hbb
    rw [← hwk a b hb1, ← hwk a' b hb2]

/-- **every item of a non-root module is emitted in the file of its module**, for every accepted case whose module
    paths are pairwise distinct (without this hypothesis the statement is false: `add_module` replaces a stored module of
    the same path, whose definition paths start empty again).  Every entry `i` of the final registry registered under
    `q = par ++ [name]` with `par` a non-root module path is listed in the definition paths of the one module stored
    under `par`, whose file `<par>.rs` is emitted and contains every item printed for `i` -/
theorem case_every_item_in_its_file (c : Case) (hnd : (astPaths c.modules).Nodup) (s : State) (h : c.run = .ok s)
    (q : Path) (i : ItemDef) (par : Path) (hg : s.reg.get q = some i) (hp : Path.parent? q = some par) (hne : par ≠ []) :
    ∃ md, (par, md) ∈ s.modules ∧ (∀ md', (par, md') ∈ s.modules → md' = md) ∧ q ∈ md.defPaths ∧
      Emit.moduleFile s par md ∈ Emit.files s ∧
      (∃ body, Emit.moduleFile s par md = Sexp.mk "file" [.str (specFile par), body]) ∧
      ∀ x ∈ Emit.itemItems s.reg i, x ∈ fileItems (Emit.moduleFile s par md) := by
  have hinv := case_modInv c s h
  obtain ⟨md, hmd, hq⟩ := case_listed c hnd s h q i par hg hp hne
  refine ⟨md, hmd, ?_, hq, moduleFile_mem_files s (par, md) hmd hne, file_name s par md,
    itemItems_in_file s par md q i hq hg⟩
  exact fun md' hmd' => mem_unique_of_nodup_keys s.modules hinv.keys hmd' hmd

end PyxisVerif.C14

/-! ## C05, continued: the wrapper is in the module's file -/
namespace PyxisVerif.C05
open Gen Layout CaseLift CaseLift2

/-- **the wrapper of every declared function is emitted in the file of the type's module**, for every accepted case
    whose module paths are pairwise distinct: for every emitted struct `p = path ++ [name]` of a non-root module built
    from a definition written in the case, the file `<path>.rs` of the one module stored under `path` is emitted and
    contains the struct's `impl` item, which lists the wrapper of every function written in a function block for `p` in
    the case – the transmute-and-call of the declared address – except those whose name starts with `_`, which the
    backend filters -/
theorem case_wrapper_in_file (c : Case) (hps : c.ps = 4 ∨ c.ps = 8) (hb : C12.CaseBounded c) (s : State)
    (h : c.run = .ok s) (hnd : (astPaths c.modules).Nodup) (p : Path) (i : ItemDef) (r : Resolved) (td : TypeDefn)
    (hg : s.reg.get p = some i) (hs : i.state = .res r) (hin : r.inner = .type td) (hc : i.cat = .defined)
    (hroot : 2 ≤ p.length) :
    ((∃ (reg0 : Registry) (owner : Path) (vis : Vis) (fns : List SFunc),
        buildVftableItem reg0 owner vis fns = some i ∧ i.path = p) ∧ td.fns = []) ∨
    ∃ (item : G.Item) (path : Path) (md : Mod) (acc : Sexp) (methods : List Sexp),
      Declared c p item ∧ p = path ++ [item.name] ∧ (path, md) ∈ s.modules ∧
      Emit.moduleFile s path md ∈ Emit.files s ∧
      (∃ body, Emit.moduleFile s path md = Sexp.mk "file" [.str (C14.specFile path), body]) ∧
      Sexp.mk "impl" (.str (p.getLast?.getD "") :: acc :: methods) ∈ fileItems (Emit.moduleFile s path md) ∧
      ∀ gf, DeclaredFn c p gf →
        ∃ (sf : SFunc) (a : Int), sf ∈ td.fns ∧ sf.name = gf.name ∧ declAddress gf = some a ∧ 0 ≤ a ∧
          sf.body = .addr a.toNat ∧
          Emit.methodS sf = Sexp.mk "method" [Emit.docsS sf.doc, Emit.visS sf.vis, .str sf.name,
            Sexp.mk "params" (sf.args.map Emit.paramS), Emit.optTyS sf.ret,
            Sexp.mk "call-addr" [.int a.toNat, .str sf.cc.asStr, Sexp.mk "sig" (sf.args.map Emit.sigArgS),
              Emit.optTyS sf.ret, Sexp.mk "args" (sf.args.map Emit.callArgS)]] ∧
          sf.isInternal = gf.name.startsWith "_" ∧
          (gf.name.startsWith "_" = false → Emit.methodS sf ∈ methods) := by
  rcases case_declared_functions_present c hps hb s h (distinctModulePaths_of_nodup c hnd) p i r td hg hs hin hc hroot with
    hv | ⟨item, d, s1, path, file, m, hD, hd, hm, hp, he, acc, methods, himpl, hall⟩
  · exact Or.inl hv
  · right
    have hpne : path ≠ [] := by
      intro e
      rw [hp, e] at hroot
      simp at hroot
    obtain ⟨md, hmd, _, hq, hfile, hname, hitems⟩ := C14.case_every_item_in_its_file c hnd s h p i path hg
      (by rw [hp]; exact Path.parent?_concat path item.name) hpne
    refine ⟨item, path, md, acc, methods, hD, hp, hmd, hfile, hname, hitems _ himpl, ?_⟩
    intro gf hgf
    obtain ⟨sf, a, k1, _, k3, k4, k5, _, _, k8, _, k10, k11, k12⟩ := hall gf hgf
    exact ⟨sf, a, k1, k8, k3, k4, k5, k10, k11, k12⟩

end PyxisVerif.C05

/-! ## non-vacuity: the lifted theorems on a concrete accepted case

`Exec.Example.case` (`Props/Exec.lean`: module `m` with `B` – a vftable block `v`, `#[index(2)] w` and a field – with
`impl B { #[address(0x1000)] pub fn a(..) }`, and `D` with `#[base] b: B`) is accepted (`run_ok`) and bounded
(`case_bounded`).  Each example obtains the final state from acceptance alone and gets its conclusion *from the lifted
theorem*; evaluation (`decide +kernel`) is only used to look entries up in the final registry and to identify the
declared definition among the case's modules. -/
namespace PyxisVerif.CaseLift2.Example
open Gen CaseLift CaseLift2

/-- the first `#[base]` field of `m::D` -/
def baseD : Region := ((Exec.Example.tdD.regions.filter (fun r => r.isBase))[0]?).getD default
def itemB : ItemDef := (Exec.Example.s1.reg.get ["m", "B"]).getD default
def resB : Resolved := itemB.resolved?.getD default

/-- what the examples look up in the final registry, in one evaluation: the entry of `m::B`, the first `#[base]` field
    of `m::D`, and that `B::a` is public -/
theorem lookups :
    (Exec.Example.s1.reg.get ["m", "B"] = some itemB ∧ itemB.state = .res resB ∧
      resB.inner = .type Exec.Example.tdB ∧ itemB.cat = .defined) ∧
    ((Exec.Example.tdD.regions.filter (·.isBase))[0]? = some baseD ∧ baseD.name = some "b" ∧
      baseD.ty = .data (.raw ["m", "B"])) ∧
    (Exec.Example.tdB.fns.headD default).vis = .pub ∧ (Exec.Example.tdB.fns.headD default).isInternal = false := by
  decide +kernel

/-- **`C04.case_slots`** on `Exec.Example.case`: `m::B` of the final registry has a table; by the theorem it is the
    conversion of the vftable block of the definition written in the case, whose functions sit in the slots the
    description says – `v` in slot 0, `w` (written `#[index(2)]`) in slot 2 –, slot 1 holds the placeholder `_vfunc_1`,
    and the table has exactly the three slots needed -/
example : ∃ (s : State) (v : Vft), Exec.Example.case.run = .ok s ∧ Exec.Example.tdB.vft = some v ∧
    v.fns.length = 3 ∧ v.fns[1]? = some (placeholderFn 1) ∧
    (∃ f, v.fns[0]? = some f ∧ f.name = "v") ∧ (∃ f, v.fns[2]? = some f ∧ f.name = "w") := by
  obtain ⟨s, hs⟩ := (C09.isOkB_iff _).mp Exec.Example.run_ok
  have hreg := Exec.Example.run_reg s hs
  obtain ⟨⟨hget, hst, hin, hcat⟩, _⟩ := lookups
  rw [← hreg] at hget
  have hv := Exec.Example.tableB.2.1
  refine ⟨s, _, hs, hv, ?_⟩
  rcases C04.case_slots Exec.Example.case (Or.inr rfl) Exec.Example.case_bounded s hs ["m", "B"] itemB resB
    Exec.Example.tdB hget hst hin hcat with ⟨_, hnone⟩ | ⟨item, d, s0, module, hD, hd, hmod, he, hblock⟩
  · rw [hnone] at hv; cases hv
  · -- the declared definition registered under `m::B` is the second definition of module `m`
    obtain ⟨path, file, m, hm, hmem, hp⟩ := hD
    simp only [Exec.Example.case, List.mem_cons, List.not_mem_nil, or_false, ModEnt.ast.injEq] at hm
    obtain ⟨rfl, rfl, rfl⟩ := hm
    have hname : item.name = "B" := by
      simp only [List.cons_append, List.nil_append, List.cons.injEq, and_true, true_and] at hp
      exact hp.symm
    simp only [Exec.Example.modM, List.mem_cons, List.not_mem_nil, or_false] at hmem
    rcases hmem with rfl | rfl
    · exact absurd hname (by decide)
    · simp only [G.Inner.type.injEq] at hd
      subst hd
      obtain ⟨size, out, pos, built, len, hsize, hout, _, hpos, hbuilt, hlen, hspec, holen, hz, hph⟩ :=
        hblock _ [Exec.Example.gfV, Exec.Example.gfW] rfl rfl
      have hvo := hout _ hv
      have hsz : size = none := by
        have : vftableSizeAttr ([] : List G.Attr) = .ok none := rfl
        rw [this] at hsize; cases hsize; rfl
      subst hsz
      rw [Exec.Example.slotsVW] at hpos
      cases hpos
      have hl3 : len = 3 := by
        have : C04.specLength none [0, 2] = some 3 := by decide
        rw [this] at hspec; cases hspec; rfl
      subst hl3
      rw [hvo]
      refine ⟨holen, hph 1 (by rw [holen]; decide) (by decide), ?_, ?_⟩
      · -- slot 0 holds the function built from `v`
        obtain ⟨hl, hpt⟩ := Res.mapM'_ok hbuilt
        have hb0 := hpt 0 (by decide) (by rw [← hlen]; decide)
        refine ⟨built[0]'(by rw [← hlen]; decide), ?_, (C04.vfunc_body _ _ _ _ hb0).2⟩
        apply hz (0, built[0]'(by rw [← hlen]; decide))
        rw [List.mem_iff_getElem?]
        refine ⟨0, ?_⟩
        rw [List.getElem?_zip_eq_some]
        exact ⟨rfl, List.getElem?_eq_getElem _⟩
      · -- slot 2 holds the function built from `w`
        obtain ⟨hl, hpt⟩ := Res.mapM'_ok hbuilt
        have hb1 := hpt 1 (by decide) (by rw [← hlen]; decide)
        refine ⟨built[1]'(by rw [← hlen]; decide), ?_, (C04.vfunc_body _ _ _ _ hb1).2⟩
        apply hz (2, built[1]'(by rw [← hlen]; decide))
        rw [List.mem_iff_getElem?]
        refine ⟨1, ?_⟩
        rw [List.getElem?_zip_eq_some]
        exact ⟨rfl, List.getElem?_eq_getElem _⟩

/-- **`C07.case_every_public_reexposed`** on `Exec.Example.case`: the first `#[base]` field of `m::D` in the final
    registry is `b`; by the theorem its type is a resolved struct of the final registry – `m::B`, the only base – every
    public function of which is re-exposed on `D`: so `D` has a function forwarding to `B::a` on field `b`, with `a`'s
    parameters -/
example : ∃ (s : State) (g f : SFunc), Exec.Example.case.run = .ok s ∧ g ∈ Exec.Example.tdD.fns ∧
    f ∈ Exec.Example.tdB.fns ∧ f.name = "a" ∧ g.body = .field "b" "a" ∧ g.args = f.args ∧ g.ret = f.ret ∧ g.cc = f.cc := by
  obtain ⟨s, hs⟩ := (C09.isOkB_iff _).mp Exec.Example.run_ok
  have hreg := Exec.Example.run_reg s hs
  obtain ⟨_, hget, hst, hin, hcat⟩ := Exec.Example.entryD
  rw [← hreg] at hget
  obtain ⟨_, ⟨hk, hb, ht⟩, hpub, hint⟩ := lookups
  obtain ⟨b, bp, btd, hname, hty, hbtd, hall, _⟩ :=
    C07.case_every_public_reexposed Exec.Example.case (Or.inr rfl) Exec.Example.case_bounded s hs ["m", "D"]
      Exec.Example.itemD Exec.Example.resD Exec.Example.tdD hget hst hin hcat 0 baseD hk
  rw [hb] at hname; cases hname
  rw [ht] at hty; cases hty
  rw [hreg, Exec.Example.hB] at hbtd
  rw [← Option.some.inj hbtd] at hall
  obtain ⟨hfm, _, hfn, _⟩ := Exec.Example.fnsB
  obtain ⟨g, hg, hbody, _, hargs, hret, hcc, _⟩ := hall _ hfm hpub hint
  exact ⟨s, g, _, hs, hg, hfm, hfn, by rw [hbody, hfn], hargs, hret, hcc⟩

/-- **`C14.case_files_per_module`** on `Exec.Example.case`: by the theorem, the module `m` written in the case has exactly
    one stored module in the final state, and its file `m.rs` is emitted -/
example : ∃ (s : State) (md : Mod) (body : Sexp), Exec.Example.case.run = .ok s ∧ (["m"], md) ∈ s.modules ∧
    Emit.moduleFile s ["m"] md ∈ Emit.files s ∧ Emit.moduleFile s ["m"] md = Sexp.mk "file" [.str "m.rs", body] := by
  obtain ⟨s, hs⟩ := (C09.isOkB_iff _).mp Exec.Example.run_ok
  obtain ⟨_, _, _, hall⟩ := C14.case_files_per_module Exec.Example.case (Or.inr rfl) Exec.Example.case_bounded s hs
  obtain ⟨md, hmd, _, hfile⟩ := hall ["m"] "m.pyxis" Exec.Example.modM (by simp [Exec.Example.case]) (by decide)
  obtain ⟨body, hbody⟩ := C14.file_name s ["m"] md
  exact ⟨s, md, body, hs, hmd, hfile, by rw [hbody]; rfl⟩

end PyxisVerif.CaseLift2.Example

/-! ## why the hypothesis on module paths is needed: a refuting case

Two modules written under the same path `m`: the first defines `T` and a function block `impl T { f }`, the second is
empty.  `add_module` of the second *replaces* the stored module `m` (no function blocks, no definition paths) while the
registry keeps `m::T`; the case is accepted, `T` is resolved **without** `f`, and `m::T` is listed in no module, so it
is emitted in no file.  Hence `C05.case_declared_functions_present` and `C14.case_every_item_in_its_file` are false
without their hypothesis on the module paths (`DistinctModulePaths` / `(astPaths c.modules).Nodup`). -/
namespace PyxisVerif.CaseLift2.Dup
open Gen CaseLift CaseLift2 C09

def gfF : G.Func := { vis := .pub, name := "f", attrs := [.fn "address" [.int 0x10]], args := [.constSelf], ret := none }

def m1 : G.Module :=
  { defs := [{ vis := .pub, name := "T",
               inner := .type { stmts := [{ field := .field .pub "x" (.ident "u32"), attrs := [] }], attrs := [] } }],
    impls := [{ name := "T", attrs := [], fns := [gfF] }] }

def m2 : G.Module := {}

def prio : List Path := [["m", "T"]]

def case : Case :=
  { id := "dup", ps := 8, prio := prio, modules := [.ast ["m"] "m.pyxis" m1, .ast ["m"] "m2.pyxis" m2], extras := [] }

def s0 : State := C12.stateOf case.initialState
def s1 : State := (runRound s0 prio).1

theorem run : case.run = .ok (okState (runK case)) := run_eq_okState (by decide +kernel)

theorem case_bounded : C12.CaseBounded case := by
  intro path file m hm
  simp only [case, List.mem_cons, List.not_mem_nil, or_false, ModEnt.ast.injEq] at hm
  rcases hm with ⟨_, _, rfl⟩ | ⟨_, _, rfl⟩
  · refine ⟨?_, fun xt hx => by cases hx⟩
    intro d hd
    simp only [m1, List.mem_cons, List.not_mem_nil, or_false] at hd
    subst hd
    intro n args z ha
    cases ha
  · exact ⟨(fun d hd => by cases hd), (fun xt hx => by cases hx)⟩

def itemT : ItemDef := (s1.reg.get ["m", "T"]).getD default
def resT : Resolved := itemT.resolved?.getD default
def tdT : TypeDefn := (Exec.typeDefn? s1.reg ["m", "T"]).getD {}

/-- the case is accepted, bounded, at pointer width 8; `m::T` is an emitted struct of the final registry, built from a
    definition written in the case, and `f` is written in a function block for `m::T` in the case – but `T` has no
    function at all -/
theorem facts : ∃ s, case.run = .ok s ∧ s.reg.get ["m", "T"] = some itemT ∧ itemT.state = .res resT ∧
    resT.inner = .type tdT ∧ itemT.cat = .defined ∧ (∃ item, Declared case ["m", "T"] item) ∧
    DeclaredFn case ["m", "T"] gfF ∧ tdT.fns = [] ∧
    Path.parent? ["m", "T"] = some ["m"] ∧ ∀ md, (["m"], md) ∈ s.modules → ["m", "T"] ∉ md.defPaths := by
  -- what is looked up in the final state, in one evaluation
  have h : (okState (runK case)).reg.get ["m", "T"] = some itemT ∧ itemT.state = .res resT ∧
      resT.inner = .type tdT ∧ itemT.cat = .defined ∧ tdT.fns = [] ∧
      ∀ e ∈ (okState (runK case)).modules, ["m", "T"] ∉ e.2.defPaths := by decide +kernel
  obtain ⟨hg, hst, hin, hc, hnil, hmods⟩ := h
  refine ⟨_, run, hg, hst, hin, hc, ?_, ?_, hnil, by decide, fun md hmd => hmods (["m"], md) hmd⟩
  · exact ⟨_, ["m"], "m.pyxis", m1, by simp [case], List.mem_cons_self, rfl⟩
  · exact ⟨["m"], { name := "T", attrs := [], fns := [gfF] }, ⟨"m.pyxis", m1, by simp [case], List.mem_cons_self⟩, rfl,
      List.mem_cons_self⟩

end PyxisVerif.CaseLift2.Dup

namespace PyxisVerif.C05
open Gen CaseLift CaseLift2

/-- **`case_declared_functions_present` without the hypothesis on module paths is refuted**: an accepted case (pointer
    width 8, `isize` literals) with an emitted struct `p` of a non-root module built from a definition written in the
    case, and a function `gf` written in a function block for `p` in the case, that no function of the struct in the final
    registry is built from -/
theorem case_declared_functions_present_refuted :
    ∃ (c : Case) (s : State) (p : Path) (i : ItemDef) (r : Resolved) (td : TypeDefn) (gf : G.Func),
      (c.ps = 4 ∨ c.ps = 8) ∧ C12.CaseBounded c ∧ c.run = .ok s ∧
      s.reg.get p = some i ∧ i.state = .res r ∧ r.inner = .type td ∧ i.cat = .defined ∧ 2 ≤ p.length ∧
      (∃ item, Declared c p item) ∧ DeclaredFn c p gf ∧ ¬ ∃ sf ∈ td.fns, sf.name = gf.name := by
  obtain ⟨s, hs, hg, hst, hin, hc, hD, hF, hnil, _⟩ := Dup.facts
  refine ⟨Dup.case, s, ["m", "T"], Dup.itemT, Dup.resT, Dup.tdT, Dup.gfF, Or.inr rfl, Dup.case_bounded, hs, hg, hst, hin,
    hc, by decide, hD, hF, ?_⟩
  rintro ⟨sf, hsf, _⟩
  rw [hnil] at hsf
  cases hsf

end PyxisVerif.C05

namespace PyxisVerif.C14
open Gen CaseLift CaseLift2

/-- **`case_every_item_in_its_file` without the hypothesis on module paths is refuted**: an accepted case with a
    resolved, defined entry of the final registry under a non-root module path that is listed in no stored module (so it
    is printed in no file) -/
theorem case_every_item_in_its_file_refuted :
    ∃ (c : Case) (s : State) (q : Path) (i : ItemDef) (r : Resolved) (par : Path),
      (c.ps = 4 ∨ c.ps = 8) ∧ C12.CaseBounded c ∧ c.run = .ok s ∧
      s.reg.get q = some i ∧ i.state = .res r ∧ i.cat = .defined ∧ Path.parent? q = some par ∧ par ≠ [] ∧
      ¬ ∃ md, (par, md) ∈ s.modules ∧ q ∈ md.defPaths := by
  obtain ⟨s, hs, hg, hst, _, hc, _, _, _, hpar, hno⟩ := CaseLift2.Dup.facts
  refine ⟨CaseLift2.Dup.case, s, ["m", "T"], CaseLift2.Dup.itemT, CaseLift2.Dup.resT, ["m"], Or.inr rfl,
    CaseLift2.Dup.case_bounded, hs, hg, hst, hc, hpar, by decide, ?_⟩
  rintro ⟨md, hmd, hq⟩
  exact hno md hmd hq

end PyxisVerif.C14
