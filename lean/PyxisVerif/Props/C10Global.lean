import PyxisVerif.Lemmas.C10GlobalVft
import PyxisVerif.Props.C09Case
import PyxisVerif.Lemmas.KernelRun
/-!
# C10, global – the `nonterm` verdict has a cause in the dependency graph

`Props/C10.lean` has the local facts (a size is unknown iff a by-value dependency is unresolved; an unknown
field name / enum base defers) and the shape of the verdict (the loop ends within its rounds bound; the error
lists the unresolved items).  This file ties the final verdict
`type resolution will not terminate, failed on types: [...]` to a *cause* for every item it lists.

## The dependency relation (read off the code, `Lemmas/C10Global.lean`)

The places where `type_definition::build` / `enum_definition::build` answer `Ok(None)` ("try again later"),
and only those, are:

* a **field** type or an **enum base** type whose identifier does not resolve in the scope of the item's module
  (`resolve_grammar_type` → `None`); this includes identifiers under `*const` / `*mut` / `[_; N]`;
* a field (plain, `#[base]`, or array element) or enum base whose resolved type has **no size yet**, i.e. one of
  the items it embeds *by value* (`C09.byValue`: through arrays, not through pointers) is unresolved;
* a **size that does not fit in a `usize`**: `Type::size` uses `checked_mul` and the placement loop
  `checked_add`, and both treat overflow as "size not known yet" (`Model/Sem.lean: DTy.size`,
  `Model/Layout.lean: push`).

Nothing else defers: an undefined name in a *function signature* (vftable block or `impl` block) is a hard error
(`function::build`), `vftable::build`, the base-function injection, the defaultable check and the alignment block
never answer `None` (`Lemmas/C12.lean`: the lemmas `…_only`, read with `Only.nd`).

```
inductive Cause | missing (name : String) | waitsFor (q : Path) | overflow
usedTys d      -- field types of a type definition / the base type of an enum
WaitsOn s p c  -- p is unresolved in s with definition d and module scope sc, and
               --   c = missing n   : n is the identifier of some t ∈ usedTys d
               --   c = waitsFor q  : some t ∈ usedTys d resolves (in the key set of s) to dt with q ∈ byValue dt
               --   c = overflow    : (any unresolved item)
Active s p c   --   missing n   : n does not resolve in p's module scope in s.reg
               --   waitsFor q  : q is registered and unresolved
               --   overflow    : Overflow s p  (below)
Overflow s p   -- array : a used type of p has all by-value dependencies resolved and still no size
               -- extent: all pending fields of p have a size, and pointer size + declared offsets + sizes
               --         + declared #[size] exceed usize::MAX
causes s p : List Cause,  activeCauses s p : List Cause    -- the same, computed (`waitsOn_iff_mem_causes`,
                                                           -- `mem_activeCauses`); evaluable on concrete states
```

## Findings (deviations from the informal property)

1. **A third cause.**  The informal property ("rejected exactly when a name is undefined or by-value embedding is
   cyclic") is FALSE for the model: `type T { a: [u64; 2^61] }` – every name defined, nothing cyclic – is
   rejected with `type resolution will not terminate, failed on types: [T]`, because `8 * 2^61` overflows
   `checked_mul` and the overflow is reported as "size unknown" forever.  (`2^61` is an `isize` literal, so the
   parser produces it.)  Kernel-checked: `OverflowExample`, `acyclic_defined_not_stuck_refuted`,
   `stuck_has_cause_two_causes_refuted`, `defer_has_cause_two_causes_refuted`.
2. **Predefined items.**  `TypeRegistry::unresolved` skips predefined items.  The closure statement
   ("what a listed item waits for is listed too") therefore needs "predefined items are resolved"
   (`PredefResolved`), which is not part of `C12.StateOkB` but holds in every state made by
   `SemanticState::new` + `add_module` (`initialState_predef`), hence for every case.
3. **Generated vftable items** are registered *resolved* (`vftable::build_type`), so they are never among the
   listed items; what they do is change the registry *between* the attempts of one round (the generated item
   is re-inserted), so the attempts of the last round happen in states that differ from the stuck state in the
   order of entries – the causes are transported along `Same` (same entries, pointer size, module scopes).
4. The converse (`acyclic_defined_not_stuck_novft_partial`) and "accepted ⇒ defined ∧ acyclic"
   (`accepted_defined_acyclic_novft`) are proved for descriptions **without vftable blocks** (`C09.NoVft`): with vftable blocks the key
   set grows during the run and `resolve_string` is not monotone in the key set (a generated `…Vftable` path
   that coincides with a module path of the scope moves that entry from the module candidates to the type
   candidates), so "all names resolve in the initial registry" is not preserved.  `Props/C10GlobalVft.lean` proves
   both with vftable blocks when nothing mentions a generated name (`C09.NoGenRefs`); without that hypothesis:
   NOT PROVED.
-/
namespace PyxisVerif.C10
open C09

/-- **a deferred attempt has a cause.**  In the model `attemptItem` folds `Ok(None)` into `Ok(())` with the item
    left as it was, so "deferred" is observed as: the attempt answers `Ok` and `p` is still unresolved afterwards.
    Then some cause read off the definition of `p` is active in `s`.
    (No registry invariant is needed; `hg`/`hu` only name the definition.) -/
theorem defer_has_cause (s : State) (p : Path) (i : ItemDef) (d : G.Item)
    (_hg : s.reg.get p = some i) (_hu : i.state = .unres d)
    (s1 : State) (h : attemptItem s p = (s1, .ok ()))
    (j : ItemDef) (hg1 : s1.reg.get p = some j) (hu1 : j.isResolved = false) :
    ∃ c, WaitsOn s p c ∧
      (match c with
       | .missing n => ∃ sc, scopeOf s p = some sc ∧ s.reg.resolveString sc n = none
       | .waitsFor q => ∃ j, s.reg.get q = some j ∧ j.isResolved = false
       | .overflow => Overflow s p) := by
  obtain ⟨hdef, _⟩ := attempt_deferred s s1 p h ⟨j, hg1, hu1⟩
  obtain ⟨c, hw, ha⟩ := deferred_has_cause s p hdef
  refine ⟨c, hw, ?_⟩
  cases c <;> exact ha

/-- the same with the `defer` answer of the build functions themselves -/
theorem defer_has_cause' (s : State) (p : Path) (h : Deferred s p) : ∃ c, WaitsOn s p c ∧ Active s p c :=
  deferred_has_cause s p h

/-- … and computed: the list of active causes of a deferred item is not empty -/
theorem defer_has_active_cause (s : State) (p : Path) (h : Deferred s p) : activeCauses s p ≠ [] := by
  obtain ⟨c, hw, ha⟩ := deferred_has_cause s p h
  intro he
  have := (mem_activeCauses s p c).mpr ⟨hw, ha⟩
  rw [he] at this
  cases this

/-- **when the build gives up, every item named in the error has an active cause in the final stuck state, and the
    stuck set is closed under "waits for"**: the cause is an undefined name, a size beyond `usize::MAX`, or an
    item that is named in the error too.

    `s'` is the state the loop gives up in: reached from `s` by complete rounds (`Rounds`), `l` is its list of
    unresolved items and a whole round over `l` changed nothing (`StuckAt`).  Generated vftable items are
    registered resolved, so they are never in `l` (finding 3). -/
theorem stuck_has_cause (s : State) (prio : List Path) (hs : C12.StateOkB s) (hp : PredefResolved s)
    (l : List Path) (h : s.build prio = .nonterm l) :
    ∃ s', Rounds prio s s' ∧ StuckAt prio s' l ∧
      ∀ p ∈ l, ∃ c, WaitsOn s' p c ∧ Active s' p c ∧ (match c with | .waitsFor q => q ∈ l | _ => True) :=
  stuck_has_cause_lem s prio hs hp l h

/-- the same for a given stuck state -/
theorem stuck_state_has_cause (prio : List Path) (s' : State) (l : List Path) (hs : C12.StateOkB s')
    (hp : PredefResolved s') (hst : StuckAt prio s' l) :
    ∀ p ∈ l, ∃ c ∈ activeCauses s' p, (match c with | .waitsFor q => q ∈ l | _ => True) := by
  intro p hpl
  obtain ⟨c, hw, ha, hin⟩ := stuck_has_cause_at prio s' l hs hp hst p hpl
  exact ⟨c, (mem_activeCauses s' p c).mpr ⟨hw, ha⟩, hin⟩

/-- … for whole cases: pointer width 4 or 8, modules with `isize` literals (what the parser produces) -/
theorem case_stuck_has_cause (c : Case) (hps : c.ps = 4 ∨ c.ps = 8) (hb : C12.CaseBounded c)
    (l : List Path) (h : c.run = .nonterm l) :
    ∃ s0 s', c.initialState = .ok s0 ∧ Rounds c.prio s0 s' ∧ StuckAt c.prio s' l ∧
      ∀ p ∈ l, ∃ c', WaitsOn s' p c' ∧ Active s' p c' ∧ (match c' with | .waitsFor q => q ∈ l | _ => True) := by
  obtain ⟨s0, hi, hbuild⟩ := run_nonterm_inv c l h
  obtain ⟨s', h1, h2, h3⟩ := stuck_has_cause s0 c.prio ((C12.initialState_shape c hps hb).2 s0 hi)
    (initialState_predef c s0 hi) l hbuild
  exact ⟨s0, s', hi, h1, h2, h3⟩

/-! ## the converse -/

/- NOT PROVED in general, and REFUTED as stated even without vftable blocks (finding 1):

/-- no undefined names and no by-value cycle among the unresolved items ⇒ the build does not end in `nonterm` -/
theorem acyclic_defined_not_stuck (s : State) (prio : List Path) (hs : C12.StateOkB s) (hp : PredefResolved s)
    (hdef : AllDefined s) (hacyc : Acyclic s) : ∀ l, s.build prio ≠ .nonterm l

   Counterexample (`OverflowExample`, checked below as `acyclic_defined_not_stuck_refuted`): the root module
   `type T { a: [u64; 2305843009213693952] }` at pointer width 8: `u64` is defined, nothing embeds anything
   unresolved, and the build answers `nonterm [T]` because `8 * 2^61 > usize::MAX`.
   With vftable blocks the statement is additionally out of reach of the proof (finding 4). -/

/-- **names defined, by-value embedding acyclic ⇒ if the build still gives up, it is for a size beyond
    `usize::MAX`** (descriptions without `vftable` blocks): some listed item has an `Overflow` in the stuck state -/
theorem acyclic_defined_not_stuck_novft_partial (s : State) (prio : List Path) (hs : C12.StateOkB s)
    (hp : PredefResolved s) (hv : C09.NoVft s) (hdef : AllDefined s) (hacyc : Acyclic s)
    (l : List Path) (h : s.build prio = .nonterm l) :
    ∃ s', Rounds prio s s' ∧ StuckAt prio s' l ∧ ∃ p ∈ l, Overflow s' p :=
  stuck_overflow_of_transport s prio hs hp
    (fun _ hr _ _ hw =>
      have he := hr.ext (C09.noVftS_of_noVft hv) hs.ok.reg.keys
      ⟨he.waitsOn hw, he.active⟩)
    hdef hacyc l h

/-- … hence: names defined, acyclic and no size overflow in any state the rounds reach ⇒ the build does not end in
    `nonterm`.  (The third hypothesis is about the run, not about the initial state: whether a size overflows
    depends on the sizes the run computes.) -/
theorem acyclic_defined_not_stuck_novft (s : State) (prio : List Path) (hs : C12.StateOkB s)
    (hp : PredefResolved s) (hv : C09.NoVft s) (hdef : AllDefined s) (hacyc : Acyclic s)
    (hsmall : ∀ s', Rounds prio s s' → ∀ p, ¬ Overflow s' p) :
    ∀ l, s.build prio ≠ .nonterm l := by
  intro l h
  obtain ⟨s', hr, _, p, _, ho⟩ := acyclic_defined_not_stuck_novft_partial s prio hs hp hv hdef hacyc l h
  exact hsmall s' hr p ho

/-- … for whole cases without vftable blocks -/
theorem case_acyclic_defined_not_stuck_novft_partial (c : Case) (hps : c.ps = 4 ∨ c.ps = 8)
    (hb : C12.CaseBounded c) (hv : CaseNoVft c) (s0 : State) (hi : c.initialState = .ok s0)
    (hdef : AllDefined s0) (hacyc : Acyclic s0) (l : List Path) (h : c.run = .nonterm l) :
    ∃ s', Rounds c.prio s0 s' ∧ StuckAt c.prio s' l ∧ ∃ p ∈ l, Overflow s' p := by
  obtain ⟨s0', hi', hbuild⟩ := run_nonterm_inv c l h
  rw [hi] at hi'; cases hi'
  exact acyclic_defined_not_stuck_novft_partial s0 c.prio ((C12.initialState_shape c hps hb).2 s0 hi)
    (initialState_predef c s0 hi) (initialState_clean c hv s0 hi).noVft hdef hacyc l hbuild

/-- **accepted ⇒ every used name is defined and by-value embedding among the unresolved items is acyclic**
    (descriptions without `vftable` blocks): the order in which the run resolved the items is a rank.
    With `acyclic_defined_not_stuck_novft_partial` this is the "exactly when" of C10 up to finding 1:
    accepted ⇒ defined ∧ acyclic, and defined ∧ acyclic ⇒ not `nonterm` unless a size overflows.
    (A description with all names defined and no cycle can of course still be rejected with an *error* –
    overlapping fields, a bad alignment, … – that is C12/C13, not the `nonterm` verdict.) -/
theorem accepted_defined_acyclic_novft (s : State) (prio : List Path) (hs : C12.StateOkB s)
    (hp : PredefResolved s) (hv : C09.NoVft s) (s1 : State) (h : s.build prio = .ok s1) :
    AllDefined s ∧ Acyclic s :=
  have hv' := C09.noVftS_of_noVft hv
  defined_acyclic_of_sim (C09.sim_stateOf hs.ok.reg.keys hv') (Mono.stateOf_R0 s).symm hs.ok.reg.keys hp
    (attempt_done_deps (Mono.u8_of_ok hs.ok) hv') h

/-- … for whole cases without vftable blocks -/
theorem case_accepted_defined_acyclic_novft (c : Case) (hps : c.ps = 4 ∨ c.ps = 8) (hb : C12.CaseBounded c)
    (hv : CaseNoVft c) (s0 s1 : State) (hi : c.initialState = .ok s0) (h : c.run = .ok s1) :
    AllDefined s0 ∧ Acyclic s0 := by
  rw [Case.run_of_init hi] at h
  exact accepted_defined_acyclic_novft s0 c.prio ((C12.initialState_shape c hps hb).2 s0 hi)
    (initialState_predef c s0 hi) (initialState_clean c hv s0 hi).noVft s1 h

/-! ## non-vacuity

The builds below are evaluated by the kernel (`decide +kernel`) through `C09.buildK` (`Lemmas/KernelRun.lean`:
`List.mergeSort` does not reduce in the kernel, insertion sort does).  Each block states the finite
facts it needs about its states ONCE, as a conjunction `evals`: within one evaluation the kernel shares the states, so
the conjunction costs about as much as one of its members. -/

/-- the facts `StuckAt prio s l` consists of, with the work lists as the kernel computes them -/
def stuckAtB (prio : List Path) (s : State) (l : List Path) : Bool :=
  !l.isEmpty && isort (prioLe prio) (C10.ulist s.reg) == l &&
    match runRound s l with
    | (s1, .ok ()) => isort (prioLe prio) (C10.ulist s1.reg) == l && s.reg.types.length == s1.reg.types.length
    | _ => false

theorem stuckAt_of_B {prio : List Path} {s : State} {l : List Path} (h : stuckAtB prio s l = true) :
    StuckAt prio s l := by
  unfold stuckAtB at h
  simp only [Bool.and_eq_true, Bool.not_eq_true', beq_iff_eq] at h
  obtain ⟨⟨hne, hu⟩, hr⟩ := h
  split at hr
  · next s1 hrr =>
    simp only [Bool.and_eq_true, beq_iff_eq] at hr
    exact ⟨((unresolved_eq_isort _ _).trans hu).symm, (fun e => by rw [e] at hne; cases hne), s1, hrr,
      ((unresolved_eq_isort _ _).trans hr.1).symm, hr.2⟩
  · cases hr

/-- two items that wait for each other by value have no rank -/
theorem not_acyclic_of_cycle {s : State} {p q : Path} (hpq : Cause.waitsFor q ∈ activeCauses s p)
    (hqp : Cause.waitsFor p ∈ activeCauses s q) : ¬ Acyclic s := by
  rintro ⟨rank, h⟩
  have h1 := h p q ((mem_activeCauses s p _).mp hpq)
  have h2 := h q p ((mem_activeCauses s q _).mp hqp)
  omega

/-- when `t` is the only unresolved entry of `s` and the overflow its only active cause: whatever waits on something is
    `t`, and what is active for it is the overflow -/
theorem only_overflow_of {s : State} {t : Path}
    (hk : (s.reg.types.filter (fun e => !e.2.isResolved)).map (·.1) = [t]) (hc : activeCauses s t = [.overflow])
    (p : Path) (c : Cause) (hw : WaitsOn s p c) (ha : Active s p c) : c = .overflow := by
  have hp := hw.unres_key
  rw [hk, List.mem_singleton] at hp
  subst hp
  have := (mem_activeCauses s p c).mpr ⟨hw, ha⟩
  rw [hc, List.mem_singleton] at this
  exact this

/-! ### a stuck description: a by-value cycle (through an array), an undefined name, and items waiting for those

```text
pub type A { pub b: B }
pub type B { pub n: u32, pub a: [A; 2] }          // A → B → A  by value
pub type C { pub p: *const A, pub x: Nope }       // the pointer does not wait for A; `Nope` is undefined
pub type D { pub c: C }                           // waits for C
pub enum E: D { X }                               // waits for D
```
-/
namespace StuckExample

def fld (n : String) (t : G.Ty) : G.Stmt := { field := .field .pub n t, attrs := [] }
def ty (n : String) (stmts : List G.Stmt) : G.Item :=
  { vis := .pub, name := n, inner := .type { stmts, attrs := [] } }

def mod : G.Module :=
  { defs := [
      ty "A" [fld "b" (.ident "B")],
      ty "B" [fld "n" (.ident "u32"), fld "a" (.arr (.ident "A") 2)],
      ty "C" [fld "p" (.cptr (.ident "A")), fld "x" (.ident "Nope")],
      ty "D" [fld "c" (.ident "C")],
      { vis := .pub, name := "E",
        inner := .enum { ty := .ident "D", stmts := [{ name := "X", expr := none, attrs := [] }], attrs := [] } }] }

/-- the list of unresolved items in registry order, which is also the priority used -/
def l : List Path := [["E"], ["D"], ["C"], ["B"], ["A"]]

def case : Case := { id := "c10-stuck", ps := 8, prio := l, modules := [.ast [] "stuck.pyxis" mod], extras := [] }

def s0 : State := C12.stateOf case.initialState

/-- the build from `s0` gives up and names all five items, `s0` being the state it gives up in; the active causes in
    `s0`, computed: exactly the cycle, the undefined name, and the chain.  `C` uses the name `A` (under a pointer) and the
    name `Nope`; only the latter is a cause, and the pointer to the unresolved `A` is not a by-value dependency. -/
theorem evals :
    (case.initialState.isOk = true ∧ buildK s0 case.prio = .nonterm l ∧
      stuckAtB case.prio s0 l = true) ∧
    activeCauses s0 ["A"] = [.waitsFor ["B"]] ∧ activeCauses s0 ["B"] = [.waitsFor ["A"]] ∧
    activeCauses s0 ["C"] = [.missing "Nope"] ∧ activeCauses s0 ["D"] = [.waitsFor ["C"]] ∧
    activeCauses s0 ["E"] = [.waitsFor ["D"]] ∧
    causes s0 ["C"] = [.missing "A", .missing "Nope", .overflow] := by
  decide +kernel

theorem init : case.initialState = .ok s0 := C12.eq_ok_stateOf _ evals.1.1
theorem build : s0.build case.prio = .nonterm l := build_of_buildK evals.1.2.1
theorem run : case.run = .nonterm l := (Case.run_of_init init).trans build

theorem bounded : C12.CaseBounded case := by
  intro path file m hm
  simp only [case, List.mem_cons, List.not_mem_nil, or_false, ModEnt.ast.injEq] at hm
  obtain ⟨_, _, rfl⟩ := hm
  refine ⟨?_, ?_⟩
  · intro d hd
    simp only [mod, List.mem_cons, List.not_mem_nil, or_false] at hd
    rcases hd with rfl | rfl | rfl | rfl | rfl
    · intro n args z ha; cases ha
    · intro n args z ha; cases ha
    · intro n args z ha; cases ha
    · intro n args z ha; cases ha
    · trivial
  · intro xt hx; cases hx

theorem ok : C12.StateOkB s0 := (C12.initialState_shape case (Or.inr rfl) bounded).2 s0 init
theorem predef : PredefResolved s0 := initialState_predef case s0 init

theorem stuck : StuckAt case.prio s0 l := stuckAt_of_B evals.1.2.2

/-- the hypotheses of `stuck_has_cause` hold and it applies -/
example : ∃ s', Rounds case.prio s0 s' ∧ StuckAt case.prio s' l ∧
    ∀ p ∈ l, ∃ c, WaitsOn s' p c ∧ Active s' p c ∧ (match c with | .waitsFor q => q ∈ l | _ => True) :=
  stuck_has_cause s0 case.prio ok predef l build

example : ∃ s0 s', case.initialState = .ok s0 ∧ Rounds case.prio s0 s' ∧ StuckAt case.prio s' l ∧
    ∀ p ∈ l, ∃ c', WaitsOn s' p c' ∧ Active s' p c' ∧ (match c' with | .waitsFor q => q ∈ l | _ => True) :=
  case_stuck_has_cause case (Or.inr rfl) bounded l run

theorem causes_A : activeCauses s0 ["A"] = [.waitsFor ["B"]] := evals.2.1
theorem causes_B : activeCauses s0 ["B"] = [.waitsFor ["A"]] := evals.2.2.1
theorem causes_C : activeCauses s0 ["C"] = [.missing "Nope"] := evals.2.2.2.1
theorem causes_D : activeCauses s0 ["D"] = [.waitsFor ["C"]] := evals.2.2.2.2.1
theorem causes_E : activeCauses s0 ["E"] = [.waitsFor ["D"]] := evals.2.2.2.2.2.1

example : causes s0 ["C"] = [.missing "A", .missing "Nope", .overflow] := evals.2.2.2.2.2.2

/-- what `stuck_state_has_cause` yields for the stuck state: the cause it exhibits for `A` is `B`, for `B` is `A`
    (the cycle), for `C` the undefined name `Nope`, for `D` and `E` the item before them in the chain – each
    waited-for item being named in the error as well -/
example : ∀ p ∈ l, ∃ c ∈ activeCauses s0 p, (match c with | .waitsFor q => q ∈ l | _ => True) :=
  stuck_state_has_cause case.prio s0 l ok predef stuck

example : ∃ c ∈ [Cause.waitsFor ["B"]], (match c with | .waitsFor q => q ∈ l | _ => True) := by
  have := stuck_state_has_cause case.prio s0 l ok predef stuck ["A"] (by decide)
  rw [causes_A] at this
  exact this

/-- the cycle: `A` statically waits for `B` and `B` for `A`, so no rank exists -/
theorem not_acyclic : ¬ Acyclic s0 :=
  not_acyclic_of_cycle (by rw [causes_A]; exact List.mem_singleton_self _)
    (by rw [causes_B]; exact List.mem_singleton_self _)

/-- … and `Nope` is an undefined name of `C` -/
theorem not_allDefined : ¬ AllDefined s0 := by
  intro h
  have := (mem_activeCauses s0 ["C"] (.missing "Nope")).mp (by rw [causes_C]; exact List.mem_singleton_self _)
  exact h _ _ this.1 this.2

end StuckExample

/-! ### a stuck description with a `vftable` block: the generated `VVftable` item is registered (resolved) in the
    first round, re-inserted by the attempt on `V` in the second, and the build gives up after the second round

```text
pub type V { vftable { pub fn f(&self); }  pub w: W }
pub type W { pub v: V }
```
-/
namespace VftExample

def fld (n : String) (t : G.Ty) : G.Stmt := { field := .field .pub n t, attrs := [] }

def mod : G.Module :=
  { defs := [
      { vis := .pub, name := "V",
        inner := .type { stmts := [{ field := .vftable [{ vis := .pub, name := "f", attrs := [], args := [.constSelf],
                                                             ret := none }], attrs := [] },
                                   fld "w" (.ident "W")], attrs := [] } },
      { vis := .pub, name := "W", inner := .type { stmts := [fld "v" (.ident "V")], attrs := [] } }] }

def l : List Path := [["W"], ["V"]]
def case : Case := { id := "c10-vft", ps := 8, prio := l, modules := [.ast [] "vft.pyxis" mod], extras := [] }

def s0 : State := C12.stateOf case.initialState
def s1 : State := (runRound s0 l).1

/-- the build from `s0` gives up with `l`; the first round, over `l`, ends `Ok` (it registers the generated item, so the
    loop goes on); the build gives up in `s1`, the state after it, where the generated item is registered and resolved,
    hence not listed; the active causes in `s1`, and in `s0` (where `VVftable` is not registered), are the cycle -/
theorem evals :
    (case.initialState.isOk = true ∧ buildK s0 case.prio = .nonterm l) ∧
    (isort (prioLe case.prio) (C10.ulist s0.reg) = l ∧ (runRound s0 l).2 = .ok () ∧
      stuckAtB case.prio s1 l = true) ∧
    ((s1.reg.get ["VVftable"]).map (·.isResolved) = some true ∧
      activeCauses s1 ["V"] = [.waitsFor ["W"]] ∧ activeCauses s1 ["W"] = [.waitsFor ["V"]]) ∧
    (activeCauses s0 ["V"] = [.waitsFor ["W"]] ∧ activeCauses s0 ["W"] = [.waitsFor ["V"]]) := by
  decide +kernel

theorem init : case.initialState = .ok s0 := C12.eq_ok_stateOf _ evals.1.1
theorem build : s0.build case.prio = .nonterm l := build_of_buildK evals.1.2

theorem bounded : C12.CaseBounded case := by
  intro path file m hm
  simp only [case, List.mem_cons, List.not_mem_nil, or_false, ModEnt.ast.injEq] at hm
  obtain ⟨_, _, rfl⟩ := hm
  refine ⟨?_, ?_⟩
  · intro d hd
    simp only [mod, List.mem_cons, List.not_mem_nil, or_false] at hd
    rcases hd with rfl | rfl
    · intro n args z ha; cases ha
    · intro n args z ha; cases ha
  · intro xt hx; cases hx

theorem ok : C12.StateOkB s0 := (C12.initialState_shape case (Or.inr rfl) bounded).2 s0 init
theorem predef : PredefResolved s0 := initialState_predef case s0 init

/-- the build gives up in `s1`, the state after the first round -/
theorem rounds : Rounds case.prio s0 s1 := by
  refine .head s0 s1 s1 ?_ (.refl s1)
  rw [unresolved_eq_isort, evals.2.1.1]
  exact eq_mk_of rfl evals.2.1.2.1
theorem stuck : StuckAt case.prio s1 l := stuckAt_of_B evals.2.1.2.2

example : ∃ s', Rounds case.prio s0 s' ∧ StuckAt case.prio s' l ∧
    ∀ p ∈ l, ∃ c, WaitsOn s' p c ∧ Active s' p c ∧ (match c with | .waitsFor q => q ∈ l | _ => True) :=
  stuck_has_cause s0 case.prio ok predef l build

/-- the generated item is registered and resolved in the stuck state, hence not listed -/
example : (s1.reg.get ["VVftable"]).map (·.isResolved) = some true := evals.2.2.1.1

theorem causes_V : activeCauses s1 ["V"] = [.waitsFor ["W"]] := evals.2.2.1.2.1
theorem causes_W : activeCauses s1 ["W"] = [.waitsFor ["V"]] := evals.2.2.1.2.2

example : ∀ p ∈ l, ∃ c ∈ activeCauses s1 p, (match c with | .waitsFor q => q ∈ l | _ => True) :=
  stuck_state_has_cause case.prio s1 l (rounds.inv ok predef).1 (rounds.inv ok predef).2 stuck

end VftExample

/-! ### an accepted description: `C09.Example` (two modules, `B` embeds `A` embeds `Kind`, `A` points to `B`) -/
namespace AcceptedExample
open C09.Example

/-- the theorem applies to the accepted case of `Props/C09Case.lean` … -/
theorem defined_acyclic : AllDefined C09.Example.s0 ∧ Acyclic C09.Example.s0 := by
  obtain ⟨s1, h1⟩ := (C09.isOkB_iff _).mp C09.Example.run_ok
  exact case_accepted_defined_acyclic_novft C09.Example.case (Or.inr rfl) C09.Example.case_hyps.1
    C09.Example.case_hyps.2 C09.Example.s0 s1 C09.Example.init h1

theorem evals : activeCauses C09.Example.s0 ["b", "B"] = [.waitsFor ["a", "A"]] ∧
    activeCauses C09.Example.s0 ["a", "A"] = [.waitsFor ["a", "Kind"]] ∧
    activeCauses C09.Example.s0 ["a", "Kind"] = [] := by
  decide +kernel

/-- … whose dependency relation is not empty: `B` statically waits for `A`, and `A` for `Kind`; the pointer from `A`
    to `B` is not a dependency, which is why there is no cycle -/
example : activeCauses C09.Example.s0 ["b", "B"] = [.waitsFor ["a", "A"]] := evals.1
example : activeCauses C09.Example.s0 ["a", "A"] = [.waitsFor ["a", "Kind"]] := evals.2.1
example : activeCauses C09.Example.s0 ["a", "Kind"] = [] := evals.2.2

end AcceptedExample

/-! ### finding 1: an oversized array is reported as "type resolution will not terminate"

```text
pub type T { pub a: [u64; 2305843009213693952] }     // 8 * 2^61 = 2^64 > usize::MAX
```
-/
namespace OverflowExample

def mod : G.Module :=
  { defs := [{ vis := .pub, name := "T",
               inner := .type { stmts := [{ field := .field .pub "a" (.arr (.ident "u64") (2 ^ 61)), attrs := [] }],
                                attrs := [] } }] }

def l : List Path := [["T"]]
def case : Case := { id := "c10-overflow", ps := 8, prio := [], modules := [.ast [] "big.pyxis" mod], extras := [] }

def s0 : State := C12.stateOf case.initialState

/-- the build from `s0` gives up with `[T]`; `T` is the only unresolved entry of `s0`, its only active cause is the
    overflow, and it is the array: `u64` is resolved and `[u64; 2^61]` has no size (`overflowB`); the attempt on `T`
    answers `Ok` and leaves it unresolved -/
theorem evals :
    (case.initialState.isOk = true ∧ buildK s0 [] = .nonterm l) ∧
    (activeCauses s0 ["T"] = [.overflow] ∧
      (s0.reg.types.filter (fun e => !e.2.isResolved)).map (·.1) = [["T"]] ∧ overflowB s0 ["T"] = true) ∧
    (attemptItem s0 ["T"]).2 = .ok () ∧
    ((attemptItem s0 ["T"]).1.reg.get ["T"]).map (·.isResolved) = some false := by
  decide +kernel

theorem init : case.initialState = .ok s0 := C12.eq_ok_stateOf _ evals.1.1
theorem build : s0.build [] = .nonterm l := build_of_buildK evals.1.2
theorem run : case.run = .nonterm l := (Case.run_of_init init).trans build

theorem bounded : C12.CaseBounded case := by
  intro path file m hm
  simp only [case, List.mem_cons, List.not_mem_nil, or_false, ModEnt.ast.injEq] at hm
  obtain ⟨_, _, rfl⟩ := hm
  refine ⟨?_, ?_⟩
  · intro d hd
    simp only [mod, List.mem_cons, List.not_mem_nil, or_false] at hd
    subst hd
    intro n args z ha; cases ha
  · intro xt hx; cases hx

theorem caseNoVft : CaseNoVft case := by
  intro me hme
  simp only [case, List.mem_cons, List.not_mem_nil, or_false] at hme
  subst hme
  intro d hd
  simp only [mod, List.mem_cons, List.not_mem_nil, or_false] at hd
  subst hd
  intro st hst
  simp only [List.mem_cons, List.not_mem_nil, or_false] at hst
  subst hst
  trivial

theorem ok : C12.StateOkB s0 := (C12.initialState_shape case (Or.inr rfl) bounded).2 s0 init
theorem predef : PredefResolved s0 := initialState_predef case s0 init
theorem noVft : C09.NoVft s0 := (initialState_clean case caseNoVft s0 init).noVft

/-- the array length is an `isize` literal: the parser produces this description -/
example : (2 : Int) ^ 61 ≤ isizeMax := by decide

theorem causes_T : activeCauses s0 ["T"] = [.overflow] := evals.2.1.1

theorem unres_keys : (s0.reg.types.filter (fun e => !e.2.isResolved)).map (·.1) = [["T"]] := evals.2.1.2.1

theorem only_overflow (p : Path) (c : Cause) (hw : WaitsOn s0 p c) (ha : Active s0 p c) : c = .overflow :=
  only_overflow_of unres_keys causes_T p c hw ha

theorem allDefined : AllDefined s0 := fun p n hw ha => by cases only_overflow p _ hw ha
theorem acyclic : Acyclic s0 := ⟨fun _ => 0, fun p q h => by cases only_overflow p _ h.1 h.2⟩

/-- the hypotheses of the converse hold, the build gives up, and the theorem exhibits the overflow -/
example : ∃ s', Rounds [] s0 s' ∧ StuckAt [] s' l ∧ ∃ p ∈ l, Overflow s' p :=
  acyclic_defined_not_stuck_novft_partial s0 [] ok predef noVft allDefined acyclic l build

/-- it is the array: `u64` is resolved and `[u64; 2^61]` has no size -/
example : Overflow s0 ["T"] := (overflow_iff s0 ["T"]).mpr evals.2.1.2.2

end OverflowExample

/-- **REFUTED** (finding 1): names defined and by-value embedding acyclic do not exclude `nonterm`, even without
    vftable blocks, with the registry invariant and `isize` literals -/
theorem acyclic_defined_not_stuck_refuted :
    ¬ ∀ (s : State) (prio : List Path), C12.StateOkB s → PredefResolved s → C09.NoVft s →
      AllDefined s → Acyclic s → ∀ l, s.build prio ≠ .nonterm l := by
  intro h
  exact h OverflowExample.s0 [] OverflowExample.ok OverflowExample.predef OverflowExample.noVft
    OverflowExample.allDefined OverflowExample.acyclic OverflowExample.l OverflowExample.build

/-- **REFUTED** (finding 1): the verdict with the two dependency-graph causes only.  In every state the rounds
    reach from `OverflowExample.s0`, `T` has no undefined name and waits for nothing unresolved. -/
theorem stuck_has_cause_two_causes_refuted :
    ¬ ∀ (s : State) (prio : List Path), C12.StateOkB s → PredefResolved s → ∀ l, s.build prio = .nonterm l →
      ∃ s', Rounds prio s s' ∧ StuckAt prio s' l ∧
        ∀ p ∈ l, ∃ c, WaitsOn s' p c ∧ Active s' p c ∧
          (match c with | .missing _ => True | .waitsFor q => q ∈ l | .overflow => False) := by
  intro h
  obtain ⟨s', hr, _, hall⟩ := h OverflowExample.s0 [] OverflowExample.ok OverflowExample.predef
    OverflowExample.l OverflowExample.build
  have hext : Ext OverflowExample.s0 s' :=
    hr.ext (C09.noVftS_of_noVft OverflowExample.noVft) OverflowExample.ok.ok.reg.keys
  obtain ⟨c, hw, ha, hm⟩ := hall ["T"] (by decide)
  cases c with
  | overflow => exact hm
  | missing n => cases OverflowExample.only_overflow _ _ (hext.waitsOn hw) (hext.active (by simp) ha)
  | waitsFor q => cases OverflowExample.only_overflow _ _ (hext.waitsOn hw) (hext.active (by simp) ha)

/-- **REFUTED** (finding 1): the local characterisation with the two dependency-graph causes only -/
theorem defer_has_cause_two_causes_refuted :
    ¬ ∀ (s : State) (p : Path) (s1 : State) (j : ItemDef), attemptItem s p = (s1, .ok ()) →
      s1.reg.get p = some j → j.isResolved = false →
      ∃ c, WaitsOn s p c ∧ Active s p c ∧ c ≠ .overflow := by
  intro h
  obtain ⟨h1, h2⟩ := OverflowExample.evals.2.2
  cases hg : (attemptItem OverflowExample.s0 ["T"]).1.reg.get ["T"] with
  | none => rw [hg] at h2; cases h2
  | some j =>
    rw [hg] at h2
    simp only [Option.map_some, Option.some.injEq] at h2
    obtain ⟨c, hw, ha, hne⟩ := h OverflowExample.s0 ["T"] (attemptItem OverflowExample.s0 ["T"]).1 j
      (eq_mk_of rfl h1) hg h2
    exact hne (OverflowExample.only_overflow _ _ hw ha)

/-! ### finding 2: an unresolved *predefined* item is waited for but never listed

A hand-made state (not reachable through `add_module`, which registers definitions as `defined`):
`State.new 8` plus `X` – category `predefined`, unresolved, `type X {}` – plus `type A { x: X }`.  It satisfies
`C12.StateOkB`; the loop never attempts `X` (`TypeRegistry::unresolved` skips predefined items), `A` waits for it
forever, and the error names `A` only. -/
namespace PredefExample
def defX : G.Item := { vis := .pub, name := "X", inner := .type { stmts := [], attrs := [] } }
def defA : G.Item :=
  { vis := .pub, name := "A", inner := .type { stmts := [{ field := .field .pub "x" (.ident "X"), attrs := [] }], attrs := [] } }
def itemX : ItemDef := { vis := .pub, path := ["X"], state := .unres defX, cat := .predefined }
def itemA : ItemDef := { vis := .pub, path := ["A"], state := .unres defA, cat := .defined }

def sX : State := C12.stateOf ((State.new 8).addItem itemX)
def s0 : State := C12.stateOf (sX.addItem itemA)
def l : List Path := [["A"]]

/-- both items are added; the build from `s0` gives up with `[A]`; the work list of `s0` is `[A]` and the round over it
    ends `Ok`; the only active cause of `A` is the predefined `X` -/
theorem evals :
    (((State.new 8).addItem itemX).isOk = true ∧ (sX.addItem itemA).isOk = true) ∧
    buildK s0 [] = .nonterm l ∧
    (isort (prioLe []) (C10.ulist s0.reg) = l ∧ (runRound s0 l).2 = .ok ()) ∧
    activeCauses s0 ["A"] = [.waitsFor ["X"]] := by
  decide +kernel

theorem addX : (State.new 8).addItem itemX = .ok sX := C12.eq_ok_stateOf _ evals.1.1
theorem addA : sX.addItem itemA = .ok s0 := C12.eq_ok_stateOf _ evals.1.2

theorem ok : C12.StateOkB s0 := by
  have h0 := C12.new_okB 8 (Or.inr rfl)
  have hX : C12.StateOkB sX :=
    ⟨C12.addItem_ok _ _ itemX h0.ok addX (fun res h => by cases h) (fun h => absurd h (by decide)),
     C12.addItem_unres _ _ itemX h0.lits addX (fun d hd => by cases hd; intro n args z ha; cases ha)⟩
  exact ⟨C12.addItem_ok _ _ itemA hX.ok addA (fun res h => by cases h) (fun h => absurd h (by decide)),
     C12.addItem_unres _ _ itemA hX.lits addA (fun d hd => by cases hd; intro n args z ha; cases ha)⟩

theorem build : s0.build [] = .nonterm l := build_of_buildK evals.2.1

theorem causes_A : activeCauses s0 ["A"] = [.waitsFor ["X"]] := evals.2.2.2

/-- the round changes nothing (the state after it is `s0`: checked by unfolding) -/
theorem round : runRound s0 (s0.reg.unresolved []) = (s0, .ok ()) := by
  rw [unresolved_eq_isort, evals.2.2.1.1]
  exact eq_mk_of (by with_unfolding_all rfl) evals.2.2.1.2

theorem rounds_eq (s s' : State) (h : Rounds [] s s') (hs : s = s0) : s' = s0 := by
  induction h with
  | refl s => exact hs
  | head s sa s' hr _ ih =>
    subst hs
    rw [round] at hr
    simp only [Prod.mk.injEq, and_true] at hr
    exact ih hr.symm
end PredefExample

/-- **REFUTED** without `PredefResolved` (finding 2): `A` is listed, its only active cause is the unresolved
    predefined `X`, and `X` is not listed -/
theorem stuck_has_cause_without_predef_refuted :
    ¬ ∀ (s : State) (prio : List Path), C12.StateOkB s → ∀ l, s.build prio = .nonterm l →
      ∃ s', Rounds prio s s' ∧ StuckAt prio s' l ∧
        ∀ p ∈ l, ∃ c, WaitsOn s' p c ∧ Active s' p c ∧ (match c with | .waitsFor q => q ∈ l | _ => True) := by
  intro h
  obtain ⟨s', hr, _, hall⟩ := h PredefExample.s0 [] PredefExample.ok PredefExample.l PredefExample.build
  obtain ⟨c, hw, ha, hm⟩ := hall ["A"] (by decide)
  have hs' := PredefExample.rounds_eq _ _ hr rfl
  subst hs'
  have hc := (mem_activeCauses PredefExample.s0 ["A"] c).mpr ⟨hw, ha⟩
  rw [PredefExample.causes_A, List.mem_singleton] at hc
  subst hc
  exact absurd hm (by decide)

end PyxisVerif.C10
