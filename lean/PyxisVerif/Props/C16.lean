import PyxisVerif.Spec.C16
import PyxisVerif.Lemmas.C16
import PyxisVerif.Lemmas.C06
import PyxisVerif.Lemmas.C14
import PyxisVerif.Lemmas.Build
/-!
# C16 – calling conventions are the declared ones, or the documented defaults

`CC`, `CC.asStr`, `CC.fromStr`, `ccDefaultSelf`, `ccDefaultNoSelf`, `ccPlaceholder` are
*regenerated from /repo/src on every run* (`Generated/Tables.lean`), so an edit to either match
block or to the default rule in the Rust source changes the statements below.
-/
namespace PyxisVerif.C16
open Gen

/-- the tables in the source are the seven documented conventions -/
theorem table_is_documented (s : String) : CC.fromStr s = documented.lookup s := by
  simp only [CC.fromStr, documented, C14.lookup_cons_ite, List.lookup_nil]

theorem fromStr_asStr (c : CC) : CC.fromStr (CC.asStr c) = some c := by
  cases c <;> decide

theorem asStr_injective (a b : CC) (h : a.asStr = b.asStr) : a = b :=
  Option.some.inj ((fromStr_asStr a).symm.trans (h ▸ fromStr_asStr b))

/-- the documented defaults: thiscall with a receiver, system without, thiscall for placeholders -/
theorem defaults_are_documented :
    ccDefaultSelf = .Thiscall ∧ ccDefaultNoSelf = .System ∧ ccPlaceholder = .Thiscall :=
  ⟨rfl, rfl, rfl⟩

/-- **declared wins, default by receiver, unknown rejected**: whenever `function::build` accepts a
    function (impl or vftable), its convention is the one the property prescribes; in particular a
    function whose `calling_convention` names none of the seven is never accepted -/
theorem built_cc (reg : Registry) (scope : List Path) (isVfunc : Bool) (f : G.Func) (sf : SFunc)
    (h : buildFunction reg scope isVfunc f = .ok sf) : specCC f = some sf.cc := by
  obtain ⟨doc, st, body, args, ret, _, hst, _, hargs, _, rfl⟩ := buildFunction_inv h
  have hcc := (fnAttrs_ok hst).2.2
  unfold specCC
  cases hd : declaredCC f.attrs with
  | none =>
    rw [hd] at hcc
    simp only [show st.cc = none from hcc, mapM_any_isSelf reg scope f.args args hargs, hasReceiver_eq]
    rfl
  | some s =>
    rw [hd] at hcc
    obtain ⟨c, hc, hs⟩ := hcc
    simp only [hc, ← table_is_documented, hs]

theorem unknown_rejected (reg : Registry) (scope : List Path) (isVfunc : Bool) (f : G.Func)
    (h : specCC f = none) : (buildFunction reg scope isVfunc f).isOk = false :=
  Res.isOk_eq_false_iff.mpr fun sf hb => by rw [built_cc reg scope isVfunc f sf hb] at h; cases h

/-- placeholder slots are thiscall -/
theorem placeholder_thiscall (i : Nat) : (placeholderFn i).cc = .Thiscall :=
  rfl

/-- the vftable slot of a function carries the function's convention -/
theorem slot_carries_cc (owner : Path) (f : SFunc) :
    ∃ args, (functionToRegion owner f).ty = .fn f.cc args f.ret :=
  ⟨_, rfl⟩

/-- printer 1 (vftable slot types): the ABI string is `asStr` of the convention -/
theorem slot_printer (cc : CC) (args : List (String × DTy)) (ret : Option DTy) :
    ∃ rest, Emit.rtyStr (.fn cc args ret) = "unsafe extern \"" ++ cc.asStr ++ "\" fn(" ++ rest := by
  unfold Emit.rtyStr
  exact ⟨_ ++ (_ ++ _), String.append_assoc.trans String.append_assoc⟩

/-- printer 2 (address-bound wrappers): the ABI string is `asStr` of the convention -/
theorem wrapper_printer (f : SFunc) (a : Nat) (h : f.body = .addr a) :
    ∃ hd sig ret args, Emit.methodS f =
      Sexp.mk "method" (hd ++ [Sexp.mk "call-addr" [.int a, .str f.cc.asStr, sig, ret, args]]) := by
  unfold Emit.methodS
  rw [h]
  exact ⟨[_, _, _, _, _], _, _, _, rfl⟩

/-- both printers therefore print the same ABI string for the same function, and two functions
    print the same string only if they have the same convention -/
theorem printers_agree_iff (f g : SFunc) : f.cc.asStr = g.cc.asStr ↔ f.cc = g.cc :=
  ⟨asStr_injective _ _, fun h => by rw [h]⟩

/-- a derived vftable that is accepted repeats every base slot *as a whole value*, so each
    inherited slot has the same convention in the derived table -/
theorem inherited_same (s s1 : State) (owner : Path) (vis : Vis) (fb : Option Region) (fns : List SFunc)
    (v : Vft) (ptr : Option Region) (bn : String) (bv : Vft)
    (h : buildVftable s owner vis fb (some fns) = (s1, .ok (some v, ptr)))
    (hb : baseVftable s1.reg fb = .ok (some (bn, bv))) :
    ∀ i (hi : i < bv.fns.length), ∃ (hj : i < v.fns.length), v.fns[i].cc = bv.fns[i].cc := by
  intro i hi
  cases hitem : buildVftableItem s.reg owner vis fns with
  | none => unfold buildVftable at h; simp only [hitem] at h; cases h
  | some item =>
    rcases C06.vftCheck_ok (C06.buildVftable_ok_inv s s1 owner vis fb fns item _ hitem h) with
      ⟨bn', bv', hb', hpre, hr⟩ | ⟨hb', _⟩
    · rw [hb] at hb'
      cases hb'
      cases hr
      exact ⟨Nat.lt_of_lt_of_le hi hpre.length_le, by rw [hpre.getElem hi]⟩
    · rw [hb] at hb'; cases hb'

/-! ## non-vacuity -/

def exFn : G.Func :=
  { vis := .pub, name := "f", attrs := [.fn "address" [.int 4096], .fn "calling_convention" [.str "fastcall"]],
    args := [.mutSelf, .named "x" (.ident "u32")], ret := none }

example : (buildFunction (State.new 4).reg [] false exFn).isOk = true := by decide +kernel
example : specCC exFn = some .Fastcall := by decide +kernel
example : specCC { exFn with attrs := [.fn "calling_convention" [.str "pascal"]] } = none := by decide +kernel

end PyxisVerif.C16
