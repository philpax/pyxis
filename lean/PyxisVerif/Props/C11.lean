import PyxisVerif.Spec.C11
import PyxisVerif.Lemmas.C11
/-!
# C11 – type names bind to the definition the scoping rules select
-/
namespace PyxisVerif.C11

/-- **resolve = the precedence rule**, for a module whose own path is not itself the path of a type
    (`_partial`: without that guard the statement is false, see `own_path_is_type_refuted`) -/
theorem resolve_spec_partial (r : Registry) (own : Path) (uses : List Path) (name : String)
    (hown : r.contains own = false) :
    r.resolveString (own :: uses) name = (specBinding r own uses name).map DTy.raw := by
  unfold Registry.resolveString specBinding
  simp only [List.filter_cons, hown, Bool.false_eq_true, if_false, Bool.not_false, if_true]
  rw [find_rev_eq_getLast_filter]
  generalize ((uses.filter r.contains).filter fun p => p.getLast? == some name).getLast? = q
  cases q with
  | some p => rfl
  | none =>
    simp only [List.map_cons, List.nil_append, List.find?_cons]
    cases r.contains [name] <;> simp
    cases r.contains (own ++ [name]) <;> simp
    cases (List.find? (fun a => !r.contains a && r.contains (a ++ [name])) uses) <;> rfl

/-- the unguarded statement is refuted: module `a::b` in a registry that also has a *type* `a::b`
    (defined by `a.pyxis`) and a local type `a::b::b`: the name `b` binds to the type `a::b`, not to
    the local definition -/
theorem own_path_is_type_refuted :
    ∃ (r : Registry) (own : Path) (uses : List Path) (name : String),
      r.resolveString (own :: uses) name ≠ (specBinding r own uses name).map DTy.raw :=
  ⟨cexReg, ["a", "b"], [], "b", by decide⟩

/-- every place where a type name is looked up – field types, enum bases, parameters, return types,
    extern values, at any pointer / array nesting – goes through that one rule, with the scope
    "own module path, then the `use` entries in source order" -/
theorem lookup_sites (r : Registry) (scope : List Path) (s : String) :
    r.resolveTy scope (.ident s) = (match r.resolveString scope s with | some t => .ok t | none => .defer)
    ∧ (∀ t, r.resolveTy scope (.cptr t) = (match r.resolveTy scope t with | .ok t => .ok (.cptr t) | e => e))
    ∧ (∀ t, r.resolveTy scope (.mptr t) = (match r.resolveTy scope t with | .ok t => .ok (.mptr t) | e => e))
    ∧ (∀ t n, r.resolveTy scope (.arr t n) = (match r.resolveTy scope t with | .ok t => .ok (.arr t n) | e => e)) := by
  refine ⟨?_, ?_, ?_, ?_⟩ <;> intros <;> rfl

theorem scope_is_own_then_uses (m : Mod) : m.scope = m.path :: m.uses := by
  rfl

/-- the emitted reference is the fully qualified crate path of exactly the selected definition
    (built-ins by their bare name, `void` as `c_void`) -/
theorem emitted_reference (p : Path) :
    Emit.tyStr (.raw p) =
      if p = ["void"] then "::std::ffi::c_void"
      else if p.length > 1 then "crate::" ++ "::".intercalate p else "::".intercalate p := by
  unfold Emit.tyStr Path.display
  have : (p.length == 1 && p.getLast? == some "void") = decide (p = ["void"]) := by
    match p with
    | [] => simp
    | [a] => simp; by_cases h : a = "void" <;> simp [h]
    | a :: b :: l => simp
  rw [this]
  by_cases h : p = ["void"] <;> simp [h]

/-- the size and alignment used for layout are those recorded for exactly the selected definition -/
theorem layout_uses_binding (r : Registry) (p : Path) :
    DTy.size r (.raw p) = .ok ((r.get p).bind fun i => i.resolved?.map (·.size))
    ∧ DTy.align r (.raw p) = (r.get p).bind fun i => i.resolved?.map (·.align) := by
  exact ⟨rfl, rfl⟩

/-- a selected binding is always an existing definition -/
theorem binding_exists (r : Registry) (own : Path) (uses : List Path) (name : String) (p : Path)
    (h : specBinding r own uses name = some p) : r.contains p = true := by
  unfold specBinding at h
  simp only at h
  split at h
  · rename_i q hq
    cases h
    have hm := List.mem_of_getLast? hq
    have := (List.mem_filter.mp hm).1
    exact (List.mem_filter.mp this).2
  · split at h
    · cases h; assumption
    · split at h
      · cases h; assumption
      · exact List.find?_some h

/-! ## non-vacuity: `use x::T; use y;` in module `m` that also defines `T`; `y` defines `T` and `U` -/
def exReg : Registry :=
  let mk (p : Path) (size : Nat) : ItemDef := { vis := .pub, path := p, state := .res { size, align := 1, inner := .type {} }, cat := .defined }
  (((({ ps := 4 } : Registry).add (mk ["x", "T"] 1)).add (mk ["m", "T"] 2)).add (mk ["y", "T"] 3)).add (mk ["y", "U"] 4)

example : specBinding exReg ["m"] [["x", "T"], ["y"]] "T" = some ["x", "T"] := by decide +kernel
example : specBinding exReg ["m"] [["y"]] "T" = some ["m", "T"] := by decide +kernel
example : specBinding exReg ["m"] [["y"]] "U" = some ["y", "U"] := by decide +kernel
example : exReg.contains ["m"] = false := by decide +kernel

end PyxisVerif.C11
