import PyxisVerif.Spec.C14
import PyxisVerif.Lemmas.C14
/-!
# C14 – every declared item is emitted exactly once, in the file of its module
-/
namespace PyxisVerif.C14
open Gen

/-- **one file per non-root module, at the same relative path with `.rs`** -/
theorem files_per_module (s : State) :
    (Emit.files s).length = (s.modules.filter fun e => !e.1.isEmpty).length
    ∧ ∀ f ∈ Emit.files s, ∃ e ∈ s.modules, e.1 ≠ [] ∧ f = Emit.moduleFile s e.1 e.2 :=
  ⟨by simp [Emit.files, Emit.sortBy, List.length_mergeSort], files_mem s⟩

theorem file_name (s : State) (key : Path) (m : Mod) :
    ∃ body, Emit.moduleFile s key m = Sexp.mk "file" [.str (specFile key), body] :=
  ⟨_, rfl⟩

/-- **content and order of a file**: module docs, then the rust prologues (complete, in source order),
    then the items of the module's definitions sorted by path, then the extern-value accessors sorted
    by name, then the rust epilogues -/
theorem file_content (s : State) (key : Path) (m : Mod) :
    Emit.moduleFile s key m = Sexp.mk "file" [.str (Emit.relFile key), Sexp.mk "rs" (
      Sexp.mk "inner" ((Emit.docLines m.doc).map fun l => Sexp.mk "doc" [.str l]) ::
      ((let pro := (m.backendsFor "rust").filterMap (·.prologue)
        if pro.isEmpty then [] else [Sexp.mk "opaque-block" [.str ("\n".intercalate pro)]]) ++
       (Emit.sortBy (fun (a b : ItemDef) => Path.le a.path b.path) (m.defPaths.filterMap s.reg.get)).flatMap (Emit.itemItems s.reg) ++
       (Emit.sortBy (fun (a b : XValue) => a.name ≤ b.name) m.xvals).map Emit.xvalItem ++
       (let epi := (m.backendsFor "rust").filterMap (·.epilogue)
        if epi.isEmpty then [] else [Sexp.mk "opaque-block" [.str ("\n".intercalate epi)]])))] :=
  rfl

/-- text for other backends is not included: only blocks named `rust` are read -/
theorem other_backends_excluded (m : Mod) (b : SBackend) (h : b ∈ m.backendsFor "rust") :
    ("rust", b) ∈ m.backends := by
  simp only [Mod.backendsFor, List.mem_map, List.mem_filter, beq_iff_eq] at h
  obtain ⟨⟨n, b'⟩, ⟨hm, hn⟩, rfl⟩ := h
  cases hn
  exact hm

/-- built-in and extern types are not emitted -/
theorem only_defined_emitted (reg : Registry) (i : ItemDef) (h : i.cat ≠ .defined) : Emit.itemItems reg i = [] := by
  unfold Emit.itemItems
  split
  · next h1 _ => exact absurd h1 h
  · rfl

/-- each definition path of a module is listed once (the path set behaves as a set) -/
theorem defPaths_nodup (s s' : State) (i : ItemDef) (h : s.addItem i = .ok s')
    (hn : ∀ e ∈ s.modules, e.2.defPaths.Nodup) : ∀ e ∈ s'.modules, e.2.defPaths.Nodup :=
  defPaths_nodup_main s s' i h hn

/-- **two declarations that would produce the same item are an error**: a second definition (type,
    enum or extern type) of a name already registered under the module's path -/
theorem duplicate_definition_rejected (s : State) (m : G.Module) (path : Path)
    (h : ¬ (declaredNames m).Nodup) : (s.addModule m path).isOk = false :=
  Res.isOk_eq_false_iff.mpr fun s' hs => h (addModule_ok_nodup s s' m path hs)

/-- … and a user definition that collides with the vftable struct generated for another type -/
theorem vftable_clash_rejected (s : State) (owner : Path) (vis : Vis) (fb : Option Region) (fns : List SFunc)
    (item : ItemDef) (existing : ItemDef)
    (hi : buildVftableItem s.reg owner vis fns = some item)
    (he : s.reg.get item.path = some existing) (hne : existing ≠ item) :
    ∃ msg, (buildVftable s owner vis fb (some fns)).2 = .err msg := by
  unfold buildVftable
  simp only [hi, he]
  rw [if_pos (by simpa using hne)]
  exact ⟨_, rfl⟩

/-- one generated vftable struct per type that declares a block: it is registered under
    `<module>::<Type>Vftable` in the same module -/
theorem vftable_item_path (reg : Registry) (owner : Path) (vis : Vis) (fns : List SFunc) (item : ItemDef)
    (h : buildVftableItem reg owner vis fns = some item) :
    ∃ name, owner.getLast? = some name ∧ item.path = owner.dropLast ++ [name ++ "Vftable"] ∧ item.cat = .defined := by
  unfold buildVftableItem vftablePath at h
  cases hl : owner.getLast? with
  | none => simp [hl] at h
  | some name =>
    cases hp : Path.parent? owner with
    | none => simp [hl, hp] at h
    | some parent =>
      simp only [hl, hp, Option.map_some, Option.some.injEq] at h
      subst h
      refine ⟨name, rfl, ?_, rfl⟩
      unfold Path.parent? at hp
      split at hp
      · cases hp
      · cases hp; rfl

end PyxisVerif.C14
