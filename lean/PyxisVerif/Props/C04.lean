import PyxisVerif.Spec.C04
import PyxisVerif.Lemmas.C04
/-!
# C04 – virtual functions occupy the declared vftable slots (table part)

The dispatch part of the property (what executing an emitted wrapper does) is stated under the operational
semantics of `Props/Exec.lean` (`vfunc_wrapper_calls_declared_slot`, the accessor theorems) and checked on the
implementation by executing the emitted code (O4).
-/
namespace PyxisVerif.C04
open Gen

/-- **slots**: when the vftable block is accepted, function `k` sits in slot `pos[k]` (its written
    index, else predecessor + 1, else 0), every other slot holds the placeholder named after its own
    position, and the table has the declared size (else exactly the slots needed) -/
theorem slots (reg : Registry) (scope : List Path) (size : Option Nat) (fns : List G.Func) (out : List SFunc)
    (h : convertVfuncs reg scope size fns = .ok out) :
    ∃ pos built len,
      specPositions 0 (fns.map declIndex) = some pos
      ∧ Res.mapM' (buildFunction reg scope true) fns = .ok built
      ∧ pos.length = built.length
      ∧ specLength size pos = some len ∧ out.length = len
      ∧ (∀ pb ∈ pos.zip built, out[pb.1]? = some pb.2)
      ∧ (∀ j, j < out.length → j ∉ pos → out[j]? = some (placeholderFn j)) := by
  rw [convertVfuncs_eq] at h
  split at h
  · next lo hlo =>
    obtain ⟨ps, bs, hps, hbs, hl, rfl⟩ := loop_ok hlo
    have hfst : (ps.zip bs).map (·.1) = ps := List.map_fst_zip (by omega)
    obtain ⟨t1, _, t3, t4⟩ := slotsFrom_spec [] (ps.zip bs) (by rw [hfst]; exact specPositions_incr hps)
    rw [hfst] at t1 t4
    generalize ([] : List SFunc) ++ slotsFrom [].length (ps.zip bs) = lo at t1 t3 t4 h
    have hneed : needed ps = lo.length := t1.symm
    cases size with
    | none =>
      cases h
      exact ⟨ps, bs, _, hps, hbs, hl, rfl, hneed.symm, t3, fun j hj hn => t4 j (Nat.zero_le _) hj hn⟩
    | some n =>
      simp only at h
      split at h
      · cases h
      · next hlt =>
        rw [makePadding_ok h]
        refine ⟨ps, bs, n, hps, hbs, hl, by simp only [specLength, hneed]; rw [if_neg hlt],
          by rw [List.length_append, length_padding]; omega, fun pb hpb => ?_, fun j hj hn => ?_⟩
        · have := t3 pb hpb
          rw [List.getElem?_append_left (List.getElem?_eq_some_iff.mp this).1, this]
        · rw [List.length_append, length_padding] at hj
          by_cases hjl : j < lo.length
          · rw [List.getElem?_append_left hjl]
            exact t4 j (Nat.zero_le _) hjl hn
          · rw [List.getElem?_append_right (by omega), getElem?_padding (by omega)]
            congr 2
            omega
  · next e hne => exact absurd h (fun hh => hne _ hh)

/-- **contradictions are rejected**: a negative index, an index below the slots already taken, or a
    declared size smaller than the slots needed -/
theorem contradiction_rejected (reg : Registry) (scope : List Path) (size : Option Nat) (fns : List G.Func)
    (h : specPositions 0 (fns.map declIndex) = none ∨
         ∃ pos, specPositions 0 (fns.map declIndex) = some pos ∧ specLength size pos = none) :
    (convertVfuncs reg scope size fns).isOk = false := by
  refine Res.isOk_eq_false_iff.mpr fun out hout => ?_
  obtain ⟨pos, _, len, hpos, _, _, hlen, _⟩ := slots reg scope size fns out hout
  rcases h with h | ⟨pos', h1, h2⟩
  · rw [h] at hpos; cases hpos
  · rw [h1] at hpos; cases hpos
    rw [h2] at hlen; cases hlen

/-- a placeholder is private, takes `&mut self`, returns nothing, is thiscall and is named `_vfunc_<slot>` -/
theorem placeholder_shape (j : Nat) :
    placeholderFn j = { vis := .priv, name := "_vfunc_" ++ toString j, doc := none,
                        body := .vft ("_vfunc_" ++ toString j), args := [.mutSelf], ret := none, cc := .Thiscall } :=
  rfl

/-- the generated `<T>Vftable` item has one pointer-sized region per slot, in slot order, named after
    the function in that slot, and its resolved size is `slots * pointer size` -/
theorem vftable_item (reg : Registry) (owner : Path) (vis : Vis) (fns : List SFunc) (item : ItemDef)
    (h : buildVftableItem reg owner vis fns = some item) :
    ∃ td, item.state = .res { size := fns.length * reg.ps, align := reg.ps, inner := .type td }
      ∧ td.regions = fns.map (functionToRegion owner)
      ∧ (∀ r ∈ td.regions, r.ty.size reg = .ok (some reg.ps) ∧ r.ty.align reg = some reg.ps) := by
  unfold buildVftableItem at h
  cases hp : vftablePath owner with
  | none => rw [hp] at h; cases h
  | some p =>
    rw [hp] at h
    cases h
    refine ⟨{ regions := fns.map (functionToRegion owner) }, by simp, rfl, fun r hr => ?_⟩
    obtain ⟨f, _, rfl⟩ := List.mem_map.mp hr
    exact ⟨rfl, rfl⟩

/-- **slot offset** (modelled rustc): in a `repr(C)` struct of `n` pointer-sized, pointer-aligned fields,
    field `k` is at byte `k * ps` -/
theorem slot_offset (ps n : Nat) (hps : 0 < ps) :
    RustSem.offsets false 0 (List.replicate n ⟨ps, ps⟩) = (List.range n).map (· * ps) := by
  rw [List.range_eq_range', ← offsets_replicate ps n 0 hps, Nat.zero_mul]

/-- the wrapper emitted for a virtual function reads the slot *by the name of that function's own
    field* and forwards the receiver followed by the arguments in declared order -/
theorem wrapper_shape (f : SFunc) (fn : String) (h : f.body = .vft fn) :
    ∃ hd, Emit.methodS f = Sexp.mk "method" (hd ++
      [Sexp.mk "call-slot" [.str fn, Sexp.mk "args" (f.args.map Emit.callArgS)]]) :=
  ⟨[Emit.docsS f.doc, Emit.visS f.vis, .str f.name, Sexp.mk "params" (f.args.map Emit.paramS), Emit.optTyS f.ret],
    by simp only [Emit.methodS, h]; rfl⟩

/-- a built virtual function reads the slot named after itself -/
theorem vfunc_body (reg : Registry) (scope : List Path) (f : G.Func) (sf : SFunc)
    (h : buildFunction reg scope true f = .ok sf) : sf.body = .vft f.name ∧ sf.name = f.name := by
  obtain ⟨doc, st, body, args, ret, _, hst, hbody, _, _, rfl⟩ := buildFunction_inv h
  rw [(fnAttrs_ok hst).1 rfl] at hbody
  exact ⟨(Option.some.inj hbody).symm, rfl⟩

/-! ## non-vacuity -/
def exFns : List G.Func :=
  [{ vis := .pub, name := "a", attrs := [], args := [.mutSelf], ret := none },
   { vis := .pub, name := "b", attrs := [.fn "index" [.int 3]], args := [.constSelf, .named "x" (.ident "u32")], ret := some (.ident "i32") },
   { vis := .pub, name := "c", attrs := [], args := [.mutSelf], ret := none }]

/-- a table of 6 slots takes `exFns`, one of 2 does not; one evaluation, so that `State.new 4` is built once -/
theorem exFns_verdicts : (convertVfuncs (State.new 4).reg [] (some 6) exFns).isOk = true ∧
    (convertVfuncs (State.new 4).reg [] (some 2) exFns).isOk = false := by decide +kernel

example : specPositions 0 (exFns.map declIndex) = some [0, 3, 4] := by decide
example : (convertVfuncs (State.new 4).reg [] (some 6) exFns).isOk = true := exFns_verdicts.1
example : specPositions 0 [none, some 0] = none := by decide
example : (convertVfuncs (State.new 4).reg [] (some 2) exFns).isOk = false := exFns_verdicts.2

end PyxisVerif.C04
