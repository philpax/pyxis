import PyxisVerif.Spec.C07
import PyxisVerif.Lemmas.C07
/-!
# C07 – base members are re-exposed on derived types and act on the base sub-object

Shape part: which forwarding methods and conversions a derived type gets and what they say.  That a
forwarding method *run* lands on the sub-object at the base's offset is a consequence of Rust's
field-projection semantics for `self.<field>.<fn>(..)` and of C01 (the field is at its offset); it
is proved under the operational semantics of `Props/Exec.lean` (`forwarder_calls_original_on_subobject`) and
observed on the implementation by executing the emitted code.
-/
namespace PyxisVerif.C07
open Gen

/-- **injection of one base**: the functions added for a base field are exactly `specInject` -/
theorem addFunctions_spec (base : String) (acc : InjAcc) (fs : List SFunc) :
    (addFunctions base acc fs).fns = acc.fns ++ specInject base acc.used fs
    ∧ (addFunctions base acc fs).used = usedAfter base acc.used fs := by
  induction fs generalizing acc with
  | nil => simp [addFunctions_nil, specInject, usedAfter]
  | cons f fs ih =>
    rw [addFunctions_cons]
    unfold specInject usedAfter
    by_cases c : reexposable f = true
    · simp only [c, if_true]
      obtain ⟨h1, h2⟩ := ih (injStep base acc f)
      rw [h1, h2]
      simp only [injStep, fmtRenamed, renamed, List.append_assoc, List.singleton_append, and_self]
    · simp only [c]
      exact ih acc

/-- every public function of the base is re-exposed, once, under its own name or `<field>_<name>`,
    with its receiver, parameters, return type and convention unchanged, forwarding to the original -/
theorem every_public_reexposed (base : String) (used : List String) (fs : List SFunc) (f : SFunc)
    (hf : f ∈ fs) (hp : f.vis = .pub) (hi : f.isInternal = false) :
    ∃ g ∈ specInject base used fs, g.body = .field base f.name ∧ (g.name = f.name ∨ g.name = renamed base f.name)
      ∧ g.args = f.args ∧ g.ret = f.ret ∧ g.cc = f.cc ∧ g.vis = .pub := by
  induction fs generalizing used with
  | nil => cases hf
  | cons f0 fs ih =>
    unfold specInject
    rcases List.mem_cons.mp hf with rfl | hf'
    · have c : reexposable f = true := by simp [reexposable, hp, hi]
      simp only [c, if_true]
      refine ⟨_, List.mem_cons_self, rfl, ?_, rfl, rfl, rfl, hp⟩
      by_cases c2 : used.contains f.name = true
      · right; simp only [c2, if_true]
      · left
        have c3 : used.contains f.name = false := by simpa using c2
        simp only [c3]; rfl
    · by_cases c : reexposable f0 = true
      · simp only [c, if_true]
        obtain ⟨g, hg, hh⟩ := ih _ hf'
        exact ⟨g, List.mem_cons_of_mem _ hg, hh⟩
      · simp only [c]
        exact ih _ hf'

/-- private functions of a base are not re-exposed, and neither are its internal (`_`-prefixed) ones, for which the
    base has no wrapper to forward to -/
theorem private_not_reexposed (base : String) (used : List String) (fs : List SFunc) :
    ∀ g ∈ specInject base used fs, ∃ f ∈ fs, f.vis = .pub ∧ f.isInternal = false ∧ g.body = .field base f.name := by
  induction fs generalizing used with
  | nil => intro g hg; simp [specInject] at hg
  | cons f0 fs ih =>
    intro g hg
    unfold specInject at hg
    by_cases c : reexposable f0 = true
    · simp only [c, if_true] at hg
      have c2 : f0.vis = .pub ∧ f0.isInternal = false := by simpa [reexposable] using c
      rcases List.mem_cons.mp hg with rfl | hg'
      · exact ⟨f0, List.mem_cons_self, c2.1, c2.2, rfl⟩
      · obtain ⟨f, hf, hh⟩ := ih _ g hg'
        exact ⟨f, List.mem_cons_of_mem _ hf, hh⟩
    · simp only [c] at hg
      obtain ⟨f, hf, hh⟩ := ih _ g hg
      exact ⟨f, List.mem_cons_of_mem _ hf, hh⟩

/-- **all bases, in order; vftable functions of every base but the first**: the injection loop adds, for
    the `i`-th base region whose type is resolved, that type's associated functions (which by the same
    theorem already contain what it inherited itself) and, for `i > 0`, its vftable's functions -/
theorem injectBases_step (reg : Registry) (acc : InjAcc) (i : Nat) (r : Region) (name : String) (td : TypeDefn)
    (h : regionNameAndTypeDef reg r = .ok (some (name, td))) :
    Res.foldlM (fun (acc : InjAcc) (ib : Nat × Region) =>
        match regionNameAndTypeDef reg ib.2 with
        | .ok none => .ok acc
        | .ok (some (baseName, td)) =>
          let acc1 := addFunctions baseName acc td.fns
          .ok (if ib.1 > 0 then
                match td.vft with
                | some v => addFunctions baseName acc1 v.fns
                | none => acc1
              else acc1)
        | e => e.cast) acc [(i, r)]
      = .ok (let acc1 := addFunctions name acc td.fns
             if i > 0 then (match td.vft with | some v => addFunctions name acc1 v.fns | none => acc1) else acc1) := by
  simp [Res.foldlM, h]

/-- the emitted forwarding method calls `self.<field>.<original name>(..)` with the receiver dropped
    and the remaining arguments in declared order -/
theorem forwarder_shape (f : SFunc) (fld fn : String) (h : f.body = .field fld fn) :
    ∃ hd, Emit.methodS f = Sexp.mk "method" (hd ++
      [Sexp.mk "call-field" [.str fld, .str fn, Sexp.mk "args" ((f.args.filter (!·.isSelf)).map Emit.callArgS)]]) := by
  refine ⟨[Emit.docsS f.doc, Emit.visS f.vis, .str f.name, Sexp.mk "params" (f.args.map Emit.paramS),
    Emit.optTyS f.ret], ?_⟩
  unfold Emit.methodS
  rw [h]
  rfl

/-- **conversions**: for each base in the hierarchy, in hierarchy order: one AsRef and one AsMut along
    its field path if its type occurs once, a marker constant (and no conversion) if it occurs more
    than once; followed by the conversion of the type to itself -/
theorem conversions_emitted (reg : Registry) (path : Path) (size align : Nat) (vis : Vis) (td : TypeDefn) :
    let name := path.getLast?.getD ""
    let hier := Emit.dfsHierarchy reg (reg.types.length + 1) td []
    ∃ pre, Emit.typeItems reg path size align vis td = pre ++
      (hier.flatMap fun (fp, ty) =>
        if occurrences hier ty > 1 then
          [Sexp.mk "conflict" [.str ("_CONFLICTING_" ++ Emit.upper (unraw name) ++ "_" ++ "_".intercalate (fp.map fun s => Emit.upper (unraw s)))]]
        else
          [Sexp.mk "asref" [.str name, .str (Emit.rtyStr ty), Sexp.mk "fp" (fp.map .str)],
           Sexp.mk "asmut" [.str name, .str (Emit.rtyStr ty), Sexp.mk "fp" (fp.map .str)]]) ++
      [Sexp.mk "asref" [.str name, .str name, Sexp.mk "fp" []], Sexp.mk "asmut" [.str name, .str name, Sexp.mk "fp" []]] := by
  intro name hier
  unfold Emit.typeItems
  exact ⟨_, rfl⟩

/-- **the hierarchy lists every direct base, and below each of them its own hierarchy** (so every
    transitive base, with the field path that leads to it) -/
theorem dfs_unfold (reg : Registry) (fuel : Nat) (td : TypeDefn) (fields : List String) :
    Emit.dfsHierarchy reg (fuel + 1) td fields =
      (td.regions.filter (·.isBase)).flatMap fun r =>
        match regionNameAndTypeDef reg r with
        | .ok (some (name, btd)) => (fields ++ [name], r.ty) :: Emit.dfsHierarchy reg fuel btd (fields ++ [name])
        | _ => [] :=
  dfs_unfold_lem reg fuel td fields

end PyxisVerif.C07
