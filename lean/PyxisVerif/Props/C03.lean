import PyxisVerif.Spec.C03
import PyxisVerif.Lemmas.Layout
/-!
# C03 – a type description is accepted exactly when it is realisable

`verdict` is the model's own layout code (`Layout.resolve` + `Layout.alignCheck`, the functions
`Model/Build.lean` runs for every type) applied to a `TypeSpec`; `Realisable` is the text of
the property (`Spec/C03.lean`).
-/
namespace PyxisVerif.C03
open Layout

/-- crude size of the numbers in a description -/
def bound (ps : Nat) (t : TypeSpec) : Nat :=
  ps + (t.fields.map fun f => f.addr.getD 0 + f.size).sum + t.size?.getD 0 + t.align?.getD 0

/-- C03's quantifier: pointer width 4 or 8; field types are built-in scalars, pointers, arrays of
    those and `unknown<N>` gaps, whose alignments are 1, 2, 4, 8 or 16; numbers small enough that
    no `usize` arithmetic can overflow (overflow is C12's subject) -/
structure InDomain (ps : Nat) (t : TypeSpec) : Prop where
  ps_ok : ps = 4 ∨ ps = 8
  aligns : ∀ f ∈ t.fields, f.align = 1 ∨ f.align = 2 ∨ f.align = 4 ∨ f.align = 8 ∨ f.align = 16
  small : bound ps t < 2 ^ 32

theorem InDomain.verdict_spec {ps : Nat} {t : TypeSpec} (h : InDomain ps t) :
    Decides (Realisable ps t) (verdict ps t) (totalSize ps t, if t.packed then 1 else effAlign ps t) :=
  Layout.verdict_spec ps t (.of_small (by have := h.ps_ok; omega)) (fun f hf => .of_small (h.aligns f hf))
    (by
      have := h.small
      unfold bound at this
      unfold wt usizeMax
      omega)

/-- **C03.**  A description in the domain is accepted if and only if it is realisable. -/
theorem accepts_iff_realisable (ps : Nat) (t : TypeSpec) (h : InDomain ps t) :
    (verdict ps t).isOk = true ↔ Realisable ps t := by
  refine ⟨fun hv => Classical.byContradiction fun hn => ?_, fun hr => ?_⟩
  · obtain ⟨m, hm⟩ := h.verdict_spec.2 hn
    rw [hm] at hv
    cases hv
  · rw [h.verdict_spec.1 hr]
    rfl

/-- every other description fails with an *error* (never a panic, never "try again later") -/
theorem rejects_with_error (ps : Nat) (t : TypeSpec) (h : InDomain ps t) (hn : ¬ Realisable ps t) :
    ∃ m, verdict ps t = .err m :=
  h.verdict_spec.2 hn

/-- an accepted description gets the declared (or natural) size and the effective alignment -/
theorem accepted_size_align (ps : Nat) (t : TypeSpec) (h : InDomain ps t) (s a : Nat)
    (hv : verdict ps t = .ok (s, a)) :
    s = totalSize ps t ∧ a = (if t.packed then 1 else effAlign ps t) := by
  have hr : Realisable ps t := (accepts_iff_realisable ps t h).mp (by rw [hv]; rfl)
  rw [h.verdict_spec.1 hr] at hv
  cases hv
  exact ⟨rfl, rfl⟩

/-- the executable oracle used on the implementation's verdicts decides the property -/
theorem realisableB_iff (ps : Nat) (t : TypeSpec) :
    realisableB ps t = true ↔ Realisable ps t :=
  Layout.realisableB_spec ps t

/-! ## non-vacuity: concrete descriptions in the domain on both sides of the iff -/

/-- `type T { a: u32, #[address(8)] b: u64 }` with `#[size(16), align(8)]` -/
def exAccepted : TypeSpec :=
  { vft := false, fields := [⟨none, 4, 4, false⟩, ⟨some 8, 8, 8, false⟩], size? := some 16, align? := some 8, packed := false }

/-- `#[align(3)] type T { a: u8, b: u8, c: u8 }` – rejected: the alignment is not a power of two
    (pyxis accepted it before its `fix:` commit) -/
def exAlign3 : TypeSpec :=
  { vft := false, fields := [⟨none, 1, 1, false⟩, ⟨none, 1, 1, false⟩, ⟨none, 1, 1, false⟩], size? := none, align? := some 3, packed := false }

example : InDomain 8 exAccepted := ⟨by decide, by decide, by decide⟩
example : verdict 8 exAccepted = .ok (16, 8) := by decide
example : InDomain 4 exAlign3 := ⟨by decide, by decide, by decide⟩
example : (verdict 4 exAlign3).isOk = false := by decide

end PyxisVerif.C03
