import PyxisVerif.Lemmas.C10GlobalVft
import PyxisVerif.Props.C10Global
import PyxisVerif.Props.C09Vft
/-!
# C10, global – the converse statements for descriptions WITH vftable blocks, under `NoGenRefs`

`Props/C10Global.lean` proves `stuck_has_cause` in general, and the converse statements

* names defined ∧ by-value embedding acyclic ⇒ a build that gives up does so for a size beyond `usize::MAX`
  (`acyclic_defined_not_stuck_novft_partial`, `acyclic_defined_not_stuck_novft`),
* accepted ⇒ names defined ∧ acyclic (`accepted_defined_acyclic_novft`)

for descriptions without `vftable` blocks only (finding 4 there: with vftable blocks the key set grows during the run and
`resolve_string` is not monotone in the key set).  Here they are proved for descriptions WITH `vftable` blocks in which
nothing mentions a generated `<T>Vftable` item by name (`C09.NoGenRefs` for states, `C09.CaseNoGenRefs` for cases,
`Lemmas/MonoVft.lean`), with the same `AllDefined` / `Acyclic` / `Overflow` (`Props/C10Global.lean`, `Lemmas/C10Global.lean`).

Two things make this work (`Lemmas/C10GlobalVft.lean`).  Every state the rounds reach is the abstract registry of a
run over the initial state plus generated items (`C09.Rep`); generated items are registered RESOLVED, so an unresolved
entry of a later state is an unresolved entry of the initial state, and nothing waits for a generated item.  And under
`NoGenRefs` no type expression of an unresolved definition names a generated item, so the lookups the relation `WaitsOn`
is read off (`usedTys`: field types, enum bases – NOT function signatures) answer in every later state what they
answer in the initial state: `AllDefined` is about user names only, as in the model.  The subtlety of
`resolve_regions` – a type whose FIRST `#[base]` field has no size yet defers BEFORE `vftable::build`, its generated item
not yet registered (`VftExample` of `Props/C09Vft.lean`: `D` in round 1) – needs no special treatment: the cause of that
deferral is `waitsFor base`, an old key, and whether the generated item is registered or not changes no lookup.

Finding 1 of `Props/C10Global.lean` (a third cause: sizes beyond `usize::MAX`) is there with vftable blocks too; the
example below is a type WITH a vftable block and an oversized array.
-/
namespace PyxisVerif.C10
open C09

/-- **names defined, by-value embedding acyclic ⇒ if the build still gives up, it is for a size beyond
    `usize::MAX`** (with `vftable` blocks, nothing mentioning a generated name): some listed item has an `Overflow` in
    the stuck state -/
theorem acyclic_defined_not_stuck_nogenref_partial (s : State) (prio : List Path) (hs : C12.StateOkB s)
    (hp : PredefResolved s) (hg : C09.NoGenRefs s) (hdef : AllDefined s) (hacyc : Acyclic s)
    (l : List Path) (h : s.build prio = .nonterm l) :
    ∃ s', Rounds prio s s' ∧ StuckAt prio s' l ∧ ∃ p ∈ l, Overflow s' p := by
  have cx : Ctx s := ⟨hs, hg⟩
  refine stuck_overflow_of_transport s prio hs hp (fun s' hr p c hw => ?_) hdef hacyc l h
  obtain ⟨R, _, hrep⟩ := hr.sim (sim_rep cx) Work.Run.start (Rep.init cx) hs.ok.reg.keys
  exact ⟨rep_waitsOn cx hrep hw, rep_active cx hrep hw⟩

/-- … hence: names defined, acyclic and no size overflow in any state the rounds reach ⇒ the build does not end in
    `nonterm` -/
theorem acyclic_defined_not_stuck_nogenref (s : State) (prio : List Path) (hs : C12.StateOkB s)
    (hp : PredefResolved s) (hg : C09.NoGenRefs s) (hdef : AllDefined s) (hacyc : Acyclic s)
    (hsmall : ∀ s', Rounds prio s s' → ∀ p, ¬ Overflow s' p) :
    ∀ l, s.build prio ≠ .nonterm l := by
  intro l h
  obtain ⟨s', hr, _, p, _, ho⟩ := acyclic_defined_not_stuck_nogenref_partial s prio hs hp hg hdef hacyc l h
  exact hsmall s' hr p ho

/-- … for whole cases (syntactic condition `CaseNoGenRefs` on the modules) -/
theorem case_acyclic_defined_not_stuck_nogenref_partial (c : Case) (hps : c.ps = 4 ∨ c.ps = 8)
    (hb : C12.CaseBounded c) (hg : C09.CaseNoGenRefs c) (s0 : State) (hi : c.initialState = .ok s0)
    (hdef : AllDefined s0) (hacyc : Acyclic s0) (l : List Path) (h : c.run = .nonterm l) :
    ∃ s', Rounds c.prio s0 s' ∧ StuckAt c.prio s' l ∧ ∃ p ∈ l, Overflow s' p := by
  obtain ⟨s0', hi', hbuild⟩ := run_nonterm_inv c l h
  rw [hi] at hi'; cases hi'
  exact acyclic_defined_not_stuck_nogenref_partial s0 c.prio ((C12.initialState_shape c hps hb).2 s0 hi)
    (initialState_predef c s0 hi) (initial_noGenRefs c hps hb hg s0 hi) hdef hacyc l hbuild

theorem case_acyclic_defined_not_stuck_nogenref (c : Case) (hps : c.ps = 4 ∨ c.ps = 8)
    (hb : C12.CaseBounded c) (hg : C09.CaseNoGenRefs c) (s0 : State) (hi : c.initialState = .ok s0)
    (hdef : AllDefined s0) (hacyc : Acyclic s0)
    (hsmall : ∀ s', Rounds c.prio s0 s' → ∀ p, ¬ Overflow s' p) : ∀ l, c.run ≠ .nonterm l := by
  intro l h
  obtain ⟨s', hr, _, p, _, ho⟩ := case_acyclic_defined_not_stuck_nogenref_partial c hps hb hg s0 hi hdef hacyc l h
  exact hsmall s' hr p ho

/-- **accepted ⇒ every used name is defined and by-value embedding among the unresolved items is acyclic** (with
    `vftable` blocks, nothing mentioning a generated name): the order in which the run resolved the items is a rank -/
theorem accepted_defined_acyclic_nogenref (s : State) (prio : List Path) (hs : C12.StateOkB s)
    (hp : PredefResolved s) (hg : C09.NoGenRefs s) (s1 : State) (h : s.build prio = .ok s1) :
    AllDefined s ∧ Acyclic s :=
  have cx : Ctx s := ⟨hs, hg⟩
  defined_acyclic_of_sim (sim_rep cx) (Rep.init cx) hs.ok.reg.keys hp (attempt_done_depsV cx) h

/-- … for whole cases -/
theorem case_accepted_defined_acyclic_nogenref (c : Case) (hps : c.ps = 4 ∨ c.ps = 8) (hb : C12.CaseBounded c)
    (hg : C09.CaseNoGenRefs c) (s0 s1 : State) (hi : c.initialState = .ok s0) (h : c.run = .ok s1) :
    AllDefined s0 ∧ Acyclic s0 := by
  rw [Case.run_of_init hi] at h
  exact accepted_defined_acyclic_nogenref s0 c.prio ((C12.initialState_shape c hps hb).2 s0 hi)
    (initialState_predef c s0 hi) (initial_noGenRefs c hps hb hg s0 hi) s1 h

/-! ### an accepted description with vftable blocks: `C09.VftExample` (a base `B` with a vftable block, a derived `D`
    extending it, a type `P` with a pointer to `D`) -/
namespace AcceptedVftExample

/-- the theorem applies to the accepted case of `Props/C09Vft.lean` … -/
theorem defined_acyclic : AllDefined C09.VftExample.s0 ∧ Acyclic C09.VftExample.s0 := by
  obtain ⟨s1, h1⟩ := (C09.isOkB_iff _).mp C09.VftExample.run_ok
  exact case_accepted_defined_acyclic_nogenref C09.VftExample.case (Or.inr rfl) C09.VftExample.bounded
    C09.VftExample.noGenRefs C09.VftExample.s0 s1 C09.VftExample.init h1

/-- one evaluation (the conjuncts share the two states) -/
theorem evals :
    (activeCauses C09.VftExample.s0 ["m", "D"] = [.waitsFor ["m", "B"]] ∧
      activeCauses C09.VftExample.s0 ["m", "B"] = [] ∧ activeCauses C09.VftExample.s0 ["m", "P"] = []) ∧
    activeCauses C09.VftExample.s1 ["m", "D"] = [] ∧
    (C09.VftExample.s1.reg.contains ["m", "BVftable"] = true ∧
      C09.VftExample.s1.reg.contains ["m", "DVftable"] = false) := by
  decide +kernel

/-- … whose dependency relation is not empty: `D` statically waits for its base `B` (and in round 1 defers for it BEFORE
    `vftable::build`), `B` and `P` wait for nothing (the pointer from `P` to `D` is not a dependency) -/
example : activeCauses C09.VftExample.s0 ["m", "D"] = [.waitsFor ["m", "B"]] := evals.1.1
example : activeCauses C09.VftExample.s0 ["m", "B"] = [] := evals.1.2.1
example : activeCauses C09.VftExample.s0 ["m", "P"] = [] := evals.1.2.2
/-- after round 1 `D` is the only unresolved item, its base is resolved, nothing blocks it, and its generated item is
    not registered yet while the one of `B` is -/
example : activeCauses C09.VftExample.s1 ["m", "D"] = [] := evals.2.1
example : C09.VftExample.s1.reg.contains ["m", "BVftable"] = true ∧
    C09.VftExample.s1.reg.contains ["m", "DVftable"] = false := evals.2.2

end AcceptedVftExample

/-! ### the stuck description with a `vftable` block of `Props/C10Global.lean` (`VftExample`: a by-value cycle `V → W → V`)
    satisfies `NoGenRefs`: the theorems are applicable to it, and `stuck_has_cause` names the cycle -/
namespace StuckVftExample

theorem noGenRefs : CaseNoGenRefs VftExample.case := by decide +kernel

theorem noGenRefs_s0 : NoGenRefs VftExample.s0 :=
  initial_noGenRefs VftExample.case (Or.inr rfl) VftExample.bounded noGenRefs VftExample.s0 VftExample.init

/-- the causes of the stuck state `s1` (where `VVftable` is registered) are causes of the initial state `s0` (where it
    is not): `Lemmas/C10GlobalVft.lean: rep_waitsOn / rep_active`, here computed (in `VftExample.evals`) -/
example : activeCauses VftExample.s0 ["V"] = [.waitsFor ["W"]] ∧ activeCauses VftExample.s0 ["W"] = [.waitsFor ["V"]] :=
  VftExample.evals.2.2.2

/-- the cycle: by-value embedding among the unresolved items of the initial state has no rank -/
theorem not_acyclic : ¬ Acyclic VftExample.s0 :=
  not_acyclic_of_cycle (by rw [VftExample.evals.2.2.2.1]; exact List.mem_singleton_self _)
    (by rw [VftExample.evals.2.2.2.2]; exact List.mem_singleton_self _)

end StuckVftExample

/-! ### finding 1 with a `vftable` block: every hypothesis of the converse holds, the build gives up, and the theorem
    exhibits the overflow

```text
pub type T { vftable { pub fn f(&self); }  pub a: [u64; 2305843009213693952] }     // 8 * 2^61 = 2^64 > usize::MAX
```

Round 1: `T` has no `#[base]` field, `vftable::build` registers `TVftable`, the placement loop finds no size for `a` and
defers.  The registry grew, so the loop goes on; round 2 re-inserts `TVftable`, defers again, nothing changed: the build
gives up with `[T]`. -/
namespace OverflowVftExample

def mod : G.Module :=
  { defs := [{ vis := .pub, name := "T",
               inner := .type { stmts := [{ field := .vftable [{ vis := .pub, name := "f", attrs := [], args := [.constSelf],
                                                                    ret := none }], attrs := [] },
                                          { field := .field .pub "a" (.arr (.ident "u64") (2 ^ 61)), attrs := [] }],
                                attrs := [] } }] }

def l : List Path := [["T"]]
def case : Case := { id := "c10-overflow-vft", ps := 8, prio := [], modules := [.ast [] "big.pyxis" mod], extras := [] }

def s0 : State := C12.stateOf case.initialState
def s1 : State := (runRound s0 l).1

/-- the generated path is `TVftable`, and nothing mentions it; the build from `s0` gives up with `[T]`; `T` is the only
    unresolved entry of `s0` and its only active cause is the overflow; it is the array, in the state `s1` after the first
    round (where `TVftable` is registered): `u64` is resolved and `[u64; 2^61]` has no size -/
theorem evals :
    (caseGenPaths case = [["TVftable"]] ∧ CaseNoGenRefs case) ∧
    (case.initialState.isOk = true ∧ buildK s0 [] = .nonterm l) ∧
    (activeCauses s0 ["T"] = [.overflow] ∧
      (s0.reg.types.filter (fun e => !e.2.isResolved)).map (·.1) = [["T"]]) ∧
    (overflowB s1 ["T"] = true ∧ s1.reg.contains ["TVftable"] = true) := by
  decide +kernel

theorem init : case.initialState = .ok s0 := C12.eq_ok_stateOf _ evals.2.1.1
theorem build : s0.build [] = .nonterm l := build_of_buildK evals.2.1.2
theorem run : case.run = .nonterm l := (Case.run_of_init init).trans build

theorem bounded : C12.CaseBounded case := by
  intro path file m hm
  simp only [case, List.mem_cons, List.not_mem_nil, or_false, ModEnt.ast.injEq] at hm
  obtain ⟨_, _, rfl⟩ := hm
  refine ⟨?_, ?_⟩
  · intro d hd
    simp only [mod, List.mem_cons, List.not_mem_nil, or_false] at hd
    subst hd
    intro n args z ha; cases ha
  · intro xt hx; cases hx

/-- the generated path is `TVftable`, and nothing mentions it -/
example : caseGenPaths case = [["TVftable"]] := evals.1.1
theorem noGenRefs : CaseNoGenRefs case := evals.1.2

theorem ok : C12.StateOkB s0 := (C12.initialState_shape case (Or.inr rfl) bounded).2 s0 init
theorem predef : PredefResolved s0 := initialState_predef case s0 init
theorem noGenRefs_s0 : NoGenRefs s0 := initial_noGenRefs case (Or.inr rfl) bounded noGenRefs s0 init

theorem causes_T : activeCauses s0 ["T"] = [.overflow] := evals.2.2.1.1

theorem unres_keys : (s0.reg.types.filter (fun e => !e.2.isResolved)).map (·.1) = [["T"]] := evals.2.2.1.2

theorem only_overflow (p : Path) (c : Cause) (hw : WaitsOn s0 p c) (ha : Active s0 p c) : c = .overflow :=
  only_overflow_of unres_keys causes_T p c hw ha

theorem allDefined : AllDefined s0 := fun p n hw ha => by cases only_overflow p _ hw ha
theorem acyclic : Acyclic s0 := ⟨fun _ => 0, fun p q h => by cases only_overflow p _ h.1 h.2⟩

/-- the hypotheses of the converse hold, the build gives up, and the theorem exhibits the overflow -/
example : ∃ s', Rounds [] s0 s' ∧ StuckAt [] s' l ∧ ∃ p ∈ l, Overflow s' p :=
  acyclic_defined_not_stuck_nogenref_partial s0 [] ok predef noGenRefs_s0 allDefined acyclic l build

example : ∃ s', Rounds case.prio s0 s' ∧ StuckAt case.prio s' l ∧ ∃ p ∈ l, Overflow s' p :=
  case_acyclic_defined_not_stuck_nogenref_partial case (Or.inr rfl) bounded noGenRefs s0 init allDefined acyclic l run

/-- it is the array, in the stuck state `s1` (where `TVftable` is registered): `u64` is resolved and `[u64; 2^61]` has no
    size -/
example : Overflow s1 ["T"] ∧ s1.reg.contains ["TVftable"] = true :=
  ⟨(overflow_iff s1 ["T"]).mpr evals.2.2.2.1, evals.2.2.2.2⟩

end OverflowVftExample

/-- finding 1 stands with vftable blocks under `NoGenRefs`: names defined and by-value embedding acyclic do not exclude
    `nonterm` (which is why the statement has the `Overflow` disjunct / the `hsmall` hypothesis) -/
theorem acyclic_defined_not_stuck_nogenref_refuted :
    ¬ ∀ (s : State) (prio : List Path), C12.StateOkB s → PredefResolved s → C09.NoGenRefs s →
      AllDefined s → Acyclic s → ∀ l, s.build prio ≠ .nonterm l := by
  intro h
  exact h OverflowVftExample.s0 [] OverflowVftExample.ok OverflowVftExample.predef OverflowVftExample.noGenRefs_s0
    OverflowVftExample.allDefined OverflowVftExample.acyclic OverflowVftExample.l OverflowVftExample.build

end PyxisVerif.C10
