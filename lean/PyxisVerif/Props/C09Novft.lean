import PyxisVerif.Lemmas.MonoVft
/-!
# C09, end to end, for descriptions without vftable blocks

For states in which no type declares a `vftable` block (so that no item is ever generated during
resolution and the key set of the registry is fixed), the whole `SemanticState::build` is independent
of the resolution priority: any two priorities give the same verdict, and on success the same
registry and modules.  This instantiates the abstract worklist development
(`Lemmas/Worklist.lean`) with pyxis's concrete attempt: the instantiation obligation is `Mono` –
once an attempt on an item answers "resolved to r" or "error" it gives the same answer after any
further resolution.  It is the case "nothing is generated" of the development for descriptions with
`vftable` blocks (`Lemmas/MonoVft.lean`: `attempt_mono_of_fresh`, `sim_stateOf`); what the fragment adds is
that the states of a run are `Mono.stateOf` of the abstract registry themselves, so that accepted states are
equal and not only equivalent, and that no build panics.

The fragment WITH vftable blocks is covered by `Props/C09Vft.lean` when nothing mentions a generated name
(`NoGenRefs`); without that hypothesis the statement is false, and C09 is decided on the implementation by
exhaustive enumeration of priorities (see the C09 check).
-/
namespace PyxisVerif.Mono
open C09 Work

/-- **`Mono` for the concrete attempt** (types without `vftable` blocks): once an attempt on an item answers
    "resolved to `v`" or "error", it gives the same answer after any further resolution -/
theorem attempt_mono (s0 : State) (hu : U8 s0.reg) (hv : NoVftS s0) : Mono (attempt s0) :=
  attempt_mono_of_fresh hu (genFresh_of_noVftS hv)

/-- **the resolution loop is independent of the priority** (vftable-free fragment): two loops that do not run out
    of fuel show the same end of the abstract run, in states that are `stateOf` of its registry -/
theorem loops_agree (s0 : State) (hs : C12.StateOkB s0) (hv : NoVftS s0) (p1 p2 : List Path) (f1 f2 : Nat)
    (n1 : resolveLoop p1 f1 s0 ≠ .fuel) (n2 : resolveLoop p2 f2 s0 ≠ .fuel) :
    ∃ e, EndOf s0 e ∧ Shows (fun R s => s = stateOf s0 R) p1 e (resolveLoop p1 f1 s0) ∧
      Shows (fun R s => s = stateOf s0 R) p2 e (resolveLoop p2 f2 s0) :=
  (sim_stateOf hs.ok.reg.keys hv).loops_agree (attempt_mono s0 (u8_of_ok hs.ok) hv)
    (stateOf_R0 s0).symm hs.ok.reg.keys p1 p2 f1 f2 n1 n2

end PyxisVerif.Mono

namespace PyxisVerif.C09
open Mono Work

/-- without a `vftable` block nothing asks for a table at all -/
theorem small_of_noVft {s : State} (hv : NoVft s) : Small s := by
  intro p i d hi hd
  have h := hv p i d hi hd
  unfold ItemSmall
  cases hin : d.inner with
  | enum ed => trivial
  | type td =>
    rw [hin] at h
    intro st hst
    have h2 := h st hst
    unfold StmtSmall
    cases hf : st.field with
    | vftable fns => rw [hf] at h2; exact h2.elim
    | field v n t => trivial

theorem sameVerdict_refl (x : BuildOutcome) : sameVerdict x x := by
  cases x with
  | ok s1 => exact ⟨fun _ => rfl, rfl⟩
  | nonterm l => exact List.Perm.refl l
  | err m => trivial
  | panic m => trivial
  | fuel => trivial

/-- **the output is a function of the input set, not of the resolution order** (vftable-free fragment):
    from any state that satisfies the registry invariant (with `isize` literals, as the parser produces
    them), any two priorities give the same verdict -/
theorem build_schedule_independent_novft (s : State) (p1 p2 : List Path)
    (hs : C12.StateOkB s) (hv : NoVft s) (hr : NoVftResolved s) :
    sameVerdict (s.build p1) (s.build p2) := by
  have _ := hr
  have hn := hs.ok.reg.keys
  have hsim := sim_stateOf hn (noVftS_of_noVft hv)
  obtain ⟨e, _, h1, h2⟩ := Mono.loops_agree s hs (noVftS_of_noVft hv) p1 p2 _ _
    (build_ne_fuel s hn p1) (build_ne_fuel s hn p2)
  -- a vftable-free build does not panic, so a failure is an error on both sides
  have np1 := build_np_small s p1 hs (small_of_noVft hv)
  have np2 := build_np_small s p2 hs (small_of_noVft hv)
  rw [State.build_eq] at np1 np2 ⊢
  rw [State.build_eq]
  cases e with
  | total R =>
    obtain ⟨s1, e1, rfl, _⟩ := h1
    obtain ⟨s2, e2, rfl, _⟩ := h2
    rw [e1, e2]
    exact sameVerdict_refl _
  | stuck R =>
    obtain ⟨s1, e1, r1, n1⟩ := h1
    obtain ⟨s2, e2, r2, n2⟩ := h2
    rw [e1, e2]
    exact hsim.unresolved_perm r1 n1 r2 n2 p1 p2
  | failed =>
    obtain ⟨m1, e1 | e1⟩ := h1
    · obtain ⟨m2, e2 | e2⟩ := h2
      · rw [e1, e2]; trivial
      · rw [e2] at np2; exact absurd rfl (np2 m2)
    · rw [e1] at np1; exact absurd rfl (np1 m1)

end PyxisVerif.C09
