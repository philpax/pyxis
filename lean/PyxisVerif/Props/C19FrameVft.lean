import PyxisVerif.Lemmas.C19FrameVft
import PyxisVerif.Props.C09Vft
/-!
# C19, end to end: the frame theorem

"A module's emitted file depends only on that module and on what it reaches through its `use`s; adding an
unrelated module to the input set leaves the file byte-identical (when both input sets are accepted)."

`Props/C19.lean` has the local facts (a lookup inspects its candidate paths only, sizes are read at the by-value
dependencies only, a file is printed from the module's own definition paths).  Here they are composed with the
schedule independence of `Lemmas/MonoVft.lean` into the statement about whole cases: `c.withModule (.ast path file m)`
is `c` with one more AST module at the end; when both cases are accepted, every module of `c` is printed identically
by both, the file list of the bigger case is the file list of `c` plus the file of the new module, and the resolved
registries agree on every item of `c`.  The descriptions may have `vftable` blocks, provided nothing mentions a
generated `<T>Vftable` item by name (`C09.CaseNoGenRefs` of the bigger case).  `Props/C19Frame.lean` reads the theorems
off for descriptions without `vftable` blocks, which generate nothing.

## What "unrelated" has to mean (read off the lookup code)

The new module contributes registry entries `path ++ [x]` (its definitions and extern types) and nothing else.  A
lookup of `name` made for a module with scope `own path :: uses` inspects exactly (`C09.candidates`) the scope
members themselves (a member that is a registry key counts as a *type* import, otherwise as a *module*), the
root-level path `[name]`, and `u ++ [name]` for the scope members `u`.  One of these is a new entry exactly when

* a `use` of an old module is `path` (`use path;` – then `path ++ [name]` is inspected) or a child of `path`
  (`use path::T;` – then `path ++ ["T"]` itself is inspected);
* **the path of an old module is a child of `path`**: the module `a::b` has its own path in scope; a new module
  `a` that defines a type `b` turns the scope member `a::b` from a module into a type, and every name of the module
  `a::b` that used to resolve to `a::b::name` no longer does.  This is the additional condition;
* `path` is the root `[]`: root-level names `[name]` are candidates of every lookup (and of `padding_type`, which
  looks up `u8` with an empty scope).

A `use` or a module path that extends `path` by two or more segments is harmless (no new entry is that deep), and
so is a `path` that extends an old *type* path.  `UnrelatedTight` is exactly the condition above; `Unrelated` is the
simpler over-approximation by prefixes asked for in the property text (`path` is a prefix of no old module path and
of no old `use`), which implies it whenever `c` has a module.  The new module itself is not restricted: it may `use`
old modules and embed old types (the examples do).

## Generated items, and why `Unrelated` needs no clause for them

* The final registry of a case has, besides the items written in its modules, the generated item
  `mp ++ [name ++ "Vftable"]` of every type `mp ++ [name]` with a vftable block.  A generated path has the PARENT of its
  owner.  So the generated items of the old modules are not directly under `path`, they are there in both final
  registries, equal (an old owner generates the same item in both initial states, `gen_ext`), and the statement "every
  old registry entry is preserved" (`added_module_registry_vft`, first part) covers them; the generated items of the new
  module are directly under `path` and are among the new keys `path ++ [x]` (second part).  `RegExt path s.reg s'.reg` holds
  verbatim.
* `Unrelated` needs NO extra clause.  The one further coincidence one could fear – the path of the new module IS a generated
  path of an old module (`path = mp ++ [name ++ "Vftable"]`; the module path would turn into a type key during the run) –
  is excluded by `CaseNoGenRefs` of the bigger case (`ModNoGenRefs … path m` has `path ∉ caseGenPaths`), and a generated
  path of the new module cannot be an old key because no old key is directly under `path` (`Unrelated`: `path` is no
  prefix of an old module path, and it is not the root).  `CaseNoGenRefs` of the smaller case follows from the one of
  the bigger case (`caseNoGenRefs_of_withModule`: fewer generated paths, fewer items).
* The module lists: `add_item` PREPENDS a generated path to the `defPaths` of its module, in attempt order, and the
  attempt order of the old types may differ between the two runs (the rounds are different).  So the old modules of
  the two final states are equal up to the order of their definition paths (`added_module_core_vft`: the same `base`
  list with the definition paths `f1` resp. `f2`, `(f2 key).Perm (f1 key)`); the emitted file sorts them, and the files
  are EQUAL.
-/
namespace PyxisVerif.C19
open C09 Mono

def _root_.PyxisVerif.Case.withModule (c : Case) (me : ModEnt) : Case := { c with modules := c.modules ++ [me] }

/-- `path` is unrelated to the modules of `c` (all of which must be AST modules): it is not a prefix of the path of
    one of them – so it is none of these paths, none of them is a child of `path` (a new type `path::x` would turn
    the module `path::x`, which is in its own scope, into a type), and `path` is not the root when `c` has a
    module – and no `use` of any of them has it as a prefix (neither `use path;` nor `use path::T;`), so that no
    lookup made on behalf of an old module can go through it -/
def Unrelated (c : Case) (path : Path) : Prop :=
  ∀ me ∈ c.modules, match me with
    | .ast mp _ m => ¬ path <+: mp ∧ ∀ u ∈ m.uses, ¬ path <+: u
    | .text .. => False

/-- the exact condition: `path` is not the root, and no module path and no `use` of `c` is `path` or a child of
    `path` (`Near path q`: `q = path ∨ ∃ x, q = path ++ [x]`) -/
def UnrelatedTight (c : Case) (path : Path) : Prop := path ≠ [] ∧ UnrelatedMods path c.modules

theorem prefix_of_near {path q : Path} (h : Near path q) : path <+: q := by
  rcases h with rfl | ⟨x, rfl⟩
  · exact List.prefix_refl _
  · exact List.prefix_append _ _

/-- the prefix condition implies the exact one (for a case with at least one module) -/
theorem Unrelated.tight {c : Case} {path : Path} (h : Unrelated c path) (hne : c.modules ≠ []) :
    UnrelatedTight c path := by
  refine ⟨?_, ?_⟩
  · intro e
    subst e
    cases hm : c.modules with
    | nil => exact hne hm
    | cons me l =>
      have := h me (by rw [hm]; exact List.mem_cons_self)
      cases me with
      | ast mp f m => exact this.1 List.nil_prefix
      | text f t => exact this
  · intro me hme
    have := h me hme
    cases me with
    | ast mp f m => exact ⟨fun hn => this.1 (prefix_of_near hn), fun u hu hn => this.2 u hu (prefix_of_near hn)⟩
    | text f t => exact this

theorem Example.not_prefix_of_head {a b : String} (h : a ≠ b) (l l' : List String) : ¬ (a :: l) <+: (b :: l') := by
  rintro ⟨t, ht⟩
  simp only [List.cons_append, List.cons.injEq] at ht
  exact h ht.1

/-- the file the backend writes for the module `key` of a built state (`none`: no such module) -/
def fileOf (s : State) (key : Path) : Option Sexp := (s.getModule key).map (Emit.moduleFile s key)

theorem initialState_withModule (c : Case) (path : Path) (file : String) (m : G.Module) :
    (c.withModule (.ast path file m)).initialState = (match c.initialState with
      | .ok s => s.addModule m path
      | .defer => .defer
      | .err e => .err e
      | .panic e => .panic e) := by
  unfold Case.initialState Case.withModule
  simp only []
  rw [C20.foldlM_append]
  cases Res.foldlM _ (State.new c.ps) c.modules with
  | ok s => simp only [Res.bind, Res.foldlM]; cases s.addModule m path <;> rfl
  | _ => rfl

theorem caseBounded_of_withModule {c : Case} {me : ModEnt} (h : C12.CaseBounded (c.withModule me)) :
    C12.CaseBounded c :=
  fun path file m hm => h path file m (List.mem_append_left _ hm)

theorem runs_inv (c : Case) (path : Path) (file : String) (m : G.Module) (s s' : State) (h : c.run = .ok s)
    (h' : (c.withModule (.ast path file m)).run = .ok s') :
    ∃ s0 t0, c.initialState = .ok s0 ∧ (c.withModule (.ast path file m)).initialState = .ok t0 ∧
      s0.addModule m path = .ok t0 ∧ s0.build c.prio = .ok s ∧ t0.build c.prio = .ok s' := by
  obtain ⟨s0, hi, hb⟩ := Case.run_ok_inv h
  obtain ⟨t0, hi', hb'⟩ := Case.run_ok_inv h'
  have e := initialState_withModule c path file m
  rw [hi, hi'] at e
  exact ⟨s0, t0, hi, hi', e.symm, hb, hb'⟩

theorem caseGenPaths_withModule {c : Case} {me : ModEnt} {q : Path} (h : q ∈ caseGenPaths c) :
    q ∈ caseGenPaths (c.withModule me) := by
  unfold caseGenPaths at h ⊢
  obtain ⟨x, hx, hq⟩ := List.mem_flatMap.mp h
  exact List.mem_flatMap.mpr ⟨x, List.mem_append_left _ hx, hq⟩

theorem caseItemPaths_withModule {c : Case} {me : ModEnt} {q : Path} (h : q ∈ caseItemPaths c) :
    q ∈ caseItemPaths (c.withModule me) := by
  unfold caseItemPaths at h ⊢
  rcases List.mem_append.mp h with h | h
  · exact List.mem_append_left _ h
  · obtain ⟨x, hx, hq⟩ := List.mem_flatMap.mp h
    exact List.mem_append_right _ (List.mem_flatMap.mpr ⟨x, List.mem_append_left _ hx, hq⟩)

theorem gnames_mono {Gs Gs' : List Path} (h : ∀ q ∈ Gs, q ∈ Gs') {nm : String} (hn : nm ∉ gnames Gs') :
    nm ∉ gnames Gs := by
  intro hx
  obtain ⟨q, hq, hl⟩ := List.mem_filterMap.mp hx
  exact hn (List.mem_filterMap.mpr ⟨q, h q hq, hl⟩)

theorem modNoGenRefs_mono {Gs Gs' : List Path} (h : ∀ q ∈ Gs, q ∈ Gs') {path : Path} {m : G.Module}
    (hm : ModNoGenRefs Gs' path m) : ModNoGenRefs Gs path m :=
  ⟨fun hp => hm.1 (h _ hp), fun u hu hg => hm.2.1 u hu (h _ hg),
   fun d hd nm hnm => gnames_mono h (hm.2.2.1 d hd nm hnm),
   fun b hb f hf nm hnm => gnames_mono h (hm.2.2.2 b hb f hf nm hnm)⟩

/-- the syntactic condition of the bigger case gives the one of the smaller case: fewer generated paths, fewer items -/
theorem caseNoGenRefs_of_withModule {c : Case} {me : ModEnt} (h : CaseNoGenRefs (c.withModule me)) :
    CaseNoGenRefs c := by
  refine ⟨?_, ?_⟩
  · intro q hq hi
    exact h.fresh q (caseGenPaths_withModule hq) (caseItemPaths_withModule hi)
  · intro me' hme'
    have := h.mods me' (List.mem_append_left _ hme')
    cases me' with
    | ast path file m => exact modNoGenRefs_mono (fun q hq => caseGenPaths_withModule hq) this
    | text f t => trivial

/-- **frame, registry and modules** (exact condition), with `vftable` blocks: when both input sets are accepted,

* the resolved registries agree on every path that is not directly under `path` – in particular on every item of
  `c` AND on every generated item of a module of `c` – and the bigger one has additional entries directly under
  `path` only (`RegExt`; the generated items of the new module are among them);
* the module list of the bigger final state is that of the smaller one plus the new module, up to the order of the
  definition paths of each old module (`base` with `f1` resp. `f2`);
* every module of `c` is there, and every module of the smaller final state is printed identically from the bigger
  final state. -/
theorem added_module_core_vft (c : Case) (path : Path) (file : String) (m : G.Module)
    (hps : c.ps = 4 ∨ c.ps = 8)
    (hb : C12.CaseBounded (c.withModule (.ast path file m)))
    (hg : CaseNoGenRefs (c.withModule (.ast path file m)))
    (hu : UnrelatedTight c path)
    (s s' : State) (h : c.run = .ok s) (h' : (c.withModule (.ast path file m)).run = .ok s') :
    RegExt path s.reg s'.reg ∧
    ∃ (base : List (Path × Mod)) (f1 f2 : Path → List Path) (M' : Mod),
      s.modules = base.map (fun e => (e.1, { e.2 with defPaths := f1 e.1 })) ∧
      s'.modules = (path, M') :: base.map (fun e => (e.1, { e.2 with defPaths := f2 e.1 })) ∧
      (∀ e ∈ base, e.1 ≠ path) ∧
      (∀ mp f0 m0, ModEnt.ast mp f0 m0 ∈ c.modules → (List.lookup mp base).isSome = true) ∧
      (∀ e ∈ base, (f2 e.1).Perm (f1 e.1)) ∧
      (∀ e ∈ base, Emit.moduleFile s' e.1 { e.2 with defPaths := f2 e.1 }
        = Emit.moduleFile s e.1 { e.2 with defPaths := f1 e.1 }) := by
  obtain ⟨s0, t0, hi, hi', hadd, hbs, hbt⟩ := runs_inv c path file m s s' h h'
  have hbc := caseBounded_of_withModule hb
  have hgc := caseNoGenRefs_of_withModule hg
  have cs : Ctx s0 := ⟨(C12.initialState_shape c hps hbc).2 s0 hi, initial_noGenRefs c hps hbc hgc s0 hi⟩
  have ct : Ctx t0 := ⟨(C12.initialState_shape (c.withModule (.ast path file m)) hps hb).2 t0 hi',
    initial_noGenRefs (c.withModule (.ast path file m)) hps hb hg t0 hi'⟩
  have hf := initialState_frameInv hu.1 c hu.2 s0 hi
  obtain ⟨hr, base, f1, f2, M', e1, e2, e3, e4, e5, e6⟩ :=
    frame_statesV hu.1 (addModule_stExt s0 t0 m hf hadd) hf cs ct
      (initialState_flat c s0 hi) (initialState_flat _ t0 hi') c.prio c.prio s s' hbs hbt
  refine ⟨hr, base, f1, f2, M', e1, e2, e3, ?_, e5, e6⟩
  intro mp f0 m0 hm
  rw [C10.lookup_isSome_iff, e4]
  exact (CaseLift2.keys_fold c.modules _ s0 hi).2 mp (CaseLift2.mem_astPaths c.modules mp f0 m0 hm)

theorem getModule_setDp (base : List (Path × Mod)) (f : Path → List Path) (key : Path) :
    List.lookup key (base.map fun e => (e.1, ({ e.2 with defPaths := f e.1 } : Mod)))
      = (List.lookup key base).map (fun mod => ({ mod with defPaths := f key } : Mod)) :=
  lookup_map_val (fun k (mod : Mod) => ({ mod with defPaths := f k } : Mod)) base key

/-- **frame, per module** (exact condition): the file of every module path other than `path` is the same in both
    final states; for the modules of `c` there is such a file -/
theorem added_module_frame_tight_vft (c : Case) (path : Path) (file : String) (m : G.Module)
    (hps : c.ps = 4 ∨ c.ps = 8)
    (hb : C12.CaseBounded (c.withModule (.ast path file m)))
    (hg : CaseNoGenRefs (c.withModule (.ast path file m)))
    (hu : UnrelatedTight c path)
    (s s' : State) (h : c.run = .ok s) (h' : (c.withModule (.ast path file m)).run = .ok s') :
    (∀ key, key ≠ path → fileOf s' key = fileOf s key) ∧
    (∀ mp f0 m0, ModEnt.ast mp f0 m0 ∈ c.modules → mp ≠ path ∧ (fileOf s mp).isSome = true) := by
  obtain ⟨_, base, f1, f2, M', e1, e2, _, e4, _, e6⟩ := added_module_core_vft c path file m hps hb hg hu s s' h h'
  have hs : ∀ key, s.getModule key = (List.lookup key base).map (fun mod => ({ mod with defPaths := f1 key } : Mod)) := by
    intro key
    unfold State.getModule
    rw [e1]
    exact getModule_setDp base f1 key
  refine ⟨?_, ?_⟩
  · intro key hk
    have : (key == path) = false := by simpa using hk
    have hs' : s'.getModule key = (List.lookup key base).map (fun mod => ({ mod with defPaths := f2 key } : Mod)) := by
      unfold State.getModule
      rw [e2, List.lookup_cons, this]
      exact getModule_setDp base f2 key
    unfold fileOf
    rw [hs key, hs']
    cases hl : List.lookup key base with
    | none => simp only [Option.map_none]
    | some mod =>
      simp only [Option.map_some, Option.some.injEq]
      exact e6 (key, mod) (C14.mem_of_lookup _ _ _ hl)
  · intro mp f0 m0 hm
    refine ⟨fun e => (hu.2 _ hm).1 (.inl e), ?_⟩
    unfold fileOf
    rw [Option.isSome_map, hs mp, Option.isSome_map]
    exact e4 mp f0 m0 hm

/-- **frame** (with `vftable` blocks, nothing mentioning a generated name): when both input sets are accepted, every
    old module's emitted file is the same (and there is one) -/
theorem added_module_frame_vft (c : Case) (path : Path) (file : String) (m : G.Module)
    (hps : c.ps = 4 ∨ c.ps = 8)
    (hb : C12.CaseBounded (c.withModule (.ast path file m)))
    (hg : C09.CaseNoGenRefs (c.withModule (.ast path file m)))
    (hu : Unrelated c path)
    (s s' : State) (h : c.run = .ok s) (h' : (c.withModule (.ast path file m)).run = .ok s') :
    ∀ me ∈ c.modules, ∀ mp f0 m0, me = ModEnt.ast mp f0 m0 →
      fileOf s' mp = fileOf s mp ∧ (fileOf s mp).isSome = true := by
  intro me hme mp f0 m0 e
  subst e
  have hut := hu.tight (List.ne_nil_of_mem hme)
  obtain ⟨h1, h2⟩ := added_module_frame_tight_vft c path file m hps hb hg hut s s' h h'
  obtain ⟨hne, hsome⟩ := h2 mp f0 m0 hme
  exact ⟨h1 mp hne, hsome⟩

/-- **frame, file lists** (exact condition): the files of the bigger case are the files of `c` plus the file of the
    new module (as lists: up to the position at which the new file is sorted in) -/
theorem added_module_files_tight_vft (c : Case) (path : Path) (file : String) (m : G.Module)
    (hps : c.ps = 4 ∨ c.ps = 8)
    (hb : C12.CaseBounded (c.withModule (.ast path file m)))
    (hg : CaseNoGenRefs (c.withModule (.ast path file m)))
    (hu : UnrelatedTight c path)
    (s s' : State) (h : c.run = .ok s) (h' : (c.withModule (.ast path file m)).run = .ok s') :
    ∃ M', s'.getModule path = some M' ∧
      (Emit.files s').Perm (Emit.moduleFile s' path M' :: Emit.files s) := by
  obtain ⟨_, base, f1, f2, M', e1, e2, _, _, _, e6⟩ := added_module_core_vft c path file m hps hb hg hu s s' h h'
  refine ⟨M', by simp [State.getModule, e2], ?_⟩
  have hnp : (!(path.isEmpty)) = true := by
    cases path with
    | nil => exact absurd rfl hu.1
    | cons a l => rfl
  unfold Emit.files Emit.sortBy
  rw [e1, e2, List.filter_cons, if_pos hnp, List.filter_map, List.filter_map]
  refine ((List.mergeSort_perm _ _).map _).trans (.trans ?_ (((List.mergeSort_perm _ _).map _).symm.cons _))
  rw [List.map_cons, List.map_map, List.map_map]
  exact .of_eq (congrArg _ (List.map_congr_left fun e he => e6 e (List.mem_filter.mp he).1))

/-- **frame, file lists**: every file of `c` is a file of the bigger case, every file of the bigger case is a file of
    `c` or the file of the new module -/
theorem added_module_files_vft (c : Case) (path : Path) (file : String) (m : G.Module)
    (hps : c.ps = 4 ∨ c.ps = 8)
    (hb : C12.CaseBounded (c.withModule (.ast path file m)))
    (hg : C09.CaseNoGenRefs (c.withModule (.ast path file m)))
    (hu : Unrelated c path) (hne : c.modules ≠ [])
    (s s' : State) (h : c.run = .ok s) (h' : (c.withModule (.ast path file m)).run = .ok s') :
    (∀ f ∈ Emit.files s, f ∈ Emit.files s') ∧
    (∀ f ∈ Emit.files s', f ∈ Emit.files s ∨ some f = fileOf s' path) ∧
    (Emit.files s').length = (Emit.files s).length + 1 := by
  obtain ⟨M', hM', hp⟩ := added_module_files_tight_vft c path file m hps hb hg (hu.tight hne) s s' h h'
  refine ⟨fun f hf => hp.symm.subset (List.mem_cons_of_mem _ hf), ?_, ?_⟩
  · intro f hf
    rcases List.mem_cons.mp (hp.subset hf) with e | e
    · right; rw [e]; unfold fileOf; rw [hM']; rfl
    · exact .inl e
  · rw [hp.length_eq, List.length_cons]

/-- … and so for the observation O3: both are file lists, the bigger one is the smaller one plus one file -/
theorem added_module_o3_vft (c : Case) (path : Path) (file : String) (m : G.Module)
    (hps : c.ps = 4 ∨ c.ps = 8)
    (hb : C12.CaseBounded (c.withModule (.ast path file m)))
    (hg : C09.CaseNoGenRefs (c.withModule (.ast path file m)))
    (hu : Unrelated c path) (hne : c.modules ≠ [])
    (s s' : State) (h : c.run = .ok s) (h' : (c.withModule (.ast path file m)).run = .ok s') :
    ∃ fs fs' f, c.o3 = Sexp.mk "files" fs ∧ (c.withModule (.ast path file m)).o3 = Sexp.mk "files" fs' ∧
      fs'.Perm (f :: fs) := by
  obtain ⟨M', _, hp⟩ := added_module_files_tight_vft c path file m hps hb hg (hu.tight hne) s s' h h'
  refine ⟨Emit.files s, Emit.files s', _, ?_, ?_, hp⟩
  · unfold Case.o3; rw [h]
  · unfold Case.o3; rw [h']

/-- … and for the resolved registry (O2's items): every entry of the smaller final registry – the items of `c` AND the
    generated `<T>Vftable` items of its modules, `mp ++ [name ++ "Vftable"]` – is in the bigger one, unchanged; every
    other key of the bigger one is directly under `path` (the items of the new module and its generated items) -/
theorem added_module_registry_vft (c : Case) (path : Path) (file : String) (m : G.Module)
    (hps : c.ps = 4 ∨ c.ps = 8)
    (hb : C12.CaseBounded (c.withModule (.ast path file m)))
    (hg : C09.CaseNoGenRefs (c.withModule (.ast path file m)))
    (hu : Unrelated c path) (hne : c.modules ≠ [])
    (s s' : State) (h : c.run = .ok s) (h' : (c.withModule (.ast path file m)).run = .ok s') :
    (∀ q i, s.reg.get q = some i → s'.reg.get q = some i) ∧
    (∀ q, s'.reg.contains q = true → s.reg.contains q = true ∨ ∃ x, q = path ++ [x]) := by
  obtain ⟨hr, _⟩ := added_module_core_vft c path file m hps hb hg (hu.tight hne) s s' h h'
  exact ⟨fun q i hi => hr.get_ext hi, hr.new⟩

/-! ## non-vacuity: a concrete pair of cases with `vftable` blocks that satisfies every hypothesis, both accepted

The smaller case is `C09.VftExample.case` (pointer width 8, one module `m` with a base `B` that has a vftable block, a
derived `D` with its own block extending it, a type `P` with a pointer to `D`, and an extern value of the generated type
`*const DVftable`).  The added module DERIVES from a type of the old module and has a vftable block of its own:

```text
// z.pyxis
use m::D;
pub type Z { vftable { pub fn v(&self, x: u32); pub fn w(&mut self) -> u32; pub fn q(&self); }
             #[base] pub d: D,  pub n: u64 }
```

It depends on the old module (its first base is `m::D`, whose vftable – generated as `m::DVftable` during the run – its
own table has to extend); nothing of `m` mentions `z`.  The generated paths of the bigger case are `m::BVftable`,
`m::DVftable` and `z::ZVftable`, and nothing mentions them in a type expression of a definition (`CaseNoGenRefs`, decided
by the kernel; the extern value of `m` does, which is allowed).  The priority is the one of the smaller case,
`[m::P, m::D, m::B]`; `z::Z` is not listed and comes last.  Round 1: `P` resolved, `D` waits for the size of its base `B`,
`B` registers `m::BVftable` and is resolved, `Z` waits for the size of its base `D` (before `vftable::build`: no
`z::ZVftable` yet).  Round 2: `D` registers `m::DVftable` and is resolved (24 bytes), `Z` registers `z::ZVftable`, finds the
table of `D` to be a prefix of its own and is resolved (32 bytes).  A third round sees that nothing is left. -/
namespace VftFrameExample

def modZ : G.Module :=
  { uses := [["m", "D"]],
    defs := [
      { vis := .pub, name := "Z",
        inner := .type { stmts := [{ field := .vftable [
                                       { vis := .pub, name := "v", attrs := [],
                                         args := [.constSelf, .named "x" (.ident "u32")], ret := none },
                                       { vis := .pub, name := "w", attrs := [], args := [.mutSelf],
                                         ret := some (.ident "u32") },
                                       { vis := .pub, name := "q", attrs := [], args := [.constSelf], ret := none }],
                                     attrs := [] },
                                   { field := .field .pub "d" (.ident "D"), attrs := [.ident "base"] },
                                   { field := .field .pub "n" (.ident "u64"), attrs := [] }],
                         attrs := [] } }] }

def small : Case := C09.VftExample.case

def big : Case := small.withModule (.ast ["z"] "z.pyxis" modZ)

theorem big_bounded : C12.CaseBounded big := by
  intro path file m hm
  simp only [big, small, Case.withModule, C09.VftExample.case, List.cons_append, List.nil_append, List.mem_cons,
    List.not_mem_nil, or_false, ModEnt.ast.injEq] at hm
  rcases hm with ⟨_, _, rfl⟩ | ⟨_, _, rfl⟩
  · exact C09.VftExample.bounded ["m"] "m.pyxis" C09.VftExample.modM (by simp [C09.VftExample.case])
  · refine ⟨?_, fun xt hx => by cases hx⟩
    intro d hd
    simp only [modZ, List.mem_cons, List.not_mem_nil, or_false] at hd
    subst hd
    intro n args z ha; cases ha

/-- the generated paths of the bigger case … -/
example : caseGenPaths big = [["m", "BVftable"], ["m", "DVftable"], ["z", "ZVftable"]] := by decide +kernel

/-- … and nothing mentions them -/
theorem big_noGenRefs : CaseNoGenRefs big := by decide +kernel

theorem unrelated : Unrelated small ["z"] := by
  intro me hme
  simp only [small, C09.VftExample.case, List.mem_cons, List.not_mem_nil, or_false] at hme
  subst hme
  refine ⟨Example.not_prefix_of_head (by decide) _ _, ?_⟩
  intro u hu
  simp only [C09.VftExample.modM] at hu
  cases hu

theorem small_ok : isOkB small.run = true := C09.VftExample.run_ok

/-- the state after `add_module` of the two modules … -/
def t0 : State := C12.stateOf big.initialState
/-- … after round 1 (`P` resolved; `D` deferred; `B` resolved, `m::BVftable` registered; `Z` deferred, nothing registered) … -/
def t1 : State := (runRound t0 [["m", "P"], ["m", "D"], ["m", "B"], ["z", "Z"]]).1
/-- … and after round 2 (`D` resolved, `m::DVftable` registered; `Z` resolved, `z::ZVftable` registered) -/
def t2 : State := (runRound t1 [["m", "D"], ["z", "Z"]]).1

/-- the finite facts about the bigger case, proved by ONE evaluation, which runs the rounds once for all of them: the
    run ends with the extern-value pass on `t2`, which accepts; then the facts about `t1` and `t2` that the examples below
    state -/
theorem big_facts :
    runK big = C20.buildFinish (.ok t2) ∧
    isOkB (C20.buildFinish (.ok t2)) = true ∧
    (t1.reg.contains ["z", "ZVftable"] = false ∧ t1.reg.contains ["m", "BVftable"] = true) ∧
    (t2.reg.contains ["m", "BVftable"] = true ∧ t2.reg.contains ["m", "DVftable"] = true ∧
      t2.reg.contains ["z", "ZVftable"] = true) ∧
    (t2.reg.get ["z", "Z"]).bind (fun i => i.resolved?.map (·.size)) = some 32 := by decide +kernel

theorem run_eq : big.run = C20.buildFinish (.ok t2) := run_of_runK big_facts.1

theorem big_ok : isOkB big.run = true := by
  rw [run_eq]
  exact big_facts.2.1

/-- in round 1 the new type waited for the size of its base BEFORE `vftable::build`: its generated item is not there yet -/
example : t1.reg.contains ["z", "ZVftable"] = false ∧ t1.reg.contains ["m", "BVftable"] = true := big_facts.2.2.1
/-- all three generated items are registered in the bigger final registry; `Z` has size 32, which needs `m::D` (24) -/
example : t2.reg.contains ["m", "BVftable"] = true ∧ t2.reg.contains ["m", "DVftable"] = true ∧
    t2.reg.contains ["z", "ZVftable"] = true := big_facts.2.2.2.1
example : (t2.reg.get ["z", "Z"]).bind (fun i => i.resolved?.map (·.size)) = some 32 := big_facts.2.2.2.2

/-- the theorems apply: the file of `m` exists and is the same in both final states, the bigger case emits exactly one
    file more, every entry of the smaller final registry – the generated `m::BVftable` and `m::DVftable` among them – is
    in the bigger one unchanged, and every other key of the bigger one is directly under `z` -/
theorem frame_applies :
    ∃ s s', small.run = .ok s ∧ big.run = .ok s' ∧
      (fileOf s' ["m"] = fileOf s ["m"] ∧ (fileOf s ["m"]).isSome = true) ∧
      (∀ f ∈ Emit.files s, f ∈ Emit.files s') ∧ (Emit.files s').length = (Emit.files s).length + 1 ∧
      (∀ q i, s.reg.get q = some i → s'.reg.get q = some i) ∧
      (∀ q, s'.reg.contains q = true → s.reg.contains q = true ∨ ∃ x, q = ["z"] ++ [x]) := by
  obtain ⟨s, hs⟩ := (isOkB_iff _).mp small_ok
  obtain ⟨s', hs'⟩ := (isOkB_iff _).mp big_ok
  have hne : small.modules ≠ [] := by simp [small, C09.VftExample.case]
  have hf := added_module_frame_vft small ["z"] "z.pyxis" modZ (Or.inr rfl) big_bounded big_noGenRefs unrelated s s' hs hs'
  have hl := added_module_files_vft small ["z"] "z.pyxis" modZ (Or.inr rfl) big_bounded big_noGenRefs unrelated hne s s' hs hs'
  have hr := added_module_registry_vft small ["z"] "z.pyxis" modZ (Or.inr rfl) big_bounded big_noGenRefs unrelated hne s s' hs hs'
  refine ⟨s, s', hs, hs', ?_, hl.1, hl.2.2, hr.1, hr.2⟩
  exact hf _ (by simp [small, C09.VftExample.case]) ["m"] "m.pyxis" C09.VftExample.modM rfl

/-- the generated items of the old module are entries of the smaller final registry (so the registry statement is about
    them too) -/
example : ∃ s, small.run = .ok s ∧ s.reg.contains ["m", "BVftable"] = true ∧ s.reg.contains ["m", "DVftable"] = true :=
  have h : isOkB (runK small) = true ∧ (okState (runK small)).reg.contains ["m", "BVftable"] = true ∧
      (okState (runK small)).reg.contains ["m", "DVftable"] = true := by decide +kernel
  ⟨_, run_eq_okState h.1, h.2⟩

end VftFrameExample

end PyxisVerif.C19
