import PyxisVerif.Spec.C05
import PyxisVerif.Lemmas.C05
/-!
# C05 – address-bound wrappers call the declared address with the declared signature (shape part)

The theorems here say that the *emitted wrapper is the one the description asks for*.  What executing it
does (one call, to that address, with those arguments) is stated under the operational semantics of
`Props/Exec.lean` (`address_wrapper_calls_declared_address`) and checked on the implementation by executing
the emitted code (O4).
-/
namespace PyxisVerif.C05
open Gen

/-- **emitted shape**: an accepted impl function has the declared (non-negative) address, the declared
    parameters in declared order with their types resolved, and the declared return type resolved -/
theorem built_shape (reg : Registry) (scope : List Path) (f : G.Func) (sf : SFunc)
    (h : buildFunction reg scope false f = .ok sf) :
    (∃ a : Int, declAddress f = some a ∧ 0 ≤ a ∧ sf.body = .addr a.toNat)
    ∧ specArgs reg scope f.args = some sf.args
    ∧ (match f.ret with
       | none => sf.ret = none
       | some t => ∃ t', reg.resolveTy scope t = .ok t' ∧ sf.ret = some t')
    ∧ sf.name = f.name ∧ sf.vis = f.vis := by
  obtain ⟨doc, st, body, args, ret, _, hst, hbody, hargs, hret, rfl⟩ := buildFunction_inv h
  refine ⟨?_, specArgs_of_mapM reg scope f.args args hargs, hret, rfl, rfl⟩
  have hr := (fnAttrs_ok hst).2.1 rfl rfl
  rw [← declAddress_eq, hbody] at hr
  cases hd : declAddress f with
  | none => rw [hd] at hr; cases hr
  | some a => rw [hd] at hr; exact ⟨a, rfl, hr.1, Option.some.inj hr.2⟩

/-- **rejections**: no address, a negative address, an unresolvable parameter or return type -/
theorem no_address_rejected (reg : Registry) (scope : List Path) (f : G.Func) (h : declAddress f = none) :
    (buildFunction reg scope false f).isOk = false := by
  refine Res.isOk_eq_false_iff.mpr fun sf hsf => ?_
  obtain ⟨⟨a, ha, _⟩, _⟩ := built_shape reg scope f sf hsf
  rw [h] at ha; cases ha

theorem negative_address_rejected (reg : Registry) (scope : List Path) (f : G.Func) (a : Int)
    (h : declAddress f = some a) (ha : a < 0) : (buildFunction reg scope false f).isOk = false := by
  refine Res.isOk_eq_false_iff.mpr fun sf hsf => ?_
  obtain ⟨⟨a', ha', h0, _⟩, _⟩ := built_shape reg scope f sf hsf
  rw [h] at ha'; cases ha'; omega

theorem unresolved_param_rejected (reg : Registry) (scope : List Path) (f : G.Func)
    (h : specArgs reg scope f.args = none) : (buildFunction reg scope false f).isOk = false := by
  refine Res.isOk_eq_false_iff.mpr fun sf hsf => ?_
  obtain ⟨_, ha, _⟩ := built_shape reg scope f sf hsf
  rw [h] at ha; cases ha

theorem unresolved_return_rejected (reg : Registry) (scope : List Path) (f : G.Func) (t : G.Ty)
    (h : f.ret = some t) (hr : ∀ t', reg.resolveTy scope t ≠ .ok t') :
    (buildFunction reg scope false f).isOk = false := by
  refine Res.isOk_eq_false_iff.mpr fun sf hsf => ?_
  obtain ⟨_, _, hret, _⟩ := built_shape reg scope f sf hsf
  rw [h] at hret
  obtain ⟨t', ht', _⟩ := hret
  exact hr t' ht'

/-- the wrapper printed for an address-bound function: transmute of *that* address to a function
    pointer whose parameters are the receiver pointer (iff declared) followed by the declared
    parameters in order, called with the receiver followed by the arguments in order -/
theorem wrapper_shape (f : SFunc) (a : Nat) (h : f.body = .addr a) :
    Emit.methodS f = Sexp.mk "method" [Emit.docsS f.doc, Emit.visS f.vis, .str f.name,
      Sexp.mk "params" (f.args.map Emit.paramS), Emit.optTyS f.ret,
      Sexp.mk "call-addr" [.int a, .str f.cc.asStr, Sexp.mk "sig" (f.args.map Emit.sigArgS), Emit.optTyS f.ret,
        Sexp.mk "args" (f.args.map Emit.callArgS)]] := by
  simp only [Emit.methodS, h]

/-- every function of the (merged) impl block of a type is built, in source order, after the
    functions inherited from bases -/
theorem impl_functions_all_present (reg : Registry) (scope : List Path) (im : G.Impl) (acc acc' : InjAcc)
    (h : addImplFns reg scope (some im) acc = .ok acc') :
    ∃ built, Res.mapM' (buildFunction reg scope false) im.fns = .ok built ∧ acc'.fns = acc.fns ++ built := by
  refine Res.foldlM_collect (out := (·.fns)) (fun acc f acc1 h1 => ?_) h
  split at h1
  · cases h1
  · split at h1
    · next sf hsf => cases h1; exact ⟨sf, hsf, rfl⟩
    · exact absurd h1 (Res.cast_ne_ok _ _)

/-- several `impl` blocks for one type contribute all their functions -/
theorem impl_blocks_merged (m : Mod) (p : Path) :
    ((m.implFor p).map (·.fns)).getD [] = ((m.impls.filter (fun e => e.1 == p)).map (·.2)).flatMap (·.fns) := by
  unfold Mod.implFor
  split <;> simp [*]

/-- **the address in the text is the declared number**: pyxis prints the address as `0x` followed by
    `{:X}`; reading those digits back gives the number -/
theorem hex_roundtrip (n : Nat) : readHex (toHexUpper n).toList = some n := by
  simp only [toHexUpper, String.toList_ofList]
  exact readHex_toDigits n

/-! ## non-vacuity -/
def exFn : G.Func :=
  { vis := .pub, name := "f", attrs := [.fn "address" [.int 0x10800123]],
    args := [.mutSelf, .named "x" (.mptr (.ident "u32")), .named "y" (.ident "i32")], ret := some (.ident "u64") }

example : (buildFunction (State.new 4).reg [] false exFn).isOk = true := by decide +kernel
example : declAddress exFn = some 0x10800123 := by decide

end PyxisVerif.C05
