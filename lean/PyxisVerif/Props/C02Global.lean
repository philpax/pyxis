import PyxisVerif.Lemmas.C02Global
/-!
# C02, registry-wide – the compiler's *recursive* layout of every emitted item is the resolved one

`Props/C02.lean` proves, item by item, "IF the layouts of the field types handed to the compiler are
the ones recorded in the registry, THEN the compiled size and alignment of this item are the resolved
ones".  The compiler does not read pyxis's registry: it computes the layout of a field's type from
the emitted definition of that type.  This file closes the gap with the registry-wide induction.

Definitions (in `Lemmas/C02Global.lean`, specification part):

* `Lay reg n s a` – the modelled compiler's recursive layout judgement over a registry, for an item
  (`Compiled reg p s a`), a type expression (`TyCompiled`), or a field type (`RTyCompiled`): primitives
  from the compiler's table `primLayout`, `void` as `c_void` (1, 1), extern types as declared, enums
  as their `repr` primitive, structs by `RustSem.structSize` / `structAlign` over the layouts obtained
  *recursively* for the types of the emitted fields (the regions of the resolved definition: source
  fields, `[u8; n]` padding, vftable pointer, function pointers of generated vftable structs),
  pointers and function pointers pointer-sized, arrays `n * s`.
* `RegSound s` – every resolved item of the registry has `Compiled s.reg p r.size r.align`, except
  `void` and items that embed `void` by value (`EmbedsVoid`); plus two auxiliary invariants
  (`prims`: the predefined names still denote the predefined types; `unres`: unresolved entries are
  definitions).

## The exclusion (by-value `void`)

The unrestricted statement `RegSoundAll` ("… for every resolved item but `void` itself") is FALSE:
pyxis resolves `void` with size 0 and emits it as `::std::ffi::c_void`, which has size 1, so
`type S { x: void }` is resolved with size 0 while the emitted struct has size 1
(`sound_unrestricted_refuted`).  The exclusion is kept minimal and explicit: `EmbedsVoid reg p` holds
only for `void` and for structs reaching `void` through by-value fields and arrays (never through a
pointer); `case_sound_partial` states the unrestricted conclusion under the hypothesis
`NoVoidByValue` (no region of a resolved type has `void` as its by-value core).
-/
namespace PyxisVerif.C02
open Layout Gen

/-- `SemanticState::new` (any pointer width; 4 and 8 are the configured ones): every predefined type
    has the compiler's layout, `void` being the one exclusion (`init_sound`) -/
theorem new_sound (ps : Nat) (_h : ps = 4 ∨ ps = 8) : RegSound (State.new ps) :=
  new_sound_lem ps

/-- `add_module` preserves it: definitions enter unresolved, extern types enter with the size and
    alignment they declare (which the property assumes) -/
theorem addModule_sound (s s' : State) (m : G.Module) (path : Path) (hs : RegSound s)
    (h : s.addModule m path = .ok s') : RegSound s' :=
  addModule_sound_lem s s' m path hs h

/-- one resolution attempt preserves it: a newly resolved struct's fields have types whose recorded
    layouts are the compiled ones by the induction hypothesis (`regions_sound`), `struct_sound` closes
    the struct; a newly resolved enum has its base primitive's layout (`enum_sound`, its `hreg` coming
    from the invariant); a generated vftable struct is `slots * ps` bytes (`vftable_sound`) -/
theorem attempt_sound (s : State) (p : Path) (hs : C12.StateOkB s) (h : RegSound s) :
    RegSound (attemptItem s p).1 :=
  attemptItem_sound s p (ps_pos_of_ok hs.ok) h

/-- the whole build preserves it -/
theorem build_sound (s : State) (prio : List Path) (hs : C12.StateOkB s) (h : RegSound s)
    (s' : State) (hb : s.build prio = .ok s') : RegSound s' := by
  obtain ⟨s1, ms, hl, _, rfl⟩ := State.build_ok_inv hb
  exact (resolveLoop_induct (runRound_induct attemptItem_okSound) ⟨hs, h⟩ hl).2.of_reg rfl

/-- **C02, registry-wide, for every accepted case**: pointer width 4 or 8, any modules (with `isize`
    literals, as the parser produces), any priority – in the final registry every resolved item that
    does not embed `void` by value has, for the compiler working recursively from the emitted
    definitions, exactly the size and alignment pyxis resolved -/
theorem case_sound (c : Case) (hps : c.ps = 4 ∨ c.ps = 8) (hb : C12.CaseBounded c) (s : State)
    (h : c.run = .ok s) : RegSound s := by
  obtain ⟨s1, ms, h1, _, rfl⟩ := Case.run_induct (P := fun s => C12.StateOkB s ∧ RegSound s)
    ⟨C12.new_okB c.ps hps, new_sound_lem c.ps⟩
    (fun s s' path file m hm hs h' =>
      ⟨C12.addModule_okB s s' m path hs.1 (hb path file m hm) h', addModule_sound_lem s s' m path hs.2 h'⟩)
    attemptItem_okSound h
  exact h1.2.of_reg rfl

/- REFUTED (`sound_unrestricted_refuted` below): the statement without the exclusion,

theorem case_sound_all (c : Case) (hps : c.ps = 4 ∨ c.ps = 8) (hb : C12.CaseBounded c) (s : State)
    (h : c.run = .ok s) : RegSoundAll s
-/

/-- without `void` by value nothing but `void` itself is excluded -/
theorem sound_voidfree (s : State) (hs : RegSound s) (hv : NoVoidByValue s.reg) : RegSoundAll s := by
  intro p i r hg hr hne
  rcases hs.items p i r hg hr with h | h
  · exact h
  · exact absurd (tainted_core s.reg hv h) hne

/-- the unrestricted conclusion under the explicit hypothesis "no by-value `void` field" -/
theorem case_sound_partial (c : Case) (hps : c.ps = 4 ∨ c.ps = 8) (hb : C12.CaseBounded c) (s : State)
    (h : c.run = .ok s) (hv : NoVoidByValue s.reg) :
    ∀ p i r, s.reg.get p = some i → i.state = .res r → p ≠ ["void"] → Compiled s.reg p r.size r.align :=
  sound_voidfree s (case_sound c hps hb s h) hv

/-- the judgement is functional: the modelled compiler gives a node at most one layout … -/
theorem compiled_unique (reg : Registry) (n : Node) (s a s' a' : Nat) (h1 : Lay reg n s a) (h2 : Lay reg n s' a') :
    s = s' ∧ a = a' :=
  Lay.unique h1 h2

/-- … so under `RegSound`, whatever size and alignment the compiler computes for a resolved item that does
    not embed `void` by value, they are the resolved ones -/
theorem compiled_eq_resolved (s : State) (hs : RegSound s) (p : Path) (i : ItemDef) (r : Resolved)
    (hg : s.reg.get p = some i) (hr : i.state = .res r) (hnv : ¬ EmbedsVoid s.reg p)
    (sz al : Nat) (h : Compiled s.reg p sz al) : sz = r.size ∧ al = r.align := by
  rcases hs.items p i r hg hr with h' | h'
  · exact Lay.unique h h'
  · exact absurd h' hnv

/-- the exclusion is exactly "reaches `void` by value": if `NoVoidByValue` holds, an excluded item is `void` -/
theorem embedsVoid_only_void (reg : Registry) (hv : NoVoidByValue reg) (p : Path) (h : EmbedsVoid reg p) :
    p = ["void"] :=
  tainted_core reg hv h

/-- pointers never propagate the exclusion -/
theorem pointer_not_tainted (reg : Registry) (t : DTy) : ¬ Tainted reg (.ty (.cptr t)) ∧ ¬ Tainted reg (.ty (.mptr t)) := by
  constructor
  · intro h
    generalize hn : Node.ty (.cptr t) = n at h
    cases h <;> cases hn
  · intro h
    generalize hn : Node.ty (.mptr t) = n at h
    cases h <;> cases hn

/-! ## non-vacuity: a concrete accepted case

Pointer width 8, one module `m` with an extern type, an enum, a struct embedded by value and in an
array, a type with a vftable (so a generated vftable struct) and a pointer to `void`:

```text
#[size(8), align(8)] extern type Handle;
pub type Q { pub p: P, pub ps: [P; 3], pub v: *const void, pub h: Handle, pub w: V }   // 64 bytes
pub type V { vftable { pub fn f(&self); }, pub n: u64 }                    // 16 bytes, generates VVftable
pub type P { pub x: u32, pub k: Kind, pub pad: u16 }                       // 8 bytes
pub enum Kind: u16 { X = 0, Y }
```

The run is evaluated once (`run`, through `C09.runK`: `List.mergeSort` does not reduce in the kernel); every
evaluation is `decide +kernel`. -/
namespace Example
open C09

def modM : G.Module :=
  { xtypes := [("Handle", [.fn "size" [.int 8], .fn "align" [.int 8]])],
    defs := [
      { vis := .pub, name := "Q",
        inner := .type { stmts := [{ field := .field .pub "p" (.ident "P"), attrs := [] },
                                   { field := .field .pub "ps" (.arr (.ident "P") 3), attrs := [] },
                                   { field := .field .pub "v" (.cptr (.ident "void")), attrs := [] },
                                   { field := .field .pub "h" (.ident "Handle"), attrs := [] },
                                   { field := .field .pub "w" (.ident "V"), attrs := [] }],
                         attrs := [] } },
      { vis := .pub, name := "V",
        inner := .type { stmts := [{ field := .vftable [{ vis := .pub, name := "f", attrs := [],
                                                          args := [.constSelf], ret := none }], attrs := [] },
                                   { field := .field .pub "n" (.ident "u64"), attrs := [] }],
                         attrs := [] } },
      { vis := .pub, name := "P",
        inner := .type { stmts := [{ field := .field .pub "x" (.ident "u32"), attrs := [] },
                                   { field := .field .pub "k" (.ident "Kind"), attrs := [] },
                                   { field := .field .pub "pad" (.ident "u16"), attrs := [] }],
                         attrs := [] } },
      { vis := .pub, name := "Kind",
        inner := .enum { ty := .ident "u16",
                         stmts := [{ name := "X", expr := some (.int 0), attrs := [] },
                                   { name := "Y", expr := none, attrs := [] }],
                         attrs := [] } }] }

def prio : List Path := [["m", "Kind"], ["m", "P"], ["m", "V"], ["m", "Q"]]

def case : Case :=
  { id := "c02-global", ps := 8, prio := prio, modules := [.ast ["m"] "m.pyxis" modM], extras := [] }

theorem modM_bounded : C12.ModuleBounded modM := by
  refine ⟨?_, ?_⟩
  · intro d hd
    simp only [modM, List.mem_cons, List.not_mem_nil, or_false] at hd
    rcases hd with rfl | rfl | rfl | rfl
    · intro n args z ha; cases ha
    · intro n args z ha; cases ha
    · intro n args z ha; cases ha
    · trivial
  · intro xt hx
    simp only [modM, List.mem_cons, List.not_mem_nil, or_false] at hx
    subst hx
    intro n args z ha hz
    simp only [List.mem_cons, List.not_mem_nil, or_false, G.Attr.fn.injEq] at ha
    rcases ha with ⟨_, rfl⟩ | ⟨_, rfl⟩ <;>
    · simp only [List.mem_cons, List.not_mem_nil, or_false, G.Expr.int.injEq] at hz
      subst hz
      decide

theorem case_bounded : C12.CaseBounded case := by
  intro path file m hm
  simp only [case, List.mem_cons, List.not_mem_nil, or_false, ModEnt.ast.injEq] at hm
  obtain ⟨_, _, rfl⟩ := hm
  exact modM_bounded

/-- the state after `add_module` … -/
def s0 : State := C12.stateOf case.initialState
/-- … and after the one round that resolves everything (and registers `VVftable`) -/
def s1 : State := (runRound s0 prio).1

theorem run : case.run = .ok (okState (runK case)) := run_eq_okState (by decide +kernel)

theorem run_ok : isOkB case.run = true := by rw [run]; rfl

theorem run_reg (s : State) (h : case.run = .ok s) : s.reg = s1.reg := by
  rw [← BuildOutcome.ok.inj (run.symm.trans h)]
  rfl

/-- **the theorem applies**: the case is accepted and its final state is registry-wide sound -/
theorem sound : ∃ s, case.run = .ok s ∧ RegSound s :=
  ⟨_, run, case_sound case (Or.inr rfl) case_bounded _ run⟩

/-- no type of the case has a by-value `void` (the `*const void` of `Q` is a pointer) … -/
theorem noVoid : NoVoidByValue s1.reg := noVoidB_sound _ (by decide +kernel)

/-- … so every item of the final registry but `void` has its compiled layout equal to the resolved one -/
theorem sound_all : ∃ s, case.run = .ok s ∧ RegSoundAll s := by
  obtain ⟨s, hs, h⟩ := sound
  refine ⟨s, hs, sound_voidfree s h ?_⟩
  rw [run_reg s hs]
  exact noVoid

def recorded (reg : Registry) (p : Path) : Option (Nat × Nat) :=
  (reg.get p).bind fun i => i.resolved?.map fun r => (r.size, r.align)

theorem compiled_of_recorded (s : State) (h : RegSoundAll s) (p : Path) (sz al : Nat) (hne : p ≠ ["void"])
    (hr : recorded s.reg p = some (sz, al)) : Compiled s.reg p sz al := by
  unfold recorded at hr
  cases hg : s.reg.get p with
  | none => simp [hg] at hr
  | some i =>
    simp only [hg, Option.bind_some] at hr
    cases hres : i.resolved? with
    | none => simp [hres] at hr
    | some r =>
      simp only [hres, Option.map_some, Option.some.injEq, Prod.mk.injEq] at hr
      have := h p i r hg (resolved?_eq hres) hne
      rw [hr.1, hr.2] at this
      exact this

theorem recorded_eq :
    recorded s1.reg ["m", "Q"] = some (64, 8) ∧ recorded s1.reg ["m", "P"] = some (8, 8) ∧
    recorded s1.reg ["m", "V"] = some (16, 8) ∧ recorded s1.reg ["m", "VVftable"] = some (8, 8) ∧
    recorded s1.reg ["m", "Kind"] = some (2, 2) ∧ recorded s1.reg ["m", "Handle"] = some (8, 8) := by decide +kernel

/-- concretely: for the compiler, computing recursively from the emitted definitions, `Q` (which embeds `P`
    by value, an array of three `P`, a pointer to `void`, the extern `Handle` and `V` with its vftable
    pointer) has size 64 and alignment 8, `P` 8 / 8, `V` 16 / 8, the generated `VVftable` 8 / 8, and the
    enum `Kind` 2 / 2 – the sizes and alignments pyxis resolved -/
theorem concrete :
    Compiled s1.reg ["m", "Q"] 64 8 ∧ Compiled s1.reg ["m", "P"] 8 8 ∧ Compiled s1.reg ["m", "V"] 16 8 ∧
    Compiled s1.reg ["m", "VVftable"] 8 8 ∧ Compiled s1.reg ["m", "Kind"] 2 2 ∧ Compiled s1.reg ["m", "Handle"] 8 8 := by
  obtain ⟨s, hs, h⟩ := sound_all
  have hc := compiled_of_recorded s h
  rw [run_reg s hs] at hc
  obtain ⟨hQ, hP, hV, hVV, hK, hH⟩ := recorded_eq
  exact ⟨hc _ _ _ (by decide) hQ, hc _ _ _ (by decide) hP, hc _ _ _ (by decide) hV, hc _ _ _ (by decide) hVV,
    hc _ _ _ (by decide) hK, hc _ _ _ (by decide) hH⟩

example : ∃ s, case.run = .ok s ∧ RegSound s := sound

end Example

/-! ## the counterexample to the unrestricted statement

`type S { pub x: void }` (pointer width 8): accepted; pyxis records size 0 and alignment 1 for `S`;
the emitted `#[repr(C, align(1))] struct S { pub x: ::std::ffi::c_void }` has size 1. -/
namespace Counter
open C09

def modS : G.Module :=
  { defs := [{ vis := .pub, name := "S",
               inner := .type { stmts := [{ field := .field .pub "x" (.ident "void"), attrs := [] }],
                                attrs := [] } }] }

def case : Case :=
  { id := "c02-void", ps := 8, prio := [], modules := [.ast ["m"] "m.pyxis" modS], extras := [] }

theorem case_bounded : C12.CaseBounded case := by
  intro path file m hm
  simp only [case, List.mem_cons, List.not_mem_nil, or_false, ModEnt.ast.injEq] at hm
  obtain ⟨_, _, rfl⟩ := hm
  refine ⟨?_, fun xt hx => by cases hx⟩
  intro d hd
  simp only [modS, List.mem_cons, List.not_mem_nil, or_false] at hd
  subst hd
  intro n args z ha; cases ha

def s0 : State := C12.stateOf case.initialState
def s1 : State := (runRound s0 [["m", "S"]]).1

theorem run : case.run = .ok (okState (runK case)) := run_eq_okState (by decide +kernel)

theorem run_ok : isOkB case.run = true := by rw [run]; rfl

theorem run_reg (s : State) (h : case.run = .ok s) : s.reg = s1.reg := by
  rw [← BuildOutcome.ok.inj (run.symm.trans h)]
  rfl

def resS : Resolved :=
  { size := 0, align := 1,
    inner := .type { regions := [{ vis := .pub, name := some "x", doc := none, ty := .data (.raw ["void"]), isBase := false }] } }

def itemS : ItemDef := { vis := .pub, path := ["m", "S"], state := .res resS, cat := .defined }

theorem entries : s1.reg.get ["m", "S"] = some itemS ∧ s1.reg.get ["void"] = some (predefItem ("void", 0)) := by
  decide +kernel

/-- for the compiler `S` is not 0 bytes long -/
theorem not_compiled (a : Nat) : ¬ Compiled s1.reg ["m", "S"] 0 a := by
  intro h
  obtain ⟨flds, hlen, hf, hs, _⟩ := Lay.struct_inv (td := { regions := [{ vis := .pub, name := some "x", doc := none, ty := .data (.raw ["void"]), isBase := false }] }) h entries.1 rfl rfl rfl
  match flds, hlen with
  | [f], _ =>
    have h0 := hf 0 (by simp) (by simp)
    simp only [List.getElem_cons_zero] at h0
    have hv := (Lay.void_inv (Lay.raw_inv (Lay.data_inv h0)) entries.2 rfl).1
    have := structSize_single_pos false (some resS.align) f hv
    simp only [Bool.false_eq_true, if_false] at hs
    omega

end Counter

/-- **REFUTED**: the registry-wide statement without the by-value-`void` exclusion.  Witness: `Counter.case`;
    it satisfies every hypothesis and is accepted, its final registry records size 0 for `m::S`, and the
    modelled compiler – like rustc – gives the emitted struct at least one byte. -/
theorem sound_unrestricted_refuted :
    ¬ ∀ (c : Case), (c.ps = 4 ∨ c.ps = 8) → C12.CaseBounded c → ∀ s, c.run = .ok s → RegSoundAll s := by
  intro h
  obtain ⟨s, hs⟩ := (C09.isOkB_iff _).mp Counter.run_ok
  have hall := h Counter.case (Or.inr rfl) Counter.case_bounded s hs
  have hg : s.reg.get ["m", "S"] = some Counter.itemS := by rw [Counter.run_reg s hs]; exact Counter.entries.1
  have := hall ["m", "S"] Counter.itemS Counter.resS hg rfl (by decide)
  rw [Counter.run_reg s hs] at this
  exact Counter.not_compiled _ this

/-- the exclusion does apply to the witness: `m::S` embeds `void` by value -/
theorem counter_embeds_void : EmbedsVoid Counter.s1.reg ["m", "S"] :=
  Tainted.struct _ _ _ _ _ Counter.entries.1 rfl rfl (List.mem_singleton.mpr rfl)
    (Tainted.data _ (Tainted.raw _ Tainted.void))

end PyxisVerif.C02
