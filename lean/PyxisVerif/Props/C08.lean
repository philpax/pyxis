import PyxisVerif.Spec.C08
import PyxisVerif.Lemmas.C08
/-!
# C08 – enum discriminants, representation and default variant are as declared
-/
namespace PyxisVerif.C08
open Gen

/-- **values**: an accepted enum has exactly the discriminants the description says -/
theorem values (s : State) (p : Path) (d : G.EnumDef) (r : Resolved) (h : buildEnum s p d = .ok r) :
    ∃ ed, r.inner = .enum ed ∧ ed.fields = specValues 0 d.stmts := by
  obtain ⟨ed, _, _, _, hr, _, _, _, _, _, hf, _⟩ := buildEnum_spec s p d r h
  exact ⟨ed, hr, hf⟩

/-- **representation**: the base is one of the built-in integer types, the emitted `repr` names it, and
    the resolved size and alignment are that type's (bits / 8, as the predefined table says) -/
theorem repr (s : State) (p : Path) (d : G.EnumDef) (r : Resolved) (h : buildEnum s p d = .ok r) :
    ∃ ed name signed bits, r.inner = .enum ed ∧ ed.ty = .raw [name] ∧ (name, signed, bits) ∈ intTypes
      ∧ DTy.size s.reg ed.ty = .ok (some r.size) ∧ DTy.align s.reg ed.ty = some r.align := by
  obtain ⟨ed, name, signed, bits, hr, hty, hmem, _, hsize, hal, _⟩ := buildEnum_spec s p d r h
  exact ⟨ed, name, signed, bits, hr, hty, hmem, hsize, hal⟩

/-- the emitted enum item carries `repr(<base>)`, the variants in source order with their values,
    and `#[default]` exactly on the variant whose index is `defaultIdx` -/
theorem emitted (path : Path) (size : Nat) (vis : Vis) (ed : EnumDefn) :
    ∃ docs derives tl, Emit.enumItems path size vis ed =
      Sexp.mk "enum" ([docs, derives, Sexp.mk "repr" [.str (Emit.tyStr ed.ty)], Emit.visS vis,
          .str (path.getLast?.getD "")] ++
        ed.fields.zipIdx.map fun ((n, v), idx) =>
          Sexp.mk "var" [.str n, Sexp.ofOpt .int (some v), Sexp.ofBool (ed.defaultIdx == some idx)]) :: tl := by
  unfold Emit.enumItems
  exact ⟨_, _, _, rfl⟩

/-- **default**: an accepted enum is defaultable iff it is declared so, has a default variant iff it
    is defaultable, and that variant is the (single) one whose source statement carries the marker -/
theorem default_marker (s : State) (p : Path) (d : G.EnumDef) (r : Resolved) (h : buildEnum s p d = .ok r) :
    ∃ ed, r.inner = .enum ed ∧ ed.defaultable = isDefaultable d.attrs ∧
      (match ed.defaultIdx with
       | some i => markerIdxs d.stmts = [i] ∧ ed.defaultable = true
       | none => markerIdxs d.stmts = [] ∧ ed.defaultable = false) := by
  obtain ⟨ed, _, _, _, hr, _, _, _, _, _, _, _, hdef, hidx, hsome⟩ := buildEnum_spec s p d r h
  refine ⟨ed, hr, hdef, ?_⟩
  rw [← hidx, hsome]
  cases ed.defaultIdx <;> exact ⟨rfl, rfl⟩

/-- marker without `defaultable`, `defaultable` without marker, or two markers: rejected -/
theorem marker_inconsistency_rejected (s : State) (p : Path) (d : G.EnumDef)
    (h : (markerIdxs d.stmts).length ≥ 2 ∨ (isDefaultable d.attrs = true ∧ markerIdxs d.stmts = [])
       ∨ (isDefaultable d.attrs = false ∧ markerIdxs d.stmts ≠ [])) :
    (buildEnum s p d).isOk = false := by
  refine Res.isOk_eq_false_iff.mpr fun r hb => ?_
  obtain ⟨ed, _, hdef, hm⟩ := default_marker s p d r hb
  rw [← hdef] at h
  cases hdi : ed.defaultIdx with
  | none => rw [hdi] at hm; rw [hm.1, hm.2] at h; simp at h
  | some i => rw [hdi] at hm; rw [hm.1, hm.2] at h; simp at h

/-- every accepted value fits the *width* of the base type (so `v as _` loses no bits) and, for a
    signed base type, fits the type -/
theorem values_fit_width (s : State) (p : Path) (d : G.EnumDef) (r : Resolved) (h : buildEnum s p d = .ok r) :
    ∃ ed name signed bits, r.inner = .enum ed ∧ ed.ty = .raw [name] ∧ (name, signed, bits) ∈ intTypes ∧
      ∀ nv ∈ ed.fields, -(2 ^ (bits - 1)) ≤ nv.2 ∧ nv.2 < 2 ^ bits ∧ (signed = true → Fits signed bits nv.2) := by
  obtain ⟨ed, name, signed, bits, hr, hty, hmem, _, _, _, _, hall, _⟩ := buildEnum_spec s p d r h
  exact ⟨ed, name, signed, bits, hr, hty, hmem, hall⟩

/-- **discriminant is the value** (modelled rustc): `v as T` is `v` whenever `v` fits `T` -/
theorem cast_of_fits (signed : Bool) (bits : Nat) (hb : 0 < bits) (v : Int) (h : Fits signed bits v) :
    cast signed bits v = v := by
  have hP := two_pow_eq bits hb
  have hH : (0 : Int) < 2 ^ (bits - 1) := Int.pow_pos (by decide)
  unfold Fits rustRange at h
  unfold cast
  generalize (2 : Int) ^ bits = P at *
  generalize (2 : Int) ^ (bits - 1) = H at *
  cases signed
  · simp only [Bool.false_eq_true, ↓reduceIte, Bool.false_and] at h ⊢
    exact Int.emod_eq_of_lt h.1 (by omega)
  · simp only [↓reduceIte, Bool.true_and, decide_eq_true_eq] at h ⊢
    by_cases hv : 0 ≤ v
    · have hm : v % P = v := Int.emod_eq_of_lt hv (by omega)
      rw [hm]
      split <;> omega
    · have hm : v % P = v + P := by
        rw [← Int.add_emod_right]
        exact Int.emod_eq_of_lt (by omega) (by omega)
      rw [hm]
      split <;> omega

/-- hence for signed base types, and for non-negative values of unsigned ones, the compiled
    discriminant is the declared value.  (`_partial`: the full statement – "a discriminant that does
    not fit the base type is rejected" – fails for negative values of unsigned base types, which
    pyxis's own test `can_resolve_enum` requires to be accepted; see `negative_in_unsigned_accepted`.) -/
theorem discriminant_is_value_partial (s : State) (p : Path) (d : G.EnumDef) (r : Resolved)
    (h : buildEnum s p d = .ok r) :
    ∃ ed name signed bits, r.inner = .enum ed ∧ ed.ty = .raw [name] ∧ (name, signed, bits) ∈ intTypes ∧
      ∀ nv ∈ ed.fields, (signed = true ∨ 0 ≤ nv.2) → cast signed bits nv.2 = nv.2 := by
  obtain ⟨ed, name, signed, bits, hr, hty, hmem, hpos, _, _, _, hall, _⟩ := buildEnum_spec s p d r h
  refine ⟨ed, name, signed, bits, hr, hty, hmem, ?_⟩
  intro nv hnv hcase
  obtain ⟨h1, h2, h3⟩ := hall nv hnv
  apply cast_of_fits signed bits hpos
  cases signed with
  | true => exact h3 rfl
  | false =>
    have h0 : 0 ≤ nv.2 := by
      rcases hcase with hc | hc
      · cases hc
      · exact hc
    unfold Fits rustRange
    simp only [Bool.false_eq_true, ↓reduceIte]
    generalize (2 : Int) ^ bits = P at *
    omega

/-- the refutation of the full statement, with the witness `enum E: u8 { A = -2 }`: accepted, and the
    compiler gives `A` the discriminant 254 -/
theorem negative_in_unsigned_accepted :
    intTypeRange (.raw ["u8"]) = some (-128, 255) ∧ cast false 8 (-2) = 254 ∧ ¬ Fits false 8 (-2) := by
  refine ⟨by decide, by decide, ?_⟩
  unfold Fits rustRange
  decide

/-! ## non-vacuity -/

def exEnum : G.EnumDef :=
  { ty := .ident "i16",
    stmts := [⟨"A", some (.int (-2)), []⟩, ⟨"B", none, [.ident "default"]⟩, ⟨"C", some (.int 10), []⟩, ⟨"D", none, []⟩],
    attrs := [.ident "defaultable"] }

def exState : State :=
  match (State.new 4).addModule { defs := [⟨.pub, "E", .enum exEnum⟩] } ["m"] with
  | .ok s => s
  | _ => State.new 4

example : (buildEnum exState ["m", "E"] exEnum).isOk = true := by decide +kernel
example : specValues 0 exEnum.stmts = [("A", -2), ("B", -1), ("C", 10), ("D", 11)] := by decide
example : markerIdxs exEnum.stmts = [1] := by decide

end PyxisVerif.C08
