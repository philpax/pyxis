import PyxisVerif.Spec.C01
import PyxisVerif.Lemmas.C01
/-!
# C01 – declared field addresses are the real field offsets in the emitted struct

Three links, each a theorem: (1) the placement loop puts every source field at the offset the
description says (`placed_at_spec`); (2) whenever pyxis's alignment block accepts, the compiler's
`repr(C)` algorithm (modelled in `RustSem`) inserts no padding of its own, so its offsets are
pyxis's running sums (`rustc_offsets`); (3) the emitted struct lists exactly the placed regions, in
order, under `repr(C, align(a))` / `repr(C, packed)` (`emitted_fields`).  `field_offsets_exact`
composes them.
-/
namespace PyxisVerif.C01
open Layout

/-- (1) **placement**: after `resolve_regions`, the source fields that are emitted sit, in source
    order, exactly at `specOffsets` (the vftable pointer, if the type owns one, at 0 and the first
    field right after it) -/
theorem placed_at_spec {β} (vptr : Option (PField β)) (fields : List (PField β)) (target : Option Nat)
    (placed : List (Placed β)) (size : Nat)
    (h : resolve vptr fields target = .ok (placed, size)) :
    let start := match vptr with | some v => (if emitted v then fsize v else 0) | none => 0
    sourceOffsets placed =
      (match vptr with | some v => (if emitted v then [(0, v.val)] else []) | none => []) ++
      ((fields.zip (specOffsets start fields)).filter (fun p => emitted p.1)).map (fun p => (p.2, p.1.val))
    ∧ size = sumSizes placed := by
  cases vptr <;> exact resolve_spec _ fields target placed size h

/-- (2) **the compiler adds no padding** (modelled rustc): if the alignment block accepts, the
    `repr(C)` offsets of the emitted fields are pyxis's running offsets, the compiled size is the
    resolved size and the compiled alignment is the resolved alignment -/
theorem rustc_offsets {β} (ps : Nat) (packed : Bool) (align? : Option Nat) (rs : List (Placed β)) (size a : Nat)
    (hs : size = sumSizes rs) (h : alignCheck ps packed align? rs size = .ok a) :
    RustSem.offsets packed 0 (rs.map toFld) = (offsets 0 rs).map (·.1)
    ∧ RustSem.structSize packed (if packed then none else some a) (rs.map toFld) = size
    ∧ RustSem.structAlign packed (if packed then none else some a) (rs.map toFld) = a :=
  rustc_offsets_lem ps packed align? rs size a hs h

/-- (3) **emission**: the struct emitted for a type lists its regions in order, with `repr(C, packed)`
    for packed types and `repr(C, align(<resolved alignment>))` otherwise -/
theorem emitted_fields (reg : Registry) (path : Path) (size align : Nat) (vis : Vis) (td : TypeDefn) :
    ∃ docs derives tl, Emit.typeItems reg path size align vis td =
      Sexp.mk "struct" ([docs, derives,
          Sexp.mk "repr" (if td.packed then [.str "C", .str "packed"] else [.str "C", .str ("align(" ++ toString align ++ ")")]),
          Emit.visS vis, .str (path.getLast?.getD "")] ++
        td.regions.map fun r => Sexp.mk "fld" [Emit.docsS r.doc, Emit.visS r.vis, .str (r.name.getD ""), .str (Emit.rtyStr r.ty)])
      :: tl := by
  exact ⟨_, _, _, rfl⟩

/-- the decomposition of `type_definition::build`: an accepted type went through the layout core –
    its regions are the placed regions (named), its size their sum, its alignment the verdict of
    the alignment block -/
theorem buildType_layout (s s1 : State) (path : Path) (vis : Vis) (d : G.TypeDef) (r : Resolved)
    (h : buildType s path vis d = (s1, .ok r)) :
    ∃ (td : TypeDefn) (vptr : Option (PField Region)) (fields : List (PField Region)) (target align? : Option Nat)
      (placed : List (Placed Region)),
      r.inner = .type td
      ∧ resolve vptr fields target = .ok (placed, r.size)
      ∧ alignCheck s1.reg.ps td.packed align? placed r.size = .ok r.align
      ∧ nameRegions s1.reg 0 placed = .ok td.regions
      ∧ fields.length = (d.stmts.filter fun st => match st.field with | .field .. => true | .vftable _ => false).length := by
  obtain ⟨td, _, _, ta, sa, _, placed, _, _, hin, B⟩ := CaseLift.buildType_ok_inv h
  refine ⟨td, _, _, ta.targetSize, ta.align, placed, hin, B.layout, B.align, B.named, ?_⟩
  have := stmts_pending _ _ _ _ _ B.stmts
  rw [zipIdx_swap_snd, List.length_nil, Nat.zero_add] at this
  rw [List.length_map]
  exact this

/-- naming does not reorder or drop: region `k` of the type is placed region `k`, with its own
    type (padding regions are `[u8; n]`), so the emitted field list is the placed list -/
theorem nameRegions_types (reg : Registry) (off : Nat) (placed : List (Placed Region)) (regions : List Region)
    (h : nameRegions reg off placed = .ok regions) :
    regions.length = placed.length ∧
    ∀ k (hk : k < placed.length) (hk' : k < regions.length),
      (match placed[k].src with
       | some r => regions[k].ty = r.ty ∧ (r.name.isSome → regions[k] = r)
       | none => ∃ t, reg.paddingType placed[k].size = .ok t ∧ regions[k].ty = .data t ∧ regions[k].vis = .priv) :=
  nameRegions_types_lem reg off placed regions h

/-- **C01**, composed: for an accepted type, the compiler places every source field that is emitted at
    the offset the description says -/
theorem field_offsets_exact {β} (ps : Nat) (packed : Bool) (align? : Option Nat)
    (vptr : Option (PField β)) (fields : List (PField β)) (target : Option Nat)
    (placed : List (Placed β)) (size a : Nat)
    (h : resolve vptr fields target = .ok (placed, size))
    (ha : alignCheck ps packed align? placed size = .ok a) :
    let start := match vptr with | some v => (if emitted v then fsize v else 0) | none => 0
    ((RustSem.offsets packed 0 (placed.map toFld)).zip placed).filterMap (fun p => p.2.src.map fun v => (p.1, v)) =
      (match vptr with | some v => (if emitted v then [(0, v.val)] else []) | none => []) ++
      ((fields.zip (specOffsets start fields)).filter (fun p => emitted p.1)).map (fun p => (p.2, p.1.val)) := by
  intro start
  have h1 := (rustc_offsets ps packed align? placed size a (placed_at_spec vptr fields target placed size h).2 ha).1
  rw [h1, offsets_zip]
  exact (placed_at_spec vptr fields target placed size h).1

/-! ## non-vacuity: `type T { a: u32, #[address(8)] b: u64, c: u8 }` with `#[size(24), align(8)]` -/
def exFields : List (PField String) :=
  [⟨none, .ok (some 4), some 4, false, "a"⟩, ⟨some 8, .ok (some 8), some 8, false, "b"⟩, ⟨none, .ok (some 1), some 1, false, "c"⟩]

example : specOffsets 0 exFields = [0, 8, 16] := by decide
def exPlaced : List (Placed String) :=
  [⟨4, some 4, some "a"⟩, ⟨4, some 1, none⟩, ⟨8, some 8, some "b"⟩, ⟨1, some 1, some "c"⟩, ⟨7, some 1, none⟩]
example : resolve none exFields (some 24) = .ok (exPlaced, 24) := by decide
example : alignCheck 4 false (some 8) exPlaced 24 = .ok 8 := by decide

end PyxisVerif.C01
