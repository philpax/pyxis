import PyxisVerif.Spec.C09
import PyxisVerif.Lemmas.C09
import PyxisVerif.Props.C09Novft
import PyxisVerif.Props.C09Case
import PyxisVerif.Props.C09Vft
import PyxisVerif.Props.C09ModOrder
/-!
# C09 – the output is a deterministic function of the input set

Two layers.  (1) The abstract worklist (`Lemmas/Worklist.lean`, re-exported here): for ANY monotone
`attempt`, any two schedules reach compatible registries, successful results are unique, a hard
error under one schedule excludes success under every other, and a stuck run ends at the registry
of all derivable facts.  (2) The concrete readers through which pyxis's `attempt` looks at the
registry are monotone along `RegLe`, and every place where the Rust iterates a hash container is
followed by a sort that makes the result independent of the container's order.

`schedule_independent_partial` is conditional on `Mono` for the whole concrete `attempt`.  Here only
the readers (size, alignment, name lookup, field placement) are shown monotone.  `Mono` for the whole
attempt, and with it the end-to-end statement, is in `Props/C09Novft.lean` and `Props/C09Case.lean`
(descriptions without `vftable` blocks) and in `Props/C09Vft.lean` (with `vftable` blocks, when nothing
mentions a generated name; without that hypothesis the statement is false); the order in which modules
are added is `Props/C09ModOrder.lean`.  The unconditional claim is checked on the implementation by
exhaustive permutation of the resolution priority (the `pyxis_verif` hook).
-/
namespace PyxisVerif.C09
open Work

theorem schedule_independent_partial {K V : Type} [DecidableEq K] (attempt : Reg K V → K → Out V) (R0 R1 R2 : Reg K V)
    (hm : Mono attempt) (r1 : Run attempt R0 R1) (r2 : Run attempt R0 R2) (ks : List K)
    (t1 : ∀ k ∈ ks, (R1 k).isSome) (t2 : ∀ k ∈ ks, (R2 k).isSome) : ∀ k ∈ ks, R1 k = R2 k := by
  exact Run.total_unique hm r1 r2 ks t1 t2

theorem error_is_schedule_independent {K V : Type} [DecidableEq K] (attempt : Reg K V → K → Out V) (R0 R1 R2 : Reg K V) (k : K)
    (hm : Mono attempt) (r1 : Run attempt R0 R1) (hk : R1 k = none) (hf : attempt R1 k = .fail)
    (r2 : Run attempt R0 R2) : R2 k = none := by
  exact Run.fail_stable hm r1 hk hf r2

theorem stuck_set_is_schedule_independent {K V : Type} [DecidableEq K] (attempt : Reg K V → K → Out V) (R0 R R2 : Reg K V)
    (hm : Mono attempt) (r : Run attempt R0 R) (stuck : ∀ k, R k = none → attempt R k = .defer)
    (r2 : Run attempt R0 R2) : Reg.le R2 R := by
  exact Run.stuck_is_top hm r stuck r2

/-- a size, once known, never changes -/
theorem size_mono (r r' : Registry) (h : RegLe r r') (t : DTy) (s : Nat)
    (hs : t.size r = .ok (some s)) : t.size r' = .ok (some s) := by
  rw [(Mono.dsize_mono h hs).1]; exact hs

theorem align_mono (r r' : Registry) (h : RegLe r r') (t : DTy) (a : Nat)
    (ha : t.align r = some a) (hs : ∃ s, t.size r = .ok (some s)) : t.align r' = some a := by
  obtain ⟨s, hs⟩ := hs
  rw [(Mono.dsize_mono h hs).2]; exact ha

/-- name lookup does not look at resolution state at all: it depends on the key set only -/
theorem lookup_ignores_resolution (r r' : Registry) (h : ∀ p, r'.contains p = r.contains p)
    (scope : List Path) (t : G.Ty) : r'.resolveTy scope t = r.resolveTy scope t := by
  exact resolveTy_congr (fun q _ => h q)

/-- a field's view of the registry is stable once its size is known -/
theorem pfield_mono (r r' : Registry) (h : RegLe r r') (addr : Option Nat) (reg : Region) (s : Nat)
    (hs : reg.ty.size r = .ok (some s)) (ha : (reg.ty.align r).isSome) :
    toPField r' addr reg = toPField r addr reg := by
  have _ := ha
  exact toPField_congr h.ps.symm addr ((Mono.knownR_of_size r reg.ty s hs).seen (.of_regLe h))

/-- pointers never wait for their pointee -/
theorem pointer_size_immediate (r : Registry) (t : DTy) :
    (DTy.cptr t).size r = .ok (some r.ps) ∧ (DTy.mptr t).size r = .ok (some r.ps)
    ∧ (DTy.cptr t).align r = some r.ps ∧ (DTy.mptr t).align r = some r.ps := by
  exact ⟨rfl, rfl, rfl, rfl⟩

/-- the worklist of a round depends on the *set* of unresolved items and the priority only -/
theorem worklist_order_independent (r r' : Registry) (prio : List Path)
    (hp : r'.types.Perm r.types) (hn : (r.types.map (·.1)).Nodup) :
    r'.unresolved prio = r.unresolved prio := by
  have _ := hn
  exact C20.unresolved_order_lem r r' prio hp

/-- files are listed in path order, whatever order the modules were added in -/
theorem files_order_independent (s s' : State) (hr : s'.reg = s.reg) (hp : s'.modules.Perm s.modules)
    (hn : (s.modules.map (·.1)).Nodup)
    (hinj : ∀ a ∈ s.modules, ∀ b ∈ s.modules, Emit.relFile a.1 = Emit.relFile b.1 → a.1 = b.1) :
    Emit.files s' = Emit.files s := by
  exact files_order_lem s s' hr hp hn hinj

/-- resolving an item only ever turns unresolved entries into resolved ones (and may register the
    generated vftable item of the attempted type): what one attempt does to the registry is an extension -/
theorem setState_extends (r : Registry) (p : Path) (res : Resolved) (i : ItemDef)
    (hi : r.get p = some i) (hu : i.isResolved = false) (hk : ∀ q j, r.get q = some j → j.path = q)
    (hn : (r.types.map (·.1)).Nodup) : RegLe r (r.setState p (.res res)) := by
  have _ := hk
  have _ := hn
  exact setState_extends_lem r p res i hi hu

end PyxisVerif.C09
