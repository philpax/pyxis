import PyxisVerif.Lemmas.C20Gap
import PyxisVerif.Props.C20E2E
/-!
# C20, end to end – an `unknown<N>` gap versus an explicit address on the following field

`Props/C20.lean` has the per-stage statements: `gap_vs_address` (the placement loop gives lists that agree
region for region in size and alignment; the gap is a source region in one and generated padding in the
other) and `gap_region_named_like_padding` (the naming pass gives both the same region).  Here the
statement is about whole cases, in the style of `explicit_address_e2e` (`Props/C20E2E.lean`):

```text
type T { …, _: unknown<n>, f: X, … }        type T { …, #[address(A)] f: X, … }
```

give the same run (`SemanticState::new`, `add_module`, the resolution loop, the extern values), hence the
same registry observation O2 and the same files O3, provided `A` is the offset of the gap plus `n` in
every state the resolution can visit while `T` is unresolved (`naturalOffset`, as for (c) in
`Props/C20E2E.lean`; the final state alone is not enough for the reason given there).

What the hypotheses exclude, and what they do not need to exclude (definitions in `Lemmas/C20Gap.lean`):

* `IsGapStmt gap n` – the gap is a field named `_` of type `unknown<n>`; its attributes contain neither
  `#[base]` (the build rejects "a `#[base]` field has no name") nor `#[address(..)]` nor a malformed doc
  attribute.  **Visibility and doc comment of the gap are free**: `resolve_regions` (mod.rs:640-661,
  `nameRegions` in the model) replaces *every* unnamed region by a private, undocumented field
  `_field_<offset>` and keeps its type only, so `pub _: unknown<n>` and `/// text` on a gap are not
  observable in this compiler.  `n = 0` is allowed (`Regions::push` drops a zero-sized array on both
  sides), and so is an `n` that is not a `usize` (both builds ask to be retried at the same place).
* `IsPlainFieldStmt st` – the statement after the gap is a field statement (not a `vftable` block) without
  an `#[address]` attribute of its own.  It may be a `#[base]` field.
* O2 (`Obs.outcomeS`) prints the resolved registry (regions, sizes, alignments, functions, vftables) and
  the modules; it does not print the source statement list of a definition, and `Emit.files` does not
  either – so the removed statement itself is not observable, only its effect on the regions is, and that
  is equal (`TypeDefn.regions` of the two resolved items are *equal*, not merely similar).
* one fact about all runs is needed and proved: `u8` is the predefined one-byte type in every visited
  state (`u8ok_visited`), so the user's `unknown<n>` – whose size is looked up through the registry –
  and the generated padding – whose size `n` and alignment 1 are built in – are laid out alike.
-/
namespace PyxisVerif.C20

/-- **an `unknown<n>` gap replaced by an address on the following field, end to end**: for every case `c`,
    if `c'` is `c` with the gap statement `gap` (`_: unknown<n>`) of the type at `p` removed and
    `#[address(A)]` added to the field statement `st` that followed it, and in every state the resolution of
    `c` can visit in which the type is still unresolved the placement loop, when it gets to the gap, is at
    offset `A - n`, then the two cases have the same O2 and the same O3 -/
theorem gap_to_address_e2e (c c' : Case) (p : Path) (d : G.Item) (td : G.TypeDef) (spre spost : List G.Stmt)
    (gap st : G.Stmt) (n A : Nat)
    (hd : d.inner = .type td) (hs : td.stmts = spre ++ gap :: st :: spost)
    (hgap : IsGapStmt gap n) (hst : IsPlainFieldStmt st)
    (hrep : ReplacedDef c c' p d (gapRewrite d td spre spost gap st A))
    (hside : ∀ s, Visited c s → ∀ i, s.reg.get p = some i → i.state = .unres d →
      ∀ a, naturalOffset s p d.vis td (spre.filter C01.isFieldStmt).length = some a → a + n = A) :
    c'.o2 = c.o2 ∧ c'.o3 = c.o3 :=
  obs_of_run (gap_to_address_run_lem c c' p d td spre spost gap st n A hd hs hgap hst hrep hside)

/-- … in fact the same run, up to the definition stored in the registry entry while it is unresolved -/
theorem gap_to_address_e2e_run (c c' : Case) (p : Path) (d : G.Item) (td : G.TypeDef) (spre spost : List G.Stmt)
    (gap st : G.Stmt) (n A : Nat)
    (hd : d.inner = .type td) (hs : td.stmts = spre ++ gap :: st :: spost)
    (hgap : IsGapStmt gap n) (hst : IsPlainFieldStmt st)
    (hrep : ReplacedDef c c' p d (gapRewrite d td spre spost gap st A))
    (hside : ∀ s, Visited c s → ∀ i, s.reg.get p = some i → i.state = .unres d →
      ∀ a, naturalOffset s p d.vis td (spre.filter C01.isFieldStmt).length = some a → a + n = A) :
    c'.run = mapO (swapS p d (gapRewrite d td spre spost gap st A)) c.run :=
  gap_to_address_run_lem c c' p d td spre spost gap st n A hd hs hgap hst hrep hside

/-- **the reverse**: `c` is the description with the address, `c'` the one with the gap statement put back
    (the side condition is about the description with the gap, which is `c'` here) -/
theorem address_to_gap_e2e (c c' : Case) (p : Path) (d : G.Item) (td : G.TypeDef) (spre spost : List G.Stmt)
    (gap st : G.Stmt) (n A : Nat)
    (hd : d.inner = .type td) (hs : td.stmts = spre ++ gap :: st :: spost)
    (hgap : IsGapStmt gap n) (hst : IsPlainFieldStmt st)
    (hrep : ReplacedDef c c' p (gapRewrite d td spre spost gap st A) d)
    (hside : ∀ s, Visited c' s → ∀ i, s.reg.get p = some i → i.state = .unres d →
      ∀ a, naturalOffset s p d.vis td (spre.filter C01.isFieldStmt).length = some a → a + n = A) :
    c'.o2 = c.o2 ∧ c'.o3 = c.o3 := by
  have h := gap_to_address_e2e c' c p d td spre spost gap st n A hd hs hgap hst (hrep.symm rfl) hside
  exact ⟨h.1.symm, h.2.symm⟩

/-- the same at the level of one attempt: in a state in which `u8` is the predefined type (every state of
    a run: `u8ok_visited`) and the natural offset of the gap, if determined, is `A - n`,
    `type_definition::build` gives the same answer and the same new state -/
theorem gap_to_address_build (s : State) (path : Path) (vis : Vis) (td : G.TypeDef) (spre spost : List G.Stmt)
    (gap st : G.Stmt) (n A : Nat) (hu : U8ok s.reg)
    (hs : td.stmts = spre ++ gap :: st :: spost) (hgap : IsGapStmt gap n) (hst : IsPlainFieldStmt st)
    (hoff : ∀ a, naturalOffset s path vis td (spre.filter C01.isFieldStmt).length = some a → a + n = A) :
    buildType s path vis { td with stmts := spre ++ withAddr st A :: spost } = buildType s path vis td := by
  obtain ⟨fvis, name, ty, hf⟩ := hst.field
  exact buildType_gap s path vis td spre spost gap st fvis name ty n A hu hs hgap hf hst.2 hoff

/-- `u8` is the predefined one-byte type in every state a run can visit -/
theorem u8_predefined_in_visited (c : Case) (s : State) (h : Visited c s) : U8ok s.reg :=
  u8ok_visited c s h

/-- `IsGapStmt`, syntactically: `_: unknown<n>` with any visibility, whose attributes are well-formed doc
    comments and attributes other than `#[base]` and `#[address(..)]` -/
theorem isGapStmt_of_no_base_address_attribute (vis : G.Vis) (n : Nat) (attrs : List G.Attr)
    (h : ∀ a ∈ attrs, a ≠ .ident "base" ∧ (∀ args, a ≠ .fn "address" args) ∧
      ∀ e, a = .assign "doc" e → ∃ v, e = .str v) :
    IsGapStmt { field := .field vis "_" (.unk n), attrs } n :=
  isGapStmt_of_attrs vis n attrs h

/-- the plain `_: unknown<n>` -/
theorem isGapStmt_unknown (vis : G.Vis) (n : Nat) : IsGapStmt { field := .field vis "_" (.unk n), attrs := [] } n :=
  isGapStmt_of_attrs vis n [] (fun a ha => by cases ha)

/-- `IsPlainFieldStmt`, syntactically -/
theorem isPlainFieldStmt_of_no_address_attribute (vis : G.Vis) (name : String) (ty : G.Ty) (attrs : List G.Attr)
    (h : ∀ a ∈ attrs, ∀ args, a ≠ .fn "address" args) :
    IsPlainFieldStmt { field := .field vis name ty, attrs } :=
  ⟨rfl, noAddrAttr_of_attrs _ h⟩

/-! ## non-vacuity: a concrete case

Pointer width 8, one module:

```text
// m.pyxis                                          // m.pyxis, rewritten
pub type T { a: u32, _: unknown<4>, b: u64 }        pub type T { a: u32, #[address(8)] b: u64 }
```

`T` is the only unresolved item; its first attempt resolves it (16 bytes, regions `a`, `_field_4`, `b`).
The placement loop arrives at the gap at offset 4 in the initial state, and `4 + 4 = 8`. -/
namespace GapExample

def stA : G.Stmt := { field := .field .priv "a" (.ident "u32"), attrs := [] }
def stGap : G.Stmt := { field := .field .priv "_" (.unk 4), attrs := [] }
def stB : G.Stmt := { field := .field .priv "b" (.ident "u64"), attrs := [] }

def tdT : G.TypeDef := { stmts := [stA, stGap, stB], attrs := [] }

def itemT : G.Item := { vis := .pub, name := "T", inner := .type tdT }

def modM : G.Module := { defs := [itemT] }

def case : Case :=
  { id := "c20-gap", ps := 8, prio := [], modules := [.ast ["m"] "m.pyxis" modM], extras := [] }

/-- `T` with the gap removed and `#[address(8)]` on `b` -/
def itemT' : G.Item := gapRewrite itemT tdT [stA] [] stGap stB 8

/-- the rewritten definition, written out -/
def tdT' : G.TypeDef :=
  { stmts := [stA, { field := .field .priv "b" (.ident "u64"), attrs := [.fn "address" [.int 8]] }], attrs := [] }

example : itemT'.inner = .type tdT' := rfl

example : itemT' ≠ itemT := by decide

def case' : Case :=
  { case with modules := case.modules.set 0 (.ast ["m"] "m.pyxis" { modM with defs := modM.defs.set 0 itemT' }) }

theorem replaced : ReplacedDef case case' ["m", "T"] itemT itemT' :=
  ⟨0, 0, ["m"], "m.pyxis", modM, rfl, rfl, rfl, rfl⟩

theorem gapStmt : IsGapStmt stGap 4 := isGapStmt_unknown .priv 4

/-- a `pub`, documented gap is a gap statement too (its visibility and doc comment are not observable) -/
example : IsGapStmt { field := .field .pub "_" (.unk 4), attrs := [.assign "doc" (.str " reserved")] } 4 :=
  isGapStmt_of_no_base_address_attribute .pub 4 _ (fun a ha => by
    cases ha with
    | head => exact ⟨by decide, fun args => by simp, fun e he => by cases he; exact ⟨_, rfl⟩⟩
    | tail _ h => cases h)

theorem plainB : IsPlainFieldStmt stB :=
  isPlainFieldStmt_of_no_address_attribute .priv "b" (.ident "u64") [] (fun a ha => by cases ha)

def s0 : State := C12.stateOf case.initialState
def s1 : State := (runRound s0 [["m", "T"]]).1

/-- the modules after the extern-value pass -/
def msFin : List (Path × Mod) :=
  match Res.mapM' (xvalPass s1.reg) s1.modules with | .ok ms => ms | _ => []

/-- the final state of the accepted build -/
def sFin : State := { s1 with modules := msFin }

/-- size, alignment and regions of the resolved type at `p` -/
def summary (s : State) (p : Path) : Option (Nat × Nat × List Region) :=
  (s.reg.get p).bind fun i => i.resolved?.bind fun r =>
    match r.inner with
    | .type t => some (r.size, r.align, t.regions)
    | .enum _ => none

/-- the finite facts about the run, proved by ONE evaluation, which runs `add_module` and the round once for all of
    them: `s0` is the initial state, in which `T` is the only unresolved item and the placement loop reaches the gap
    (pending field 1) at offset 4; the first attempt resolves `T`; the run ends in `sFin`, with `T` as described -/
theorem run_facts :
    case.initialState.isOk = true ∧
    s0.reg.types.all (fun e => e.1 == ["m", "T"] || e.2.isResolved) = true ∧
    naturalOffset s0 ["m", "T"] itemT.vis tdT ([stA].filter C01.isFieldStmt).length = some 4 ∧
    (((attemptItem s0 ["m", "T"]).1.reg.get ["m", "T"]).bind (·.resolved?)).isSome = true ∧
    C09.runK case = .ok sFin ∧
    summary sFin ["m", "T"]
      = some (16, 8, [{ vis := .priv, name := some "a", doc := none, ty := .data (.raw ["u32"]), isBase := false },
                      { vis := .priv, name := some "_field_4", doc := none, ty := .data (.arr (.raw ["u8"]) 4),
                        isBase := false },
                      { vis := .priv, name := some "b", doc := none, ty := .data (.raw ["u64"]), isBase := false }]) := by
  decide +kernel

theorem run_ok : case.run = .ok sFin := C09.run_of_runK run_facts.2.2.2.2.1

/-- the side condition of `gap_to_address_e2e`: the states the case can visit are the initial state and
    states in which `T` is resolved -/
theorem side : ∀ s, Visited case s → ∀ i, s.reg.get ["m", "T"] = some i → i.state = .unres itemT →
    ∀ a, naturalOffset s ["m", "T"] itemT.vis tdT ([stA].filter C01.isFieldStmt).length = some a → a + 4 = 8 := by
  intro s hv i hg hst a ha
  obtain ⟨hinit, hall, hoff, hres, -⟩ := run_facts
  rcases visited_single case ["m", "T"] s0 (C12.eq_ok_stateOf _ hinit) hall hres s hv with h | ⟨j, r, hj, hr⟩
  · rw [h, hoff] at ha
    cases ha
    rfl
  · rw [hg] at hj
    cases hj
    rw [hr] at hst
    cases hst

/-- the two descriptions give the same registry observation and the same files … -/
theorem same_output : case'.o2 = case.o2 ∧ case'.o3 = case.o3 :=
  gap_to_address_e2e case case' ["m", "T"] itemT tdT [stA] [] stGap stB 4 8 rfl rfl gapStmt plainB replaced side

/-- … both are accepted … -/
theorem both_accepted : C09.isOkB case.run = true ∧ C09.isOkB case'.run = true := by
  have h := gap_to_address_e2e_run case case' ["m", "T"] itemT tdT [stA] [] stGap stB 4 8 rfl rfl gapStmt plainB
    replaced side
  rw [h, run_ok]
  exact ⟨rfl, rfl⟩

/-- … and the files are the files of the final state `sFin`: O3 is not an error observation -/
theorem o3_files : case'.o3 = Sexp.mk "files" (Emit.files sFin) ∧ case.o3 = Sexp.mk "files" (Emit.files sFin) := by
  have e : case.o3 = Sexp.mk "files" (Emit.files sFin) := by rw [o3_eq, run_ok]; rfl
  exact ⟨same_output.2.trans e, e⟩

/-- the resolved `T`: 16 bytes, alignment 8, regions `a`, `_field_4: [u8; 4]` (private, no doc), `b` -/
theorem resolved_T :
    summary sFin ["m", "T"]
      = some (16, 8, [{ vis := .priv, name := some "a", doc := none, ty := .data (.raw ["u32"]), isBase := false },
                      { vis := .priv, name := some "_field_4", doc := none, ty := .data (.arr (.raw ["u8"]) 4),
                        isBase := false },
                      { vis := .priv, name := some "b", doc := none, ty := .data (.raw ["u64"]), isBase := false }]) :=
  run_facts.2.2.2.2.2

end GapExample

end PyxisVerif.C20
