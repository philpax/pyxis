import PyxisVerif.Spec.C15
import PyxisVerif.Lemmas.C15
/-!
# C15 – singleton and extern-value accessors address the declared location
-/
namespace PyxisVerif.C15
open Gen
open PyxisVerif.C14

/-- a type's singleton address is the declared (non-negative) number -/
theorem type_singleton (attrs : List G.Attr) (ta : TypeAttrs) (h : Res.foldlM typeAttrStep {} attrs = .ok ta) :
    (match declInt "singleton" attrs with
     | some a => 0 ≤ a ∧ ta.singleton = some a.toNat
     | none => ta.singleton = none) :=
  (typeAttrs_ok h).2.1

theorem enum_singleton (attrs : List G.Attr) (ea : EnumAttrs) (h : Res.foldlM enumAttrStep {} attrs = .ok ea) :
    (match declInt "singleton" attrs with
     | some a => 0 ≤ a ∧ ea.singleton = some a.toNat
     | none => ea.singleton = none) :=
  (enumAttrs_ok h).1

/-- the emitted `get()` of a struct singleton is the one-indirection shape at that address, with the
    type's visibility -/
theorem struct_getter_emitted (reg : Registry) (path : Path) (size align : Nat) (vis : Vis) (td : TypeDefn) (a : Nat)
    (h : td.singleton = some a) :
    Sexp.mk "singleton-struct" [.str (path.getLast?.getD ""), Emit.visS vis, .int a] ∈ Emit.typeItems reg path size align vis td := by
  unfold Emit.typeItems
  simp only [h]
  simp only [List.mem_append]
  exact Or.inl (Or.inl (Or.inl (Or.inr (List.mem_singleton.mpr rfl))))

theorem enum_getter_emitted (path : Path) (size : Nat) (vis : Vis) (ed : EnumDefn) (a : Nat) (h : ed.singleton = some a) :
    Sexp.mk "singleton-enum" [.str (path.getLast?.getD ""), Emit.visS vis, .int a] ∈ Emit.enumItems path size vis ed := by
  unfold Emit.enumItems
  simp only [h]
  simp only [List.mem_append]
  exact Or.inr (List.mem_singleton.mpr rfl)

theorem no_singleton_no_getter (reg : Registry) (path : Path) (size align : Nat) (vis : Vis) (td : TypeDefn)
    (h : td.singleton = none) :
    ∀ x ∈ Emit.typeItems reg path size align vis td, Sexp.head? x ≠ some "singleton-struct" := by
  intro x hx
  unfold Emit.typeItems at hx
  simp only [h, List.append_nil, List.mem_append, List.mem_singleton, List.mem_flatMap] at hx
  rcases hx with ((((hx | hx) | hx) | hx) | hx)
  · subst hx; rw [head_mk]; decide
  · split at hx
    · rw [List.mem_singleton] at hx; subst hx; rw [head_mk]; decide
    · cases hx
  · subst hx; rw [head_mk]; decide
  · obtain ⟨e, _, hx⟩ := hx
    split at hx
    · rw [List.mem_singleton] at hx; subst hx; rw [head_mk]; decide
    · simp only [List.mem_cons, List.not_mem_nil, or_false] at hx
      rcases hx with hx | hx <;> (subst hx; rw [head_mk]; decide)
  · simp only [List.mem_cons, List.not_mem_nil, or_false] at hx
    rcases hx with hx | hx <;> (subst hx; rw [head_mk]; decide)

/-- **extern values**: an accepted module's extern value has the declared non-negative address, keeps its
    name and visibility, and one without an address (or with a negative one) is rejected -/
theorem extern_value_address (s s' : State) (m : G.Module) (path : Path) (h : s.addModule m path = .ok s') :
    ∃ md, s'.getModule path = some md ∧ md.xvals.length = m.xvals.length ∧
      ∀ k (hk : k < m.xvals.length) (hk' : k < md.xvals.length),
        ∃ a : Int, declInt "address" m.xvals[k].attrs = some a ∧ 0 ≤ a ∧ md.xvals[k].addr = a.toNat
          ∧ md.xvals[k].name = m.xvals[k].name ∧ md.xvals[k].vis = m.xvals[k].vis ∧ md.xvals[k].gty = m.xvals[k].ty := by
  obtain ⟨xvals, doc, s2, hx, h1, h2⟩ := addModule_inv s s' m path h
  obtain ⟨_, _, _, g1⟩ := fold_addItem (defStep path) path (·.name) (defStep_spec path) _ _ _ h1
  obtain ⟨_, _, _, g2⟩ := fold_addItem (xtypeStep path) path (·.1) (xtypeStep_spec path) _ _ _ h2
  have h0 : (s.putModule path (newMod m path xvals doc)).getModule path = some (newMod m path xvals doc) := by
    simp [State.putModule, State.getModule]
  obtain ⟨dp1, hd1⟩ := g1 _ _ h0
  obtain ⟨dp2, hd2⟩ := g2 _ _ hd1
  obtain ⟨hl, hp⟩ := Res.mapM'_ok hx
  refine ⟨_, hd2, hl, ?_⟩
  intro k hk hk'
  exact xvalStep_ok _ _ (hp k hk hk')

theorem extern_without_address_rejected (s : State) (m : G.Module) (path : Path)
    (h : ∃ x ∈ m.xvals, declInt "address" x.attrs = none ∨ ∃ a, declInt "address" x.attrs = some a ∧ a < 0) :
    (s.addModule m path).isOk = false := by
  refine Res.isOk_eq_false_iff.mpr fun s' hr => ?_
  obtain ⟨md, _, hl, hp⟩ := extern_value_address s s' m path hr
  obtain ⟨x, hx, hd⟩ := h
  obtain ⟨k, hk, rfl⟩ := List.getElem_of_mem hx
  obtain ⟨a, ha, h0, _⟩ := hp k hk (by omega)
  rcases hd with hd | ⟨a', ha', hn⟩
  · rw [ha] at hd; cases hd
  · rw [ha] at ha'; cases ha'; omega

/-- the accessor emitted for an extern value: `get_<name>`, its visibility, the resolved type, the address -/
theorem extern_accessor_emitted (x : XValue) (t : DTy) (h : x.ty = some t) :
    Emit.xvalItem x = Sexp.mk "xaccessor" [Emit.visS x.vis, .str ("get_" ++ unraw x.name), .str (Emit.tyStr t), .int x.addr] := by
  unfold Emit.xvalItem
  rw [h]
  rfl

/-- the type of an extern value is resolved with the module's scope after all types are resolved, and
    an unresolvable one is an error -/
theorem extern_value_type (reg : Registry) (m m' : Mod) (h : resolveXVals reg m = .ok m') :
    m'.xvals.length = m.xvals.length ∧
    ∀ k (hk : k < m.xvals.length) (hk' : k < m'.xvals.length),
      ∃ t, reg.resolveTy m.scope m.xvals[k].gty = .ok t ∧ m'.xvals[k].ty = some t ∧ m'.xvals[k].addr = m.xvals[k].addr
        ∧ m'.xvals[k].name = m.xvals[k].name ∧ m'.xvals[k].vis = m.xvals[k].vis := by
  unfold resolveXVals at h
  split at h
  · next xvals hx =>
    simp only [Res.ok.injEq] at h
    subst h
    obtain ⟨hl, hp⟩ := Res.mapM'_ok hx
    refine ⟨hl, ?_⟩
    intro k hk hk'
    have := hp k hk hk'
    simp only at this hk' ⊢
    split at this
    · next t ht =>
      simp only [Res.ok.injEq] at this
      refine ⟨t, ht, ?_⟩
      rw [← this]
      exact ⟨rfl, rfl, rfl, rfl⟩
    · cases this
    · exact (Res.cast_ne_ok _ _ this).elim
  · exact (Res.cast_ne_ok _ _ h).elim

/-- **modelled run-time meaning** of the three shapes (definitions in `Spec/C15.lean`): the struct getter
    returns `None` exactly when the cell at `A` is null and otherwise the pointer stored there; the enum
    getter the value at `A`; the extern accessor the address `A` itself -/
theorem getter_semantics (mem : Mem) (a : Nat) :
    (execSingletonStruct mem a = none ↔ mem a = 0) ∧ (∀ p, execSingletonStruct mem a = some p → p = mem a ∧ p ≠ 0)
    ∧ execSingletonEnum mem a = mem a ∧ execExternValue a = a := by
  unfold execSingletonStruct execSingletonEnum execExternValue
  refine ⟨?_, ?_, rfl, rfl⟩
  · split <;> simp_all
  · intro p hp
    split at hp
    · cases hp
    · next hne => cases hp; exact ⟨rfl, hne⟩

end PyxisVerif.C15
