import PyxisVerif.Spec.C09
import PyxisVerif.Lemmas.C09
import PyxisVerif.Lemmas.C19
import PyxisVerif.Props.C19Frame
import PyxisVerif.Props.C19FrameVft
import PyxisVerif.Props.C19Change
/-!
# C19 – a module's bindings do not depend on unrelated definitions

The locality facts the frame property rests on: a name lookup inspects a fixed list of candidate
paths and nothing else; sizes and alignments are read at the by-value dependencies only; a
module's file is printed from the module's own definition paths and extern values.  The end-to-end
statement for whole modules (adding, removing or changing an unrelated module leaves the file of
every other module the same) composes these with C09's schedule independence in
`Props/C19FrameVft.lean` and `Props/C19Change.lean`; changes inside a module (an unreachable type
added, changed or removed) are checked on the implementation with generated pairs of input sets on
every run.
-/
namespace PyxisVerif.C19
open C09

/-- **lookup is local**: two registries that agree on the membership of the candidate paths of a
    lookup give the same answer -/
theorem lookup_local (r r' : Registry) (scope : List Path) (name : String)
    (h : ∀ p ∈ candidates scope name, r'.contains p = r.contains p) :
    r'.resolveString scope name = r.resolveString scope name :=
  resolveString_congr h

/-- the answer of a lookup is one of its candidates -/
theorem lookup_answer_is_candidate (r : Registry) (scope : List Path) (name : String) (p : Path)
    (h : r.resolveString scope name = some (.raw p)) : p ∈ candidates scope name ∧ r.contains p = true :=
  match resolveString_answer h with
  | ⟨_, rfl, hc, hk⟩ => ⟨hc, hk⟩

/-- **layout is local**: size and alignment of a type expression depend on the entries of its
    by-value dependencies only -/
theorem size_local (r r' : Registry) (t : DTy) (hps : r'.ps = r.ps)
    (h : ∀ p ∈ byValue t, r'.get p = r.get p) : t.size r' = t.size r ∧ t.align r' = t.align r :=
  dsize_congr hps (fun p hp => Registry.seen_of_get (h p hp))

/-- **emission is local**: the items printed for a definition depend on that definition's entry and,
    through the base-class hierarchy, on the entries of its (transitive) base types; an item that
    is not a type with bases depends on its own entry only -/
theorem enum_items_local (path : Path) (size : Nat) (vis : Vis) (ed : EnumDefn) (reg reg' : Registry)
    (i : ItemDef) (hi : i.state = .res { size := size, align := size, inner := .enum ed }) (hc : i.cat = .defined) :
    Emit.itemItems reg' i = Emit.itemItems reg i := by
  have _ := path
  have _ := vis
  unfold Emit.itemItems
  simp only [hc, ItemDef.resolved?, hi]

theorem type_items_local (reg reg' : Registry) (path : Path) (size align : Nat) (vis : Vis) (td : TypeDefn)
    (hl : reg'.types.length = reg.types.length)
    (h : ∀ p, reg'.get p = reg.get p) :
    Emit.typeItems reg' path size align vis td = Emit.typeItems reg path size align vis td := by
  have hr : regionNameAndTypeDef reg' = regionNameAndTypeDef reg := by
    funext r
    unfold regionNameAndTypeDef
    simp only [h]
  have hd : ∀ fuel td fields, Emit.dfsHierarchy reg' fuel td fields = Emit.dfsHierarchy reg fuel td fields := by
    intro fuel
    induction fuel with
    | zero => intro td fields; simp only [Emit.dfsHierarchy]
    | succ n ih => intro td fields; simp only [Emit.dfsHierarchy, hr, ih]
  simp only [Emit.typeItems, hl, hd]

/-- a type without base regions is printed without consulting the registry at all -/
theorem type_items_no_bases (reg reg' : Registry) (path : Path) (size align : Nat) (vis : Vis) (td : TypeDefn)
    (hb : ∀ r ∈ td.regions, r.isBase = false) :
    Emit.typeItems reg' path size align vis td = Emit.typeItems reg path size align vis td := by
  simp only [Emit.typeItems, dfs_no_bases _ _ td [] hb]

/-- a module's file mentions only the module's own definition paths and extern values -/
theorem module_file_local (s s' : State) (key : Path) (m : Mod)
    (h : ∀ p ∈ m.defPaths, s'.reg.get p = s.reg.get p)
    (hi : ∀ p ∈ m.defPaths, ∀ i, s.reg.get p = some i → Emit.itemItems s'.reg i = Emit.itemItems s.reg i) :
    Emit.moduleFile s' key m = Emit.moduleFile s key m :=
  module_file_lem s s' key m h hi

end PyxisVerif.C19
