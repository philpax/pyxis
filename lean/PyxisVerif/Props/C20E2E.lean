import PyxisVerif.Lemmas.C20E2E
import PyxisVerif.Props.C09Case
/-!
# C20, end to end – descriptions that differ only in redundant information give the same output

`Props/C20.lean` shows, rewrite by rewrite, that the redundant spelling is a no-op for the inner function
it touches (`place`, `resolve`, `slotStep`, `enumStmtStep`).  Here the statements are about whole cases:
the complete build (`Case.run`: `SemanticState::new`, `add_module` for every module, the resolution loop,
the extern values) of the rewritten description is the build of the original one, hence the registry
observation O2 and the emitted files O3 are equal.

The definitions are in `Lemmas/C20E2E.lean`:

* `ReplacedDef c c' p d d'` – case `c'` is case `c` with the definition `d` at some position of some AST
  module (at module path `path`) replaced by `d'`; `p = path ++ [d.name]` is the path of the item;
* `BuildEquiv d d'` – same name, same visibility, same kind, and `type_definition::build` /
  `enum_definition::build` give the same answer (including the new state: the generated vftable item)
  for the two definitions in *every* state and at every path;
* `swapS p d d' s` – the state `s` with the definition `d` stored in the unresolved entry under `p`
  replaced by `d'` (nothing else changes; a state in which `p` is resolved is not changed at all);
* `mapO f o` (`Lemmas/RelRes.lean`) – the outcome `o` with `f` applied to the final state of an accepted build.

The rewrites (a) implicit enum value and (d) natural vftable index are unconditional, via `BuildEquiv` and the
general congruence (`rewrite_congruence`); (b) natural size holds for accepted cases, with a side condition
on the final registry; (c) explicit address needs a side condition on every visited state –
`explicit_address_final_state_refuted` is a kernel-checked witness that the final state alone is not
enough; (e) is reordering the definitions of a module.

The core is a simulation: `add_module` puts the two cases into states related by `swapS`; every attempt
keeps the relation (every other item reads only *resolved* information of the replaced item, which is the
same on both sides; while it is unresolved both sides see "unresolved"); the loop tests, the
extern-value pass, `Obs.outcomeS` and `Emit.files` do not look at stored definitions.  Error messages
never quote a definition, so error outcomes are equal too.
-/
namespace PyxisVerif.C20

/-- **congruence**: replacing a definition by one that builds to the same thing gives the same run, up to
    the definition stored in the (unresolved) registry entry, which no observation shows … -/
theorem rewrite_congruence_run (c c' : Case) (p : Path) (d d' : G.Item) (h : ReplacedDef c c' p d d')
    (he : BuildEquiv d d') : c'.run = mapO (swapS p d d') c.run :=
  run_replaced_on c c' p d d' h he.1 he.2.1 he.isTypeDef (fun _ => True) (fun _ _ => trivial)
    (fun _ _ _ => trivial) (fun s _ _ _ _ => he.attemptDef s p)

/-- … hence the same resolved registry (O2) and the same emitted files (O3) -/
theorem rewrite_congruence (c c' : Case) (p : Path) (d d' : G.Item) (h : ReplacedDef c c' p d d')
    (he : BuildEquiv d d') : c'.o2 = c.o2 ∧ c'.o3 = c.o3 :=
  obs_of_run (rewrite_congruence_run c c' p d d' h he)

/-- the congruence for definitions that are only equivalent in the states the run can be in: `I` is any
    invariant that holds after `add_module` and is kept by every attempt (of any item); it is enough that
    the two definitions give the same attempt at `p` in the states of `I` in which `p` still holds `d` -/
theorem rewrite_congruence_on (c c' : Case) (p : Path) (d d' : G.Item) (h : ReplacedDef c c' p d d')
    (hname : d'.name = d.name) (hvis : d'.vis = d.vis) (hk : isTypeDef d' = isTypeDef d)
    (I : State → Prop) (hI0 : ∀ s0, c.initialState = .ok s0 → I s0)
    (hI : ∀ s q, I s → I (attemptItem s q).1)
    (hE : ∀ s, I s → ∀ i, s.reg.get p = some i → i.state = .unres d → attemptDef s p d' = attemptDef s p d) :
    c'.o2 = c.o2 ∧ c'.o3 = c.o3 :=
  obs_of_run (run_replaced_on c c' p d d' h hname hvis hk I hI0 hI hE)

/-- the congruence along an accepted run: it is enough that the attempt on `d'` repeats every *retry* of
    the attempt on `d` and repeats a *success* whose value has a property `K` that the final value of the
    item has (a failed attempt of `d` cannot occur in an accepted run) -/
theorem rewrite_congruence_accepted (c c' : Case) (p : Path) (d d' : G.Item) (h : ReplacedDef c c' p d d')
    (hname : d'.name = d.name) (hvis : d'.vis = d.vis) (hk : isTypeDef d' = isTypeDef d)
    (K : Resolved → Prop)
    (hretry : ∀ s s1, attemptDef s p d = (s1, .defer) → attemptDef s p d' = (s1, .defer))
    (hok : ∀ s s1 r, attemptDef s p d = (s1, .ok r) → K r → attemptDef s p d' = (s1, .ok r))
    (sf : State) (hrun : c.run = .ok sf)
    (hK : ∀ i r, sf.reg.get p = some i → i.state = .res r → K r) :
    c'.o2 = c.o2 ∧ c'.o3 = c.o3 :=
  obs_of_run (run_replaced_ok c c' p d d' h hname hvis hk K (fun s => ⟨hretry s, hok s⟩) sf hrun hK)

/-! ## (a) writing the value an enum case would get implicitly

`implicitValue pre` is the value the case after the cases `pre` gets when none is written: one more than
its predecessor (written or not), `0` for the first case, nothing after `isize::MAX`.  It depends on the
preceding cases only. -/

theorem implicit_enum_value_equiv (d : G.Item) (ed : G.EnumDef) (pre post : List G.EnumStmt) (st : G.EnumStmt)
    (v : Int) (hd : d.inner = .enum ed) (hs : ed.stmts = pre ++ st :: post) (he : st.expr = none)
    (hv : implicitValue pre = some v) : BuildEquiv d (enumRewrite d ed pre post st v) := by
  refine ⟨rfl, rfl, ?_⟩
  rw [hd]
  simp only [enumRewrite]
  intro s p
  exact buildEnum_rewrite s p ed pre post st v hs he hv

/-- **an enum value equal to the implicit one, end to end**: for every case `c`, if `c'` is `c` with the
    case `st` (no value written) of the enum `d` rewritten to `st = v`, `v` the implicit value, then the
    two cases have the same O2 and the same O3 -/
theorem implicit_enum_value_e2e (c c' : Case) (p : Path) (d : G.Item) (ed : G.EnumDef)
    (pre post : List G.EnumStmt) (st : G.EnumStmt) (v : Int)
    (hd : d.inner = .enum ed) (hs : ed.stmts = pre ++ st :: post) (he : st.expr = none)
    (hv : implicitValue pre = some v)
    (h : ReplacedDef c c' p d (enumRewrite d ed pre post st v)) :
    c'.o2 = c.o2 ∧ c'.o3 = c.o3 :=
  rewrite_congruence c c' p d _ h (implicit_enum_value_equiv d ed pre post st v hd hs he hv)

/-! ## (d) giving a virtual function the index it already has

`slotsAfter 0 fpre` is the slot the function after the functions `fpre` of a vftable block takes: it
depends on the `#[index]` attributes of `fpre` only. -/

theorem natural_index_equiv (d : G.Item) (td : G.TypeDef) (spre spost : List G.Stmt) (attrs : List G.Attr)
    (fpre fpost : List G.Func) (f : G.Func) (hd : d.inner = .type td)
    (hs : td.stmts = spre ++ ⟨.vftable (fpre ++ f :: fpost), attrs⟩ :: spost) (hf : C04.declIndex f = none) :
    BuildEquiv d (indexRewrite d td spre spost attrs fpre fpost f) := by
  refine ⟨rfl, rfl, ?_⟩
  rw [hd]
  simp only [indexRewrite]
  intro s p
  exact buildType_index_rewrite s p d.vis td spre spost attrs fpre fpost f hs hf

/-- **a natural index, end to end**: for every case `c`, if `c'` is `c` with the virtual function `f` (no
    index written) of the vftable block of the type `d` rewritten to `#[index(k)] f`, `k` the slot it takes
    anyway, then the two cases have the same O2 and the same O3 -/
theorem natural_index_e2e (c c' : Case) (p : Path) (d : G.Item) (td : G.TypeDef) (spre spost : List G.Stmt)
    (attrs : List G.Attr) (fpre fpost : List G.Func) (f : G.Func)
    (hd : d.inner = .type td) (hs : td.stmts = spre ++ ⟨.vftable (fpre ++ f :: fpost), attrs⟩ :: spost)
    (hf : C04.declIndex f = none)
    (h : ReplacedDef c c' p d (indexRewrite d td spre spost attrs fpre fpost f)) :
    c'.o2 = c.o2 ∧ c'.o3 = c.o3 :=
  rewrite_congruence c c' p d _ h (natural_index_equiv d td spre spost attrs fpre fpost f hd hs hf)

/-! ## (b) adding `#[size(N)]` equal to the natural size

The two definitions are *not* `BuildEquiv`: in a state in which the layout of the type comes out
differently (or fails after the placement) the declared size makes a difference.  Along an accepted run
it does not: a retry of the type stays a retry (the declared size is looked at after the last point
where the build can ask to be retried), a failure cannot occur, and the one successful attempt gives the
value found in the final registry, whose size is `N`. -/

/-- **a natural size, end to end**: for every accepted case `c` in which the type at `p` (without a
    `#[size]` attribute) resolves to size `N`, the case `c'` with `#[size(N)]` added to that type is accepted
    too and has the same O2 and the same O3 -/
theorem natural_size_e2e (c c' : Case) (p : Path) (d : G.Item) (td : G.TypeDef) (N : Nat)
    (hd : d.inner = .type td) (hns : NoSizeAttr td)
    (h : ReplacedDef c c' p d (sizeRewrite d td N))
    (sf : State) (hrun : c.run = .ok sf)
    (hsz : ∃ i r, sf.reg.get p = some i ∧ i.state = .res r ∧ r.size = N) :
    c'.o2 = c.o2 ∧ c'.o3 = c.o3 :=
  obs_of_run (natural_size_run c c' p d td N hd hns h sf hrun hsz)

/-- … in fact the same run, up to the definition stored in the registry entry while it is unresolved -/
theorem natural_size_e2e_run (c c' : Case) (p : Path) (d : G.Item) (td : G.TypeDef) (N : Nat)
    (hd : d.inner = .type td) (hns : NoSizeAttr td)
    (h : ReplacedDef c c' p d (sizeRewrite d td N))
    (sf : State) (hrun : c.run = .ok sf)
    (hsz : ∃ i r, sf.reg.get p = some i ∧ i.state = .res r ∧ r.size = N) :
    c'.run = mapO (swapS p d (sizeRewrite d td N)) c.run :=
  natural_size_run c c' p d td N hd hns h sf hrun hsz

/-- `NoSizeAttr`, syntactically -/
theorem noSizeAttr_of_no_size_attribute (td : G.TypeDef) (h : ∀ a ∈ td.attrs, ∀ args, a ≠ .fn "size" args) :
    NoSizeAttr td :=
  noSizeAttr_of_attrs td h

/-! ## (c) writing the address a field would get anyway

Again not `BuildEquiv`, and here the side condition cannot be read off the final registry alone: an
attempt of the type that has to be *retried* (a later field is not resolved yet) already runs the
placement loop over the fields before the rewritten one, and with the address written an offset
different from `A` *in that state* is an error ("attempted to insert padding, but overlapped with
existing region") or inserts padding.  The offset in an earlier state can differ from the final one,
because name lookup is not stable while generated vftable items are still being registered (a field type
`FooVftable` can resolve to `b::FooVftable` in round 1 and to the generated `a::FooVftable` in round 2):
`explicit_address_final_state_refuted` at the end of this file is a kernel-checked witness.
So the side condition is about every state the run can visit: `naturalOffset s p vis td k` is the offset at
which the placement loop arrives at the `k`-th pending field in state `s`, if it gets there. -/

/-- **an explicit address equal to the natural offset, end to end**: for every case `c`, if `c'` is `c` with
    `#[address(A)]` added to a field (the `k`-th field statement, no address written) of the type at `p`,
    and in every state the resolution of `c` can visit (`Visited c`) in which the type is still unresolved
    the placement loop, when it gets to that field, is at offset `A`, then the two cases have the same O2
    and the same O3 -/
theorem explicit_address_e2e (c c' : Case) (p : Path) (d : G.Item) (td : G.TypeDef) (spre spost : List G.Stmt)
    (st : G.Stmt) (fvis : G.Vis) (name : String) (ty : G.Ty) (A : Nat)
    (hd : d.inner = .type td) (hs : td.stmts = spre ++ st :: spost) (hf : st.field = .field fvis name ty)
    (hna : NoAddrAttr st) (h : ReplacedDef c c' p d (addrRewrite d td spre spost st A))
    (hoff : ∀ s, Visited c s → ∀ i, s.reg.get p = some i → i.state = .unres d →
      ∀ a, naturalOffset s p d.vis td (spre.filter C01.isFieldStmt).length = some a → a = A) :
    c'.o2 = c.o2 ∧ c'.o3 = c.o3 :=
  obs_of_run (run_replaced_type c c' p d td _ hd h (fun s hv i hg hst =>
    buildType_addr s p d.vis td spre spost st fvis name ty A hs hf hna (hoff s hv i hg hst)))

/-- the same at the level of one attempt: in a state in which the natural offset of the field, if
    determined, is `A`, `type_definition::build` gives the same answer and the same new state -/
theorem explicit_address_build (s : State) (path : Path) (vis : Vis) (td : G.TypeDef) (spre spost : List G.Stmt)
    (st : G.Stmt) (fvis : G.Vis) (name : String) (ty : G.Ty) (A : Nat)
    (hs : td.stmts = spre ++ st :: spost) (hf : st.field = .field fvis name ty) (hna : NoAddrAttr st)
    (hoff : ∀ a, naturalOffset s path vis td (spre.filter C01.isFieldStmt).length = some a → a = A) :
    buildType s path vis { td with stmts := spre ++ withAddr st A :: spost } = buildType s path vis td :=
  buildType_addr s path vis td spre spost st fvis name ty A hs hf hna hoff

/-- `NoAddrAttr`, syntactically -/
theorem noAddrAttr_of_no_address_attribute (st : G.Stmt) (h : ∀ a ∈ st.attrs, ∀ args, a ≠ .fn "address" args) :
    NoAddrAttr st :=
  noAddrAttr_of_attrs st h

/-! ## (e) reordering the definitions of a module

`ReorderedDefs c c'` – case `c'` is case `c` with the `defs` list of one AST module permuted.  The two
initial states differ in the order of the registry entries and of the modules' definition paths
(`PermS`); every attempt keeps that relation (lookups are by key, the worklist of a round is sorted,
`Lemmas/C20.lean: unresolved_order_lem`), and the backend lists a module's items sorted by path
(`reorder_definitions`), so the files are equal.  `add_module` itself is order independent because the
only way the definitions loop can fail is the one message "item is defined more than once". -/

/-- **reordering the definitions of a module, end to end**: the two cases have the same outcome – the same
    failure, or two accepted states that differ only in the order of registry entries and definition paths
    (`PermS`) – hence the same O2 and the same O3 -/
theorem reorder_definitions_e2e (c c' : Case) (h : ReorderedDefs c c') : c'.o2 = c.o2 ∧ c'.o3 = c.o3 := by
  have hk : ∀ s, c.run = .ok s → WK s.reg := fun s hs => WK.run c s hs
  refine ⟨outcomeS_perm (run_reordered c c' h) hk, ?_⟩
  rw [o3_eq, o3_eq]
  exact o3Of_perm (run_reordered c c' h) hk

theorem reorder_definitions_run (c c' : Case) (h : ReorderedDefs c c') : RelO PermS c.run c'.run :=
  run_reordered c c' h

/-! ## non-vacuity: the enum rewrite on a concrete case

`C09.Example.case` (pointer width 8, modules `a` and `b`, accepted after three rounds) contains
`pub enum Kind: u32 { X = 0, Y }`.  The rewritten case spells the second case `Y = 1`. -/
namespace Example
open C09.Example

/-- `pub enum Kind: u32 { X = 0, Y }`, the first definition of module `a` -/
def kindDef : G.EnumDef :=
  { ty := .ident "u32",
    stmts := [{ name := "X", expr := some (.int 0), attrs := [] }, { name := "Y", expr := none, attrs := [] }],
    attrs := [] }

def kind : G.Item := { vis := .pub, name := "Kind", inner := .enum kindDef }

def caseX : G.EnumStmt := { name := "X", expr := some (.int 0), attrs := [] }
def caseY : G.EnumStmt := { name := "Y", expr := none, attrs := [] }

/-- `pub enum Kind: u32 { X = 0, Y = 1 }` -/
def kind' : G.Item := enumRewrite kind kindDef [caseX] [] caseY 1

/-- the rewritten definition, written out -/
def kindDef' : G.EnumDef :=
  { ty := .ident "u32",
    stmts := [{ name := "X", expr := some (.int 0), attrs := [] }, { name := "Y", expr := some (.int 1), attrs := [] }],
    attrs := [] }

example : kind'.inner = .enum kindDef' := rfl

example : kind' ≠ kind := by decide

def case' : Case :=
  { case with modules := case.modules.set 0 (.ast ["a"] "a.pyxis" { modA with defs := modA.defs.set 0 kind' }) }

theorem replaced : ReplacedDef case case' ["a", "Kind"] kind kind' :=
  ⟨0, 0, ["a"], "a.pyxis", modA, rfl, rfl, rfl, rfl⟩

theorem implicit_one : implicitValue [caseX] = some 1 := by
  decide

/-- the two descriptions give the same registry observation and the same files … -/
theorem same_output : case'.o2 = case.o2 ∧ case'.o3 = case.o3 :=
  implicit_enum_value_e2e case case' ["a", "Kind"] kind kindDef _ [] caseY 1 rfl rfl rfl implicit_one replaced

/-- … and both are accepted (the original one by `C09.Example.run_ok`) -/
theorem both_accepted : C09.isOkB case.run = true ∧ C09.isOkB case'.run = true := by
  refine ⟨run_ok, ?_⟩
  have h := rewrite_congruence_run case case' ["a", "Kind"] kind kind' replaced
    (implicit_enum_value_equiv kind kindDef _ [] caseY 1 rfl rfl rfl implicit_one)
  obtain ⟨s, hs⟩ := (C09.isOkB_iff _).mp run_ok
  rw [h, hs]
  rfl

/-! the size rewrite on the same case: `pub type B { pub a: A, pub n: u64 }` resolves to 24 bytes (it needs
`A` = 16 and `Kind` = 4 from the other module, and three rounds); `#[size(24)]` on it changes nothing -/

/-- the side condition of `natural_size_e2e`, in checkable form -/
theorem size_side_condition (r : Registry) (p : Path) (N : Nat)
    (h : (r.get p).bind (fun i => i.resolved?.map (·.size)) = some N) :
    ∃ i res, r.get p = some i ∧ i.state = .res res ∧ res.size = N := by
  cases hg : r.get p with
  | none => rw [hg] at h; cases h
  | some i =>
    rw [hg] at h
    simp only [Option.bind_some, ItemDef.resolved?] at h
    cases hs : i.state with
    | unres d => rw [hs] at h; cases h
    | res res =>
      rw [hs] at h
      simp only [Option.map_some, Option.some.injEq] at h
      exact ⟨i, res, rfl, hs, h⟩

def typeB : G.TypeDef :=
  { stmts := [{ field := .field .pub "a" (.ident "A"), attrs := [] },
              { field := .field .pub "n" (.ident "u64"), attrs := [] }],
    attrs := [] }

def itemB : G.Item := { vis := .pub, name := "B", inner := .type typeB }

/-- `#[size(24)] pub type B { .. }` -/
def itemB' : G.Item := sizeRewrite itemB typeB 24

def caseSized : Case :=
  { case with modules := case.modules.set 1 (.ast ["b"] "b.pyxis" { modB with defs := modB.defs.set 0 itemB' }) }

theorem replacedB : ReplacedDef case caseSized ["b", "B"] itemB itemB' :=
  ⟨1, 0, ["b"], "b.pyxis", modB, rfl, rfl, rfl, rfl⟩

/-- the modules after the extern-value pass -/
def msFin : List (Path × Mod) :=
  match Res.mapM' (xvalPass s3.reg) s3.modules with | .ok ms => ms | _ => []

/-- the final state of the accepted build -/
def sFin : State := { s3 with modules := msFin }

/-- the finite facts about the run, proved by ONE evaluation, which runs the rounds once for both: it ends in
    `sFin`, where `b::B` has 24 bytes -/
theorem run_facts : C09.runK case = .ok sFin ∧
    (sFin.reg.get ["b", "B"]).bind (fun i => i.resolved?.map (·.size)) = some 24 := by decide +kernel

theorem run_eq : case.run = .ok sFin := C09.run_of_runK run_facts.1

theorem same_output_sized : caseSized.o2 = case.o2 ∧ caseSized.o3 = case.o3 :=
  natural_size_e2e case caseSized ["b", "B"] itemB typeB 24 rfl
    (noSizeAttr_of_attrs typeB (fun a ha => by cases ha)) replacedB sFin run_eq
    (size_side_condition sFin.reg ["b", "B"] 24 run_facts.2)

/-! the definitions of module `a` in the other order (`A` before `Kind`) -/

def caseRev : Case :=
  { case with modules := case.modules.set 0 (.ast ["a"] "a.pyxis" { modA with defs := modA.defs.reverse }) }

theorem reordered : ReorderedDefs case caseRev :=
  ⟨0, ["a"], "a.pyxis", modA, modA.defs.reverse, rfl, List.reverse_perm _, rfl⟩

example : caseRev.o2 = case.o2 ∧ caseRev.o3 = case.o3 := reorder_definitions_e2e case caseRev reordered

end Example

/-! ## (c) the side condition cannot be weakened to the final state: a kernel-checked witness

Four modules, pointer width 8:

```text
// d.pyxis                 // a.pyxis                          // b.pyxis
pub type Late { pub v: u32 }   pub type Foo { vftable { pub fn f(&self); } }   pub type FooVftable { pub x: u64, pub y: u64 }

// c.pyxis
use b::FooVftable; use a::FooVftable; use d::Late;
pub type T { pub x: FooVftable, pub y: u32, pub z: Late }
```

with the priority `b::FooVftable, c::T, a::Foo, d::Late`.  In round 1 `T` is attempted when the generated
`a::FooVftable` does not exist yet: `x: FooVftable` is `b::FooVftable` (16 bytes), `y` would be at offset 16,
and `z: Late` is not resolved, so `T` is retried.  `a::Foo` then registers `a::FooVftable` (8 bytes), which the
second `use` makes the meaning of `FooVftable` in `c`; in round 2 `T` resolves with `y` at offset 8.  The case is
accepted, and in its final state the natural offset of `y` is 8.  With `#[address(8)] pub y: u32` the first
attempt of `T` fails instead of being retried ("attempted to insert padding, but overlapped with existing
region"): the rewritten case is rejected.  So "the field is at `A` in the accepted build" does not make
`#[address(A)]` redundant; `explicit_address_e2e` asks for the offset in every visited state. -/
namespace Witness

def modD : G.Module :=
  { defs := [{ vis := .pub, name := "Late",
               inner := .type { stmts := [{ field := .field .pub "v" (.ident "u32"), attrs := [] }], attrs := [] } }] }

def fnF : G.Func := { vis := .pub, name := "f", attrs := [], args := [.constSelf], ret := none }

def modA : G.Module :=
  { defs := [{ vis := .pub, name := "Foo",
               inner := .type { stmts := [{ field := .vftable [fnF], attrs := [] }], attrs := [] } }] }

def stX : G.Stmt := { field := .field .pub "x" (.ident "FooVftable"), attrs := [] }
def stY : G.Stmt := { field := .field .pub "y" (.ident "u32"), attrs := [] }
def stZ : G.Stmt := { field := .field .pub "z" (.ident "Late"), attrs := [] }

def tdT : G.TypeDef := { stmts := [stX, stY, stZ], attrs := [] }

def itemT : G.Item := { vis := .pub, name := "T", inner := .type tdT }

def modC : G.Module :=
  { uses := [["b", "FooVftable"], ["a", "FooVftable"], ["d", "Late"]], defs := [itemT] }

def modB : G.Module :=
  { defs := [{ vis := .pub, name := "FooVftable",
               inner := .type { stmts := [{ field := .field .pub "x" (.ident "u64"), attrs := [] },
                                          { field := .field .pub "y" (.ident "u64"), attrs := [] }], attrs := [] } }] }

def case : Case :=
  { id := "c20-address", ps := 8, prio := [["b", "FooVftable"], ["c", "T"], ["a", "Foo"], ["d", "Late"]],
    modules := [.ast ["d"] "d.pyxis" modD, .ast ["a"] "a.pyxis" modA, .ast ["c"] "c.pyxis" modC,
                .ast ["b"] "b.pyxis" modB], extras := [] }

/-- `T` with `#[address(8)]` on `y` -/
def itemT' : G.Item := addrRewrite itemT tdT [stX] [stZ] stY 8

def case' : Case :=
  { case with modules := case.modules.set 2 (.ast ["c"] "c.pyxis" { modC with defs := modC.defs.set 0 itemT' }) }

theorem replaced : ReplacedDef case case' ["c", "T"] itemT itemT' :=
  ⟨2, 0, ["c"], "c.pyxis", modC, rfl, rfl, rfl, rfl⟩

theorem noAddr : NoAddrAttr stY := noAddrAttr_of_attrs stY (fun a ha => by cases ha)

def s0 : State := C12.stateOf case.initialState
def round1 : List Path := [["b", "FooVftable"], ["c", "T"], ["a", "Foo"], ["d", "Late"]]
def s1 : State := (runRound s0 round1).1
def s2 : State := (runRound s1 [["c", "T"]]).1

/-- the modules after the extern-value pass -/
def msFin : List (Path × Mod) :=
  match Res.mapM' (xvalPass s2.reg) s2.modules with | .ok ms => ms | _ => []

/-- the final state of the accepted build -/
def sFin : State := { s2 with modules := msFin }

/-- the finite facts about the accepted run, proved by ONE evaluation, which runs the rounds once for all of them -/
theorem run_facts : C09.runK case = .ok sFin ∧
    naturalOffset sFin ["c", "T"] itemT.vis tdT ([stX].filter C01.isFieldStmt).length = some 8 ∧
    naturalOffset (attemptItem s0 ["b", "FooVftable"]).1 ["c", "T"] itemT.vis tdT
      ([stX].filter C01.isFieldStmt).length = some 16 := by decide +kernel

theorem run_ok : case.run = .ok sFin := C09.run_of_runK run_facts.1

/-- in the final state the placement loop reaches `y` (pending field 1) at offset 8 … -/
theorem final_offset : naturalOffset sFin ["c", "T"] itemT.vis tdT ([stX].filter C01.isFieldStmt).length = some 8 :=
  run_facts.2.1

/-- … but in the state in which `T` is first attempted (after `b::FooVftable`), at offset 16 -/
theorem first_offset : naturalOffset (attemptItem s0 ["b", "FooVftable"]).1 ["c", "T"] itemT.vis tdT
    ([stX].filter C01.isFieldStmt).length = some 16 :=
  run_facts.2.2

theorem run_err : case'.run = .err "attempted to insert padding, but overlapped with existing region" :=
  C09.run_of_runK (by decide +kernel)

/-- the two cases do not have the same output: one is accepted, the other is rejected -/
theorem outputs_differ : case'.o3 ≠ case.o3 := by
  rw [o3_eq, o3_eq, run_ok, run_err]
  intro h
  simp [o3Of, Sexp.mk] at h

end Witness

/-- **refuted**: the statement of `explicit_address_e2e` with the side condition weakened to "the case is
    accepted and in its final state the field is at offset `A`" is false -/
theorem explicit_address_final_state_refuted :
    ¬ (∀ (c c' : Case) (p : Path) (d : G.Item) (td : G.TypeDef) (spre spost : List G.Stmt) (st : G.Stmt)
        (fvis : G.Vis) (name : String) (ty : G.Ty) (A : Nat) (sf : State),
        d.inner = .type td → td.stmts = spre ++ st :: spost → st.field = .field fvis name ty → NoAddrAttr st →
        ReplacedDef c c' p d (addrRewrite d td spre spost st A) → c.run = .ok sf →
        naturalOffset sf p d.vis td (spre.filter C01.isFieldStmt).length = some A →
        c'.o3 = c.o3) := by
  intro h
  exact Witness.outputs_differ
    (h Witness.case Witness.case' ["c", "T"] Witness.itemT Witness.tdT [Witness.stX] [Witness.stZ] Witness.stY
      .pub "y" (.ident "u32") 8 Witness.sFin rfl rfl rfl Witness.noAddr Witness.replaced Witness.run_ok
      Witness.final_offset)

end PyxisVerif.C20
