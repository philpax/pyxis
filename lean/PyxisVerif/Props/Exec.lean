import PyxisVerif.Lemmas.CaseLift
/-!
# Run-time clauses of C04, C05 and C07: what the emitted wrappers *do*

`Props/C04.lean`, `Props/C05.lean`, `Props/C07.lean` cover the shape of the emitted wrappers.  This
file gives the three shapes a (modelled) operational meaning – `Exec.execMethod`, `Exec.execVftable`
in `Lemmas/Exec.lean`, specification part – and connects it to what the builder produces.  What is
observed is the list of calls a wrapper performs (target and actual arguments); the value returned is the
callee's by construction of the three shapes (each *is* the call expression) and is not modelled.

Per item (the hypotheses are those of the per-item theorems of these files):

* `vfunc_wrapper_calls_declared_slot` (C04) – the wrapper of the virtual function the description puts in
  slot `p` performs exactly one call, through the word at `vt + p * ps` of the table the accessor returns,
  with the object's address where the receiver is declared and the argument values in order;
* `address_wrapper_calls_declared_address` (C05) – exactly one call to the declared address;
* `forwarder_calls_original_on_subobject` (C07) – a re-exposed base function is the original run on
  `self + offset(base field)`, and that offset is the one C01 assigns (`forwarder_on_built_type`);
* `own_accessor_reads_pointer`, `inherited_accessor_reads_base_pointer` (C06) – the accessor reads the own
  pointer at offset 0, or is the base's accessor on the base sub-object.

For whole accepted types (`built_type_*`, from one hypothesis `buildType … = (s1, .ok r)`) and for the final
registry of every accepted case (`case_*`, from `c.run = .ok s`, by the provenance invariant `CaseLift.case_type_origin`).

Two hypotheses recur that are *not* consequences of acceptance by pyxis; they say that rustc accepts
the emitted items at all: `DistinctFields` (no two fields of an emitted struct share a name, E0124; for a
generated vftable struct: `(out.map (·.name)).Nodup`) and `DistinctMethods` (no two methods of an emitted
`impl` block share a name, E0592).  The registry `reg` in which the wrappers run is any extension
(`C02.Ext`) of the registry in which the type was built: resolved items never change (`execMethod_mono`).
`fieldOffsets_compiled` shows that the field offsets the semantics uses (layouts recorded in the registry) are
the ones the recursive compiler judgement `C02.Lay` yields.

An inherited table (`D` without a pointer of its own): the wrapper reads the pointer of the base sub-object
(`self + o`) but passes `self as *const Self as _`, the address of the *derived* object, as receiver – the two
coincide exactly when the base supplying the table is at offset 0.
-/
namespace PyxisVerif.Exec
open Gen Layout

/-- **C05, run-time clause**: the wrapper built for an impl function declared with `#[address(A)]` performs
    exactly one call, to `A`, passing the declared parameters in declared order – the object's address for
    a receiver, the argument values for the others.  (Any type, any registry, any memory, any fuel.) -/
theorem address_wrapper_calls_declared_address (reg0 : Registry) (scope : List Path) (gf : G.Func) (sf : SFunc)
    (h : buildFunction reg0 scope false gf = .ok sf)
    (reg : Registry) (mem : Mem) (fuel : Nat) (ty : Path) (self : Nat) (args : List Nat) :
    ∃ a : Int, C05.declAddress gf = some a ∧ 0 ≤ a ∧ C05.specArgs reg0 scope gf.args = some sf.args ∧
      execMethod reg mem fuel ty sf self args =
        (passArgs sf.args self args).map fun as => [⟨a.toNat, as⟩] := by
  obtain ⟨⟨a, ha, h0, hb⟩, hargs, _⟩ := C05.built_shape reg0 scope gf sf h
  exact ⟨a, ha, h0, hargs, execMethod_addr reg mem fuel ty sf self args a.toNat hb⟩

/-- … with a receiver declared first: one call to `A` with the object's address followed by the arguments -/
theorem address_wrapper_with_receiver (reg0 : Registry) (scope : List Path) (gf : G.Func) (sf : SFunc)
    (h : buildFunction reg0 scope false gf = .ok sf)
    (recv : G.Arg) (named : List G.Arg) (hg : gf.args = recv :: named) (hr : isRecv recv = true)
    (hn : ∀ x ∈ named, isRecv x = false)
    (reg : Registry) (mem : Mem) (fuel : Nat) (ty : Path) (self : Nat) (args : List Nat)
    (hl : args.length = named.length) :
    ∃ a : Int, C05.declAddress gf = some a ∧ 0 ≤ a ∧
      execMethod reg mem fuel ty sf self args = some [⟨a.toNat, self :: args⟩] := by
  obtain ⟨a, ha, h0, hargs, he⟩ := address_wrapper_calls_declared_address reg0 scope gf sf h reg mem fuel ty self args
  refine ⟨a, ha, h0, ?_⟩
  rw [he, passArgs_of_decl_recv sf.args gf.args (specArgs_isSelf reg0 scope _ _ hargs) recv named hg hr hn self args hl]
  rfl

/-- … without a receiver: one call to `A` with the arguments -/
theorem address_wrapper_static (reg0 : Registry) (scope : List Path) (gf : G.Func) (sf : SFunc)
    (h : buildFunction reg0 scope false gf = .ok sf) (hn : ∀ x ∈ gf.args, isRecv x = false)
    (reg : Registry) (mem : Mem) (fuel : Nat) (ty : Path) (self : Nat) (args : List Nat)
    (hl : args.length = gf.args.length) :
    ∃ a : Int, C05.declAddress gf = some a ∧ 0 ≤ a ∧
      execMethod reg mem fuel ty sf self args = some [⟨a.toNat, args⟩] := by
  obtain ⟨a, ha, h0, hargs, he⟩ := address_wrapper_calls_declared_address reg0 scope gf sf h reg mem fuel ty self args
  refine ⟨a, ha, h0, ?_⟩
  rw [he, passArgs_of_decl_static sf.args gf.args (specArgs_isSelf reg0 scope _ _ hargs) hn self args hl]
  rfl

theorem built_args (reg0 : Registry) (scope : List Path) (isV : Bool) (gf : G.Func) (sf : SFunc)
    (h : buildFunction reg0 scope isV gf = .ok sf) : C05.specArgs reg0 scope gf.args = some sf.args := by
  obtain ⟨_, _, _, args, _, _, _, _, hargs, _, rfl⟩ := buildFunction_inv h
  exact C05.specArgs_of_mapM reg0 scope gf.args args hargs

/-- **C04, run-time clause**.  A vftable block `gfns` is accepted (`convertVfuncs`, giving the table `out`)
    and the description puts its `j`-th function `gf` in slot `p` (`C04.specPositions`: written index, else
    predecessor + 1).  In any registry `reg` that holds the generated vftable struct under its path and a type
    `ty` whose vftable is that table (`v.fns = out`, accessor return type `*const <that struct>`), on an object
    at `self` whose accessor yields `vt`: the wrapper of `gf` (the function value in slot `p`, named like `gf`)
    performs exactly one call, to the word stored at `vt + p * ps`, passing the declared parameters in
    declared order – the object's address for the receiver, the argument values for the others.

    The slot is found by *name* in the emitted struct and placed by the modelled compiler; `hnd` is
    rustc's demand that the fields of that struct have distinct names. -/
theorem vfunc_wrapper_calls_declared_slot
    (reg0 : Registry) (scope : List Path) (size : Option Nat) (gfns : List G.Func) (out : List SFunc)
    (hconv : convertVfuncs reg0 scope size gfns = .ok out)
    (owner : Path) (vis : Vis) (item : ItemDef) (hitem : buildVftableItem reg0 owner vis out = some item)
    (pos : List Nat) (hpos : C04.specPositions 0 (gfns.map C04.declIndex) = some pos)
    (j : Nat) (gf : G.Func) (p : Nat) (hj : gfns[j]? = some gf) (hp : pos[j]? = some p)
    (reg : Registry) (hps : 0 < reg.ps) (hget : reg.get item.path = some item)
    (ty : Path) (td : TypeDefn) (v : Vft) (hty : typeDefn? reg ty = some td) (hv : td.vft = some v)
    (hfns : v.fns = out) (hvty : v.ty = .cptr (.raw item.path))
    (hnd : (out.map (·.name)).Nodup)
    (mem : Mem) (fuel : Nat) (self vt : Nat) (args : List Nat)
    (hacc : execVftable reg mem fuel ty self = some vt) :
    ∃ sf, out[p]? = some sf ∧ sf.name = gf.name ∧ C05.specArgs reg0 scope gf.args = some sf.args ∧
      execMethod reg mem fuel ty sf self args =
        (passArgs sf.args self args).map fun as => [⟨mem (vt + p * reg.ps), as⟩] := by
  obtain ⟨sf, hsf, hout, hbody, hname⟩ := vfunc_built reg0 scope size gfns out hconv pos hpos j gf p hj hp
  obtain ⟨vtd, hstate, hregions, _⟩ := C04.vftable_item reg0 owner vis out item hitem
  refine ⟨sf, hout, hname, built_args reg0 scope true gf sf hsf, ?_⟩
  have hvtd : typeDefn? reg item.path = some vtd := typeDefn?_of_get reg _ item _ vtd hget hstate rfl
  have hpk : vtd.packed = false := by rw [(CaseLift.vftable_item_td reg0 owner vis out item _ vtd hitem hstate rfl).1]
  exact vfunc_calls_slot reg mem fuel ty sf self args td vtd v item.path owner p vt hty hv hvty hvtd
    (by rw [hfns]; exact hregions) hpk (by rw [hfns]; exact hout) hbody (by rw [hfns]; exact hnd) hps hacc

/-- … with the receiver declared first (the usual shape): one call through slot `p`, the object's address
    followed by the arguments -/
theorem vfunc_wrapper_with_receiver
    (reg0 : Registry) (scope : List Path) (size : Option Nat) (gfns : List G.Func) (out : List SFunc)
    (hconv : convertVfuncs reg0 scope size gfns = .ok out)
    (owner : Path) (vis : Vis) (item : ItemDef) (hitem : buildVftableItem reg0 owner vis out = some item)
    (pos : List Nat) (hpos : C04.specPositions 0 (gfns.map C04.declIndex) = some pos)
    (j : Nat) (gf : G.Func) (p : Nat) (hj : gfns[j]? = some gf) (hp : pos[j]? = some p)
    (recv : G.Arg) (named : List G.Arg) (hg : gf.args = recv :: named) (hr : isRecv recv = true)
    (hn : ∀ x ∈ named, isRecv x = false)
    (reg : Registry) (hps : 0 < reg.ps) (hget : reg.get item.path = some item)
    (ty : Path) (td : TypeDefn) (v : Vft) (hty : typeDefn? reg ty = some td) (hv : td.vft = some v)
    (hfns : v.fns = out) (hvty : v.ty = .cptr (.raw item.path))
    (hnd : (out.map (·.name)).Nodup)
    (mem : Mem) (fuel : Nat) (self vt : Nat) (args : List Nat) (hl : args.length = named.length)
    (hacc : execVftable reg mem fuel ty self = some vt) :
    ∃ sf, out[p]? = some sf ∧ sf.name = gf.name ∧
      execMethod reg mem fuel ty sf self args = some [⟨mem (vt + p * reg.ps), self :: args⟩] := by
  obtain ⟨sf, hout, hname, hargs, he⟩ := vfunc_wrapper_calls_declared_slot reg0 scope size gfns out hconv owner vis item
    hitem pos hpos j gf p hj hp reg hps hget ty td v hty hv hfns hvty hnd mem fuel self vt args hacc
  refine ⟨sf, hout, hname, ?_⟩
  rw [he, passArgs_of_decl_recv sf.args gf.args (specArgs_isSelf reg0 scope _ _ hargs) recv named hg hr hn self args hl]
  rfl

/-! ## C06: the accessor -/

/-- **own pointer**: a type that declares a vftable block and has no base supplying one
    (`C06.own_pointer`) went through the layout core with its pointer region (`hres`, `hn`: what
    `resolve_regions` does).  Its accessor reads one word, at the object's address: the pointer is the first
    field, at offset 0 for the modelled compiler. -/
theorem own_accessor_reads_pointer (s s1 : State) (owner : Path) (vis : Vis) (fb : Option Region) (fns : List SFunc)
    (v : Option Vft) (ptr : Option Region) (vpath : Path) (hp : vftablePath owner = some vpath)
    (h : buildVftable s owner vis fb (some fns) = (s1, .ok (v, ptr)))
    (hb : baseVftable s1.reg fb = .ok none)
    (hprims : C02.PrimsOk s1.reg)
    (pending : List (Option Nat × Region)) (target : Option Nat) (placed : List (Placed Region)) (size : Nat)
    (td : TypeDefn)
    (hres : resolve (ptr.map (toPField s1.reg none)) (pending.map fun p => toPField s1.reg p.1 p.2) target
      = .ok (placed, size))
    (hn : nameRegions s1.reg 0 placed = .ok td.regions) (hvft : td.vft = v)
    (reg : Registry) (he : C02.Ext s1.reg reg) (ty : Path) (hty : typeDefn? reg ty = some td)
    (mem : Mem) (fuel : Nat) (self : Nat) :
    td.regions.head? = some (C06.ownPointer vpath) ∧
    execVftable reg mem (fuel + 1) ty self = some (mem self) := by
  obtain ⟨hptr, hv⟩ := C06.own_pointer s s1 owner vis fb fns v ptr vpath hp h hb
  subst hptr
  obtain ⟨ho, hhead⟩ := own_pointer_offset s1.reg hprims (C06.ownPointer vpath) pending target placed size td
    rfl rfl hres hn
  refine ⟨hhead, ?_⟩
  exact execVftable_own reg mem fuel ty self td _ 0 hty (by rw [hvft, hv]) rfl
    (fieldOffset_mono he td _ 0 ho)

/-- **inherited pointer**: a type without a vftable block whose first base has a vftable
    (`C06.inherited`) gets the base's table and no pointer; its accessor is the accessor of the base's type
    run on the base sub-object, which lies at the offset C01 assigns to the base field – 0 when the base is
    the first declared field and is written without an address (`declared_first`). -/
theorem inherited_accessor_reads_base_pointer (s s1 : State) (owner : Path) (vis : Vis) (fb : Option Region)
    (v : Vft) (ptr : Option Region)
    (h : buildVftable s owner vis fb none = (s1, .ok (some v, ptr)))
    (hprims : C02.PrimsOk s1.reg)
    (pending : List (Option Nat × Region)) (hfb : fb = (pending.map (·.2)).find? (·.isBase))
    (target align? : Option Nat) (placed : List (Placed Region)) (size a : Nat) (td : TypeDefn)
    (hres : resolve (ptr.map (toPField s1.reg none)) (pending.map fun p => toPField s1.reg p.1 p.2) target
      = .ok (placed, size))
    (hal : alignCheck s1.reg.ps td.packed align? placed size = .ok a)
    (hn : nameRegions s1.reg 0 placed = .ok td.regions) (hdf : DistinctFields td) (hvft : td.vft = some v)
    (reg : Registry) (he : C02.Ext s1.reg reg) (ty : Path) (hty : typeDefn? reg ty = some td) :
    ∃ rg bn bp btd bv o,
      fb = some rg ∧ rg.name = some bn ∧ rg.ty = .data (.raw bp) ∧ v.baseField = some bn ∧
      typeDefn? reg bp = some btd ∧ btd.vft = some bv ∧ v.fns = bv.fns ∧ v.ty = bv.ty ∧
      (o, rg) ∈ declaredOffsets none (pending.map fun p => toPField s1.reg p.1 p.2) ∧
      fieldOffset reg td bn = some o ∧
      ∀ (mem : Mem) (fuel self : Nat),
        execVftable reg mem (fuel + 1) ty self = execVftable reg mem fuel bp (self + o) := by
  obtain ⟨hs, hptr, hm⟩ := C06.inherited s s1 owner vis fb (some v) ptr h
  subst hs; subst hptr
  have hbv : ∃ bn bv, baseVftable s1.reg fb = .ok (some (bn, bv)) ∧
      v = { fns := bv.fns, baseField := some bn, ty := bv.ty } := by
    split at hm
    · next bn bv hb => exact ⟨bn, bv, hb, (Option.some.inj hm)⟩
    · cases hm
  obtain ⟨bn, bv, hbv, rfl⟩ := hbv
  obtain ⟨rg, bp, btd, o, h1, h2, h3, h4, h5, h6, h7, h8⟩ := accessor_through_base s1.reg hprims fb bn bv hbv pending hfb
    target align? placed size a td hres hal hn hdf _ hvft rfl reg he ty hty
  exact ⟨rg, bn, bp, btd, bv, o, h1, h2, h3, rfl, h4, h5, rfl, rfl, h6, h7, h8⟩

/-- **C07, run-time clause** (registry level).  `g` is one of the functions the builder re-exposes for base
    field `b` (`C07.specInject`, the functions `C07.addFunctions_spec` says are added; `fs` is what
    `injectBases` hands over: the base type's associated functions or its vftable's functions).  Then `g`
    forwards to a public function `f` of the base, and calling `g` on an object at `self` has exactly the
    effect of calling `f` on the base sub-object: the receiver the callee sees is `self + o`, `o` being where
    the modelled compiler puts field `b` in the emitted struct of the derived type. -/
theorem forwarder_calls_original_on_subobject (reg : Registry) (mem : Mem) (fuel : Nat)
    (D : Path) (td btd : TypeDefn) (b : String) (bp : Path) (o : Nat)
    (hD : typeDefn? reg D = some td) (hbp : fieldTypePath td b = some bp) (ho : fieldOffset reg td b = some o)
    (hB : typeDefn? reg bp = some btd) (hdm : DistinctMethods btd)
    (fs : List SFunc) (hfs : fs = btd.fns ∨ ∃ v, btd.vft = some v ∧ fs = v.fns)
    (used : List String) (g : SFunc) (hg : g ∈ C07.specInject b used fs) (self : Nat) (args : List Nat) :
    ∃ f ∈ fs, f.vis = .pub ∧ f.isInternal = false ∧ g.body = .field b f.name ∧
      execMethod reg mem (fuel + 1) D g self args = execMethod reg mem fuel bp f (self + o) args := by
  obtain ⟨f, hf, hpub, hint, hbody⟩ := C07.private_not_reexposed b used fs g hg
  exact ⟨f, hf, hpub, hint, hbody,
    execMethod_forward reg mem fuel D td btd b bp o hD hbp ho hB hdm fs hfs f g hf hint hbody self args⟩

/-- conversely, *every* public (non-internal) function of the base is re-exposed, under its own name or
    `<field>_<name>`, with the same parameters, and calling it is calling the original on the sub-object -/
theorem every_public_function_forwarded (reg : Registry) (mem : Mem) (fuel : Nat)
    (D : Path) (td btd : TypeDefn) (b : String) (bp : Path) (o : Nat)
    (hD : typeDefn? reg D = some td) (hbp : fieldTypePath td b = some bp) (ho : fieldOffset reg td b = some o)
    (hB : typeDefn? reg bp = some btd) (hdm : DistinctMethods btd)
    (fs : List SFunc) (hfs : fs = btd.fns ∨ ∃ v, btd.vft = some v ∧ fs = v.fns)
    (used : List String) (f : SFunc) (hf : f ∈ fs) (hpub : f.vis = .pub) (hint : f.isInternal = false) :
    ∃ g ∈ C07.specInject b used fs, (g.name = f.name ∨ g.name = C07.renamed b f.name) ∧ g.args = f.args ∧
      ∀ (self : Nat) (args : List Nat),
        execMethod reg mem (fuel + 1) D g self args = execMethod reg mem fuel bp f (self + o) args := by
  obtain ⟨g, hg, hbody, hname, hargs, _⟩ := C07.every_public_reexposed b used fs f hf hpub hint
  exact ⟨g, hg, hname, hargs,
    execMethod_forward reg mem fuel D td btd b bp o hD hbp ho hB hdm fs hfs f g hf hint hbody⟩

/-- **… and the offset is the one C01 assigns.**  The derived type went through the layout core in registry
    `reg0` (`hres`, `hal`, `hn`: placement, alignment block, naming – the decomposition `C01.buildType_layout`
    gives), `rg` is its declared field `b`, of the named type `bp`, and `(o, rg)` is C01's answer for it
    (`declaredOffsets` = the right-hand side of `C01.placed_at_spec`).  Then in every registry extending
    `reg0`, a forwarder to base field `b` runs the original with receiver `self + o`. -/
theorem forwarder_on_built_type (reg0 : Registry) (hprims : C02.PrimsOk reg0)
    (vptr : Option Region) (pending : List (Option Nat × Region)) (target align? : Option Nat)
    (placed : List (Placed Region)) (size a : Nat) (td : TypeDefn)
    (hres : resolve (vptr.map (toPField reg0 none)) (pending.map fun p => toPField reg0 p.1 p.2) target
      = .ok (placed, size))
    (hal : alignCheck reg0.ps td.packed align? placed size = .ok a)
    (hn : nameRegions reg0 0 placed = .ok td.regions) (hdf : DistinctFields td)
    (o : Nat) (rg : Region) (b : String) (bp : Path) (hb : rg.name = some b) (hrty : rg.ty = .data (.raw bp))
    (hmem : (o, rg) ∈ declaredOffsets (vptr.map (toPField reg0 none)) (pending.map fun p => toPField reg0 p.1 p.2))
    (reg : Registry) (he : C02.Ext reg0 reg) (D : Path) (hD : typeDefn? reg D = some td)
    (btd : TypeDefn) (hB : typeDefn? reg bp = some btd) (hdm : DistinctMethods btd)
    (fs : List SFunc) (hfs : fs = btd.fns ∨ ∃ v, btd.vft = some v ∧ fs = v.fns)
    (used : List String) (g : SFunc) (hg : g ∈ C07.specInject b used fs)
    (mem : Mem) (fuel : Nat) (self : Nat) (args : List Nat) :
    fieldOffset reg td b = some o ∧
    ∃ f ∈ fs, f.vis = .pub ∧ f.isInternal = false ∧ g.body = .field b f.name ∧
      execMethod reg mem (fuel + 1) D g self args = execMethod reg mem fuel bp f (self + o) args := by
  obtain ⟨hoff, hfind⟩ := fieldOffset_declared reg0 hprims vptr pending target align? placed size a td hres hal hn
    hdf o rg b hb hmem
  have hbp : fieldTypePath td b = some bp := fieldTypePath_of_find td b rg bp hfind hrty
  have ho := fieldOffset_mono he td b o hoff
  exact ⟨ho, forwarder_calls_original_on_subobject reg mem fuel D td btd b bp o hD hbp ho hB hdm fs hfs used g hg self args⟩

/-! ## whole accepted types

The theorems above take the hypotheses of the per-item theorems (`convertVfuncs`, `buildVftable`,
`resolve`, `alignCheck`, `nameRegions`, `specInject`, `buildFunction`).  `CaseLift.buildType_ok_inv` (in
`Lemmas/Build.lean`) decomposes an accepted `type_definition::build` into exactly these, so the run-time clauses
hold for every type the builder accepts; `s1` is the state right after the build (the generated vftable struct
added), `reg` any registry extending it – in particular the registry after the type's own result is stored
(`attempt_registers` in `Lemmas/Exec.lean`) and every later one. -/

/-- **C05 for a whole accepted type**: every function of the type's (merged) `impl` block has a wrapper among the
    type's associated functions, with the same name, and running it – on any object, in any registry – performs
    exactly one call to the declared address -/
theorem built_type_address_methods (s s1 : State) (path : Path) (vis : Vis) (d : G.TypeDef) (r : Resolved)
    (h : buildType s path vis d = (s1, .ok r)) :
    ∃ td module1, r.inner = .type td ∧ s1.moduleFor path = some module1 ∧
      ∀ im, module1.implFor path = some im → ∀ gf ∈ im.fns,
        ∃ sf ∈ td.fns, sf.name = gf.name ∧ ∃ a : Int, C05.declAddress gf = some a ∧ 0 ≤ a ∧
          C05.specArgs s1.reg module1.scope gf.args = some sf.args ∧
          ∀ (reg : Registry) (mem : Mem) (fuel : Nat) (ty : Path) (self : Nat) (args : List Nat),
            execMethod reg mem fuel ty sf self args =
              (passArgs sf.args self args).map fun as => [⟨a.toNat, as⟩] := by
  obtain ⟨td, module, module1, ta, sa, vptr, placed, acc1, acc2, hin, B⟩ := CaseLift.buildType_ok_inv h
  refine ⟨td, module1, hin, B.mod1, ?_⟩
  intro im him gf hgf
  have hacc2 := B.impl
  rw [him] at hacc2
  obtain ⟨built, hbuilt, hfns2⟩ := C05.impl_functions_all_present s1.reg module1.scope im acc1 acc2 hacc2
  obtain ⟨sf, hsf, hb⟩ := CaseLift.mapM'_mem_fwd _ _ _ hbuilt gf hgf
  obtain ⟨⟨a, ha, h0, hbody⟩, hargs, _, hname, _⟩ := C05.built_shape s1.reg module1.scope gf sf hb
  exact ⟨sf, by rw [B.fns, hfns2]; exact List.mem_append_right _ hsf, hname, a, ha, h0, hargs,
    fun reg mem fuel ty self args => execMethod_addr reg mem fuel ty sf self args a.toNat hbody⟩

/-- **C04 for a whole accepted type**: a type whose first statement is a vftable block `gfns` is accepted.  Then
    the block converts (`convertVfuncs`, table `out`), the type's table is `out` with the generated struct
    `<T>Vftable` – present in the registry, one function-pointer field per slot – as accessor return type, and in
    every later registry the wrapper of the function the description puts in slot `p` performs exactly one call
    through the word at `vt + p * ps` of the table `vt` the accessor yields. -/
theorem built_type_vfunc_wrappers (s s1 : State) (path : Path) (vis : Vis) (d : G.TypeDef) (r : Resolved)
    (h : buildType s path vis d = (s1, .ok r))
    (st : G.Stmt) (gfns : List G.Func) (hst : d.stmts[0]? = some st) (hfield : st.field = .vftable gfns)
    (vpath : Path) (hvp : vftablePath path = some vpath) :
    ∃ td module size out v, r.inner = .type td ∧ s.moduleFor path = some module ∧
      vftableSizeAttr st.attrs = .ok size ∧ convertVfuncs s.reg module.scope size gfns = .ok out ∧
      td.vft = some v ∧ v.fns = out ∧ v.ty = .cptr (.raw vpath) ∧
      typeDefn? s1.reg vpath = some { regions := out.map (functionToRegion path) } ∧
      ∀ (pos : List Nat), C04.specPositions 0 (gfns.map C04.declIndex) = some pos →
      ∀ (j : Nat) (gf : G.Func) (p : Nat), gfns[j]? = some gf → pos[j]? = some p →
      ∀ (reg : Registry), C02.Ext s1.reg reg → 0 < reg.ps → typeDefn? reg path = some td → (out.map (·.name)).Nodup →
      ∀ (mem : Mem) (fuel self vt : Nat) (args : List Nat), execVftable reg mem fuel path self = some vt →
        ∃ sf, out[p]? = some sf ∧ sf.name = gf.name ∧ C05.specArgs s.reg module.scope gf.args = some sf.args ∧
          execMethod reg mem fuel path sf self args =
            (passArgs sf.args self args).map fun as => [⟨mem (vt + p * reg.ps), as⟩] := by
  obtain ⟨td, module, module1, ta, sa, vptr, placed, acc1, acc2, hin, B⟩ := CaseLift.buildType_ok_inv h
  obtain ⟨size, out, hsize, hconv, _, _, _, hgen⟩ := B.block (C02.Ext.refl _) hst hfield
  obtain ⟨item, bf, hitem, rfl, hget, hv⟩ := hgen vpath hvp
  refine ⟨td, module, size, out, _, hin, B.mod, hsize, hconv, hv, rfl, rfl, CaseLift.vftable_item_typeDefn hitem hget, ?_⟩
  intro pos hpos j gf p hj hp reg he hps hty hnd mem fuel self vt args hacc
  obtain ⟨_, hstate, _⟩ := C04.vftable_item s.reg path vis out item hitem
  exact vfunc_wrapper_calls_declared_slot s.reg module.scope size gfns out hconv path vis item hitem pos hpos j gf p hj hp
    reg hps (he.res hget hstate) path td _ hty hv rfl rfl hnd mem fuel self vt args hacc

/-- **C07 for a whole accepted type**: every associated function of an accepted type is either an address-bound
    wrapper (from its `impl` block) or a forwarder of one of its `#[base]` fields `rg` (named `b`, of the resolved type
    `bp`) to a public function `f` of that base; the base field has an offset `o` assigned by C01
    (`declaredOffsets` over the placement `resolve_regions` performed), and in every later registry – provided rustc
    accepts the emitted struct and the base's `impl` block – calling the forwarder on an object at `self` is
    calling `f` on the sub-object at `self + o`. -/
theorem built_type_forwarders (s s1 : State) (path : Path) (vis : Vis) (d : G.TypeDef) (r : Resolved)
    (h : buildType s path vis d = (s1, .ok r)) (hprims : C02.PrimsOk s.reg) :
    ∃ (td : TypeDefn) (vptr : Option Region) (pending : List (Option Nat × Region)) (target : Option Nat)
      (placed : List (Placed Region)),
      r.inner = .type td ∧
      resolve (vptr.map (toPField s1.reg none)) (pending.map fun p => toPField s1.reg p.1 p.2) target = .ok (placed, r.size) ∧
      nameRegions s1.reg 0 placed = .ok td.regions ∧
      ∀ g ∈ td.fns,
        (∃ a, g.body = .addr a) ∨
        ∃ rg ∈ td.regions, ∃ (b : String) (bp : Path) (btd : TypeDefn) (fs : List SFunc) (used : List String) (o : Nat),
          rg.isBase = true ∧ rg.name = some b ∧ rg.ty = .data (.raw bp) ∧ typeDefn? s1.reg bp = some btd ∧
          (fs = btd.fns ∨ ∃ v, btd.vft = some v ∧ fs = v.fns) ∧ g ∈ C07.specInject b used fs ∧
          (o, rg) ∈ declaredOffsets (vptr.map (toPField s1.reg none)) (pending.map fun p => toPField s1.reg p.1 p.2) ∧
          ∀ (reg : Registry), C02.Ext s1.reg reg → typeDefn? reg path = some td → DistinctFields td → DistinctMethods btd →
            fieldOffset reg td b = some o ∧
            ∀ (mem : Mem) (fuel self : Nat) (args : List Nat),
              ∃ f ∈ fs, f.vis = .pub ∧ f.isInternal = false ∧ g.body = .field b f.name ∧
                execMethod reg mem (fuel + 1) path g self args = execMethod reg mem fuel bp f (self + o) args := by
  obtain ⟨td, module, module1, ta, sa, vptr, placed, acc1, acc2, hin, B⟩ := CaseLift.buildType_ok_inv h
  refine ⟨td, vptr, sa.pending, ta.targetSize, placed, hin, B.layout, B.named, ?_⟩
  intro g hg
  obtain ⟨built, hbuilt, hfns⟩ := B.built
  rw [hfns] at hg
  rcases List.mem_append.mp hg with hg1 | hg1
  · right
    obtain ⟨rg, hrg, hbase, b, bp, btd, fs, used, hname, hrty, hbtd, hfs, hspec⟩ := B.forwards (C02.Ext.refl _) g hg1
    obtain ⟨o, ho⟩ := base_region_declared s1.reg vptr sa.pending ta.targetSize ta.align placed r.size r.align td
      B.layout B.align B.named rg hrg hbase
    refine ⟨rg, hrg, b, bp, btd, fs, used, o, hbase, hname, hrty, hbtd, hfs, hspec, ho, ?_⟩
    intro reg he hty hdf hdm
    have hfo := forwarder_on_built_type s1.reg (B.prims hprims) vptr sa.pending ta.targetSize ta.align placed r.size r.align td
      B.layout B.align B.named hdf o rg b bp hname hrty ho reg he path hty btd (typeDefn?_mono he bp btd hbtd) hdm fs hfs used
      g hspec
    exact ⟨(hfo (fun _ => 0) 0 0 []).1, fun mem fuel self args => (hfo mem fuel self args).2⟩
  · left
    obtain ⟨gf, _, hb⟩ := CaseLift.mapM'_mem _ _ _ hbuilt g hg1
    obtain ⟨⟨a, _, _, hbody⟩, _⟩ := C05.built_shape s1.reg module.scope gf g hb
    exact ⟨_, hbody⟩

/-- **C06 for a whole accepted type**: the accessor of an accepted type with a vftable `v`.
    Own pointer (`v.baseField = none`): the first field of the emitted struct is the pointer `vftable`, and the
    accessor reads the word at the object's address.  Pointer supplied by a base (`v.baseField = some bn`, with or
    without a vftable block of its own): `bn` is a `#[base]` field of a resolved type with a vftable whose slots are
    a prefix of `v`'s, and the accessor is that type's accessor run on the sub-object at the offset of `bn`. -/
theorem built_type_accessor (s s1 : State) (path : Path) (vis : Vis) (d : G.TypeDef) (r : Resolved)
    (h : buildType s path vis d = (s1, .ok r)) (hprims : C02.PrimsOk s.reg) :
    ∃ td, r.inner = .type td ∧ ∀ v, td.vft = some v →
      (v.baseField = none →
        (td.regions.head?.bind (·.name)) = some vftableFieldName ∧
        ∀ (reg : Registry), C02.Ext s1.reg reg → typeDefn? reg path = some td →
          ∀ (mem : Mem) (fuel self : Nat), execVftable reg mem (fuel + 1) path self = some (mem self)) ∧
      (∀ bn, v.baseField = some bn →
        ∃ rg ∈ td.regions, ∃ (bp : Path) (btd : TypeDefn) (bv : Vft) (o : Nat),
          rg.isBase = true ∧ rg.name = some bn ∧ rg.ty = .data (.raw bp) ∧ typeDefn? s1.reg bp = some btd ∧
          btd.vft = some bv ∧ bv.fns <+: v.fns ∧
          ∀ (reg : Registry), C02.Ext s1.reg reg → typeDefn? reg path = some td → DistinctFields td →
            fieldOffset reg td bn = some o ∧
            ∀ (mem : Mem) (fuel self : Nat),
              execVftable reg mem (fuel + 1) path self = execVftable reg mem fuel bp (self + o)) := by
  obtain ⟨td, module, module1, ta, sa, vptr, placed, acc1, acc2, hin, B⟩ := CaseLift.buildType_ok_inv h
  have hprims1 := B.prims hprims
  refine ⟨td, hin, ?_⟩
  intro v hv
  rcases B.table_cases (C02.Ext.refl _) with ⟨h, _⟩ | ⟨fns, vpath, _, hp, h⟩ | ⟨v', bn, bv, h, hbf, hvr, hb, hpre⟩
  · rw [h] at hv; cases hv
  · rw [h] at hv; cases hv
    refine ⟨fun _ => ⟨by rw [(B.own_pointer hprims (C02.Ext.refl _) hp).1]; rfl, ?_⟩, fun bn hbn => (by cases hbn)⟩
    intro reg he hty mem fuel self
    exact execVftable_own reg mem fuel path self td _ 0 hty (by rw [h]) rfl (B.own_pointer hprims he hp).2
  · rw [h] at hv; cases hv
    refine ⟨fun hn => (by rw [hbf] at hn; cases hn), ?_⟩
    intro bn' hbn'
    rw [hbf] at hbn'; cases hbn'
    subst hvr
    obtain ⟨rg, bp, btd, hfb, hname, hrty, hbtd, hbvft⟩ := baseVftable_some_inv s1.reg _ bn bv hb
    have hbase : rg.isBase = true := by simpa using List.find?_some hfb
    obtain ⟨o, ho⟩ := declared_of_pending (reg := s1.reg) none sa.pending rg bp (List.mem_of_find?_eq_some hfb) hrty
    obtain ⟨k, _, hk⟩ := declared_region s1.reg none sa.pending ta.targetSize ta.align placed r.size r.align td
      B.layout B.align B.named o rg bn hname ho
    refine ⟨rg, List.mem_of_getElem? hk, bp, btd, bv, o, hbase, hname, hrty, hbtd, hbvft, hpre, ?_⟩
    intro reg he hty hdf
    obtain ⟨hoff, hfind⟩ := fieldOffset_declared s1.reg hprims1 none sa.pending ta.targetSize ta.align placed r.size r.align
      td B.layout B.align B.named hdf o rg bn hname ho
    have hoff' := fieldOffset_mono he td bn o hoff
    exact ⟨hoff', fun mem fuel self => execVftable_base reg mem fuel path self td _ bn bp o hty h hbf
      (fieldTypePath_of_find td bn rg bp hfind hrty) hoff'⟩

/-! ## accepted cases: the final registry

By provenance (`CaseLift.case_type_origin`) every emitted struct of the final registry of an accepted case that has methods
or a vftable is the result of an accepted `type_definition::build` of the definition registered under its path, in a
state whose predefined types are intact and whose post-state the final registry extends.  So the clauses hold in the
final registry of every accepted case. -/

/-- **C07 in the final registry of an accepted case**: every associated function of an emitted struct is an
    address-bound wrapper or a forwarder of a `#[base]` field `b` (of the resolved type `bp`) to a public function of
    that base, and – provided rustc accepts the emitted struct and the base's `impl` block – calling it on an object at
    `self` is calling the original on the sub-object at `self + o`, `o` the offset of `b` in the emitted struct. -/
theorem case_forwarders (c : Case) (hps : c.ps = 4 ∨ c.ps = 8) (hb : C12.CaseBounded c) (s : State)
    (h : c.run = .ok s) (p : Path) (i : ItemDef) (r : Resolved) (td : TypeDefn)
    (hg : s.reg.get p = some i) (hs : i.state = .res r) (hin : r.inner = .type td) (hc : i.cat = .defined) :
    ∀ g ∈ td.fns,
      (∃ a, g.body = .addr a) ∨
      ∃ rg ∈ td.regions, ∃ (b : String) (bp : Path) (btd : TypeDefn) (fs : List SFunc) (used : List String) (o : Nat),
        rg.isBase = true ∧ rg.name = some b ∧ rg.ty = .data (.raw bp) ∧ typeDefn? s.reg bp = some btd ∧
        (fs = btd.fns ∨ ∃ v, btd.vft = some v ∧ fs = v.fns) ∧ g ∈ C07.specInject b used fs ∧
        (DistinctFields td → DistinctMethods btd →
          fieldOffset s.reg td b = some o ∧
          ∀ (mem : Mem) (fuel self : Nat) (args : List Nat),
            ∃ f ∈ fs, f.vis = .pub ∧ f.isInternal = false ∧ g.body = .field b f.name ∧
              execMethod s.reg mem (fuel + 1) p g self args = execMethod s.reg mem fuel bp f (self + o) args) := by
  intro g hgm
  have hty := typeDefn?_of_get s.reg p i r td hg hs hin
  rcases CaseLift.case_type_origin c hps hb s h p i r td hg hs hin hc with hv | ⟨s0, s1, item, d, hp0, _, _, _, _, hbt, he, _⟩
  · rw [(hv.plain hs hin).1] at hgm; cases hgm
  obtain ⟨td', vptr, pending, target, placed, hin', _, _, hall⟩ := built_type_forwarders s0 s1 p item.vis d r hbt hp0
  cases hin.symm.trans hin'
  rcases hall g hgm with ha | ⟨rg, hrg, b, bp, btd, fs, used, o, h1, h2, h3, h4, h5, h6, _, h8⟩
  · exact Or.inl ha
  · refine Or.inr ⟨rg, hrg, b, bp, btd, fs, used, o, h1, h2, h3, typeDefn?_mono he bp btd h4, h5, h6, ?_⟩
    intro hdf hdm
    exact h8 s.reg he hty hdf hdm

/-- **C06 in the final registry of an accepted case**: the accessor of an emitted struct with a vftable reads the
    word at the object's address (own pointer), or is the accessor of the base's type on the base sub-object -/
theorem case_accessor (c : Case) (hps : c.ps = 4 ∨ c.ps = 8) (hb : C12.CaseBounded c) (s : State)
    (h : c.run = .ok s) (p : Path) (i : ItemDef) (r : Resolved) (td : TypeDefn)
    (hg : s.reg.get p = some i) (hs : i.state = .res r) (hin : r.inner = .type td) (hc : i.cat = .defined)
    (v : Vft) (hv : td.vft = some v) :
    (v.baseField = none →
      (td.regions.head?.bind (·.name)) = some vftableFieldName ∧
      ∀ (mem : Mem) (fuel self : Nat), execVftable s.reg mem (fuel + 1) p self = some (mem self)) ∧
    (∀ bn, v.baseField = some bn →
      ∃ rg ∈ td.regions, ∃ (bp : Path) (btd : TypeDefn) (bv : Vft) (o : Nat),
        rg.isBase = true ∧ rg.name = some bn ∧ rg.ty = .data (.raw bp) ∧ typeDefn? s.reg bp = some btd ∧
        btd.vft = some bv ∧ bv.fns <+: v.fns ∧
        (DistinctFields td →
          fieldOffset s.reg td bn = some o ∧
          ∀ (mem : Mem) (fuel self : Nat),
            execVftable s.reg mem (fuel + 1) p self = execVftable s.reg mem fuel bp (self + o))) := by
  have hty := typeDefn?_of_get s.reg p i r td hg hs hin
  rcases CaseLift.case_type_origin c hps hb s h p i r td hg hs hin hc with hg' | ⟨s0, s1, item, d, hp0, _, _, _, _, hbt, he, _⟩
  · rw [(hg'.plain hs hin).2] at hv; cases hv
  obtain ⟨td', hin', hall⟩ := built_type_accessor s0 s1 p item.vis d r hbt hp0
  cases hin.symm.trans hin'
  obtain ⟨hown, hbase⟩ := hall v hv
  refine ⟨?_, ?_⟩
  · intro hn
    obtain ⟨h1, h2⟩ := hown hn
    exact ⟨h1, h2 s.reg he hty⟩
  · intro bn hbn
    obtain ⟨rg, hrg, bp, btd, bv, o, h1, h2, h3, h4, h5, h6, h7⟩ := hbase bn hbn
    exact ⟨rg, hrg, bp, btd, bv, o, h1, h2, h3, typeDefn?_mono he bp btd h4, h5, h6, fun hdf => h7 s.reg he hty hdf⟩

/-- **C04 in the final registry of an accepted case**: an emitted struct whose registered definition starts with a
    vftable block `gfns`.  The wrapper of the function the description puts in slot `q` performs exactly one call,
    through the word at `vt + q * ps` of the table `vt` the object's accessor yields, with the object's address for the
    receiver and the argument values for the other parameters. -/
theorem case_vfunc_wrappers (c : Case) (hps : c.ps = 4 ∨ c.ps = 8) (hb : C12.CaseBounded c) (s : State)
    (h : c.run = .ok s) (p : Path) (i : ItemDef) (r : Resolved) (td : TypeDefn)
    (hg : s.reg.get p = some i) (hs : i.state = .res r) (hin : r.inner = .type td) (hc : i.cat = .defined)
    (hv : td.vft ≠ none) :
    ∃ (s0 : State) (i0 : ItemDef) (item : G.Item) (d : G.TypeDef),
      s0.reg.get p = some i0 ∧ i0.state = .unres item ∧ item.inner = .type d ∧
      ∀ (st : G.Stmt) (gfns : List G.Func), d.stmts[0]? = some st → st.field = .vftable gfns →
      ∀ (vpath : Path), vftablePath p = some vpath →
      ∃ (module : Mod) (size : Option Nat) (out : List SFunc) (v : Vft),
        s0.moduleFor p = some module ∧ vftableSizeAttr st.attrs = .ok size ∧
        convertVfuncs s0.reg module.scope size gfns = .ok out ∧
        td.vft = some v ∧ v.fns = out ∧ v.ty = .cptr (.raw vpath) ∧
        typeDefn? s.reg vpath = some { regions := out.map (functionToRegion p) } ∧
        ∀ (pos : List Nat), C04.specPositions 0 (gfns.map C04.declIndex) = some pos →
        ∀ (j : Nat) (gf : G.Func) (q : Nat), gfns[j]? = some gf → pos[j]? = some q →
        (out.map (·.name)).Nodup →
        ∀ (mem : Mem) (fuel self vt : Nat) (args : List Nat), execVftable s.reg mem fuel p self = some vt →
          ∃ sf, out[q]? = some sf ∧ sf.name = gf.name ∧ C05.specArgs s0.reg module.scope gf.args = some sf.args ∧
            execMethod s.reg mem fuel p sf self args =
              (passArgs sf.args self args).map fun as => [⟨mem (vt + q * s.reg.ps), as⟩] := by
  have hty := typeDefn?_of_get s.reg p i r td hg hs hin
  rcases CaseLift.case_type_origin c hps hb s h p i r td hg hs hin hc with hg' | ⟨s0, s1, item, d, _, _, _, hg0, hd0, hbt, he, _⟩
  · exact absurd (hg'.plain hs hin).2 hv
  refine ⟨s0, _, item, d, hg0, rfl, hd0, ?_⟩
  intro st gfns hst hfield vpath hvp
  obtain ⟨td', module, size, out, v, hin', hmod, hsize, hconv, hvft, hfns, hvty, hvtd, hall⟩ :=
    built_type_vfunc_wrappers s0 s1 p item.vis d r hbt st gfns hst hfield vpath hvp
  cases hin.symm.trans hin'
  have hpos : 0 < s.reg.ps := C01.isPow2_pos _ (CaseLift.case_regOk c hps hb s h).ps_pow2
  refine ⟨module, size, out, v, hmod, hsize, hconv, hvft, hfns, hvty, typeDefn?_mono he vpath _ hvtd, ?_⟩
  intro pos hpos' j gf q hj hq hnd mem fuel self vt args hacc
  exact hall pos hpos' j gf q hj hq s.reg he hpos hty hnd mem fuel self vt args hacc

/-- **C05 in the final registry of an accepted case**: every function of the `impl` block the module held for the
    type when it was built has a wrapper of the same name among the emitted struct's associated functions, and
    running that wrapper – anywhere – performs exactly one call, to the declared address -/
theorem case_address_methods (c : Case) (hps : c.ps = 4 ∨ c.ps = 8) (hb : C12.CaseBounded c) (s : State)
    (h : c.run = .ok s) (p : Path) (i : ItemDef) (r : Resolved) (td : TypeDefn)
    (hg : s.reg.get p = some i) (hs : i.state = .res r) (hin : r.inner = .type td) (hc : i.cat = .defined)
    (hne : td.fns ≠ [] ∨ td.vft ≠ none) :
    ∃ (s1 : State) (module1 : Mod), s1.moduleFor p = some module1 ∧ C02.Ext s1.reg s.reg ∧
      ∀ im, module1.implFor p = some im → ∀ gf ∈ im.fns,
        ∃ sf ∈ td.fns, sf.name = gf.name ∧ ∃ a : Int, C05.declAddress gf = some a ∧ 0 ≤ a ∧
          C05.specArgs s1.reg module1.scope gf.args = some sf.args ∧
          ∀ (reg : Registry) (mem : Mem) (fuel : Nat) (ty : Path) (self : Nat) (args : List Nat),
            execMethod reg mem fuel ty sf self args =
              (passArgs sf.args self args).map fun as => [⟨a.toNat, as⟩] := by
  rcases CaseLift.case_type_origin c hps hb s h p i r td hg hs hin hc with hv | ⟨s0, s1, item, d, _, _, _, _, _, hbt, he, _⟩
  · rcases hne with hne | hne
    · exact absurd (hv.plain hs hin).1 hne
    · exact absurd (hv.plain hs hin).2 hne
  obtain ⟨td', module1, hin', hmod1, hall⟩ := built_type_address_methods s0 s1 p item.vis d r hbt
  cases hin.symm.trans hin'
  exact ⟨s1, module1, hmod1, he, hall⟩

section Compiled
open C02

/-- **the offsets of the semantics are the compiler's**: under registry-wide soundness, for a struct none of whose
    fields contains `void` by value, whatever field layouts `flds` the recursive judgement `C02.Lay` assigns to the
    emitted fields (the premise of `Lay.struct`), the field offsets `RustSem.offsets` computes from them are
    `fieldOffsets` -/
theorem fieldOffsets_compiled (s : State) (hs : RegSound s) (td : TypeDefn) (offs : List Nat)
    (h : fieldOffsets s.reg td = some offs)
    (hnv : ∀ rg ∈ td.regions, ¬ Tainted s.reg (.rty rg.ty))
    (flds : List RustSem.Fld) (hlen : flds.length = td.regions.length)
    (hl : ∀ k (h1 : k < td.regions.length) (h2 : k < flds.length),
      Lay s.reg (.rty (td.regions[k]).ty) (flds[k]).size (flds[k]).align) :
    RustSem.offsets td.packed 0 flds = offs := by
  unfold fieldOffsets at h
  obtain ⟨fs, hf, rfl⟩ := Option.map_eq_some_iff.mp h
  obtain ⟨hl', hk⟩ := fldsOf_getElem s.reg td.regions fs hf
  -- field by field: the layout `Lay` assigns is the one `fldOf` reads off the registry
  have : flds = fs := by
    apply List.ext_getElem (by omega)
    intro k h1 h2
    rcases fldOf_compiled s.reg hs.items _ _ (hk k (by omega) h2) with hc | ht
    · obtain ⟨e1, e2⟩ := Lay.unique (hl k (by omega) h1) hc
      exact fld_ext _ _ e1 e2
    · exact absurd ht (hnv _ (List.getElem_mem _))
  rw [this]

end Compiled

/-! ## non-vacuity: a concrete accepted case

Pointer width 8, one module `m`:

```text
pub type D { pub pad: u64, #[base] pub b: B, pub z: u64 }                             // 32 bytes, `b` at offset 8
pub type B { vftable { pub fn v(&self, x: u32); #[index(2)] pub fn w(&mut self) -> u32; }, pub n: u64 }   // 16 bytes
impl B { #[address(0x1000)] pub fn a(&mut self, y: u32) -> u32; }
```

`B` owns its pointer (first field) and a three-slot table (`v`, a placeholder, `w`); `D` inherits the table through `b`
and re-exposes `a`.  Every `decide +kernel` builds the case from scratch, so the run is evaluated once (`run`, through
`C09.runK`) and the finite facts about its final registry that the examples need are stated together, a few
conjunctions by subject, each one evaluation. -/
namespace Example
open C09 C02

def modM : G.Module :=
  { defs := [
      { vis := .pub, name := "D",
        inner := .type { stmts := [{ field := .field .pub "pad" (.ident "u64"), attrs := [] },
                                   { field := .field .pub "b" (.ident "B"), attrs := [.ident "base"] },
                                   { field := .field .pub "z" (.ident "u64"), attrs := [] }],
                         attrs := [] } },
      { vis := .pub, name := "B",
        inner := .type { stmts := [{ field := .vftable [
                                       { vis := .pub, name := "v", attrs := [], args := [.constSelf, .named "x" (.ident "u32")], ret := none },
                                       { vis := .pub, name := "w", attrs := [.fn "index" [.int 2]], args := [.mutSelf], ret := some (.ident "u32") }],
                                     attrs := [] },
                                   { field := .field .pub "n" (.ident "u64"), attrs := [] }],
                         attrs := [] } }],
    impls := [{ name := "B", attrs := [],
                fns := [{ vis := .pub, name := "a", attrs := [.fn "address" [.int 0x1000]],
                          args := [.mutSelf, .named "y" (.ident "u32")], ret := some (.ident "u32") }] }] }

def prio : List Path := [["m", "B"], ["m", "D"]]

def case : Case :=
  { id := "exec", ps := 8, prio := prio, modules := [.ast ["m"] "m.pyxis" modM], extras := [] }

def s0 : State := C12.stateOf case.initialState
def s1 : State := (runRound s0 prio).1

theorem run : case.run = .ok (okState (runK case)) := run_eq_okState (by decide +kernel)

theorem run_ok : isOkB case.run = true := by rw [run]; rfl

theorem run_reg (s : State) (h : case.run = .ok s) : s.reg = s1.reg := by
  rw [← BuildOutcome.ok.inj (run.symm.trans h)]
  rfl

/-- the case is accepted, and its final registry is `s1.reg` -/
example : ∃ s, case.run = .ok s ∧ s.reg = s1.reg := ⟨_, run, run_reg _ run⟩

/-- a memory: a `D` at 1000 (so its `B` sub-object at 1008); the vftable pointer of that `B` holds 5000;
    the table at 5000 holds 7001 in slot 0 and 7003 in slot 2 -/
def mem : Mem := fun a => if a = 1008 then 5000 else if a = 5000 then 7001 else if a = 5016 then 7003 else 0

/-- calling the emitted method named `name` of the type at `ty` -/
def call (ty : Path) (name : String) (self : Nat) (args : List Nat) : Option (List CallEvent) :=
  match typeDefn? s1.reg ty with
  | some td => match findMethod td name with
    | some f => execMethod s1.reg mem 2 ty f self args
    | none => none
  | none => none

/-- C04: `B::v` goes through slot 0, `B::w` (written `#[index(2)]`) through slot 2 (byte 16) of the table the
    object's first word points to; the receiver is the object's address -/
example : call ["m", "B"] "v" 1008 [42] = some [⟨7001, [1008, 42]⟩] := by decide +kernel
example : call ["m", "B"] "w" 1008 [] = some [⟨7003, [1008]⟩] := by decide +kernel
/-- C05: `B::a` calls address 0x1000 with the receiver and the argument -/
example : call ["m", "B"] "a" 1008 [7] = some [⟨0x1000, [1008, 7]⟩] := by decide +kernel
/-- C07: `D::a` (re-exposed from base field `b`, which C01 puts at offset 8) calls the same address with the
    address of the sub-object as receiver -/
example : call ["m", "D"] "a" 1000 [7] = some [⟨0x1000, [1008, 7]⟩] := by decide +kernel
example : call ["m", "D"] "a" 1000 [7] = call ["m", "B"] "a" (1000 + 8) [7] := by decide +kernel
/-- C06: `D` inherits the table; its accessor reads the pointer of the base sub-object (at `self + 8`), and the
    wrapper `D::w` calls through slot 2 of that table, passing the address of the `D` object -/
example : execVftable s1.reg mem 2 ["m", "D"] 1000 = some 5000 := by decide +kernel
example : execVftable s1.reg mem 1 ["m", "B"] 1008 = some 5000 := by decide +kernel
example : call ["m", "D"] "w" 1000 [] = some [⟨7003, [1000]⟩] := by decide +kernel
/-- a wrong number of arguments is not a run -/
example : call ["m", "B"] "a" 1008 [] = none := by decide +kernel

/-! the theorems apply to this case: their hypotheses hold, their conclusions are the events computed above -/

def tdB : TypeDefn := (typeDefn? s1.reg ["m", "B"]).getD {}
def tdD : TypeDefn := (typeDefn? s1.reg ["m", "D"]).getD {}

def gfV : G.Func := { vis := .pub, name := "v", attrs := [], args := [.constSelf, .named "x" (.ident "u32")], ret := none }
def gfW : G.Func := { vis := .pub, name := "w", attrs := [.fn "index" [.int 2]], args := [.mutSelf], ret := some (.ident "u32") }
def gfA : G.Func := { vis := .pub, name := "a", attrs := [.fn "address" [.int 0x1000]],
                      args := [.mutSelf, .named "y" (.ident "u32")], ret := some (.ident "u32") }
def outB : List SFunc := (tdB.vft.map (·.fns)).getD []
def itemB : ItemDef := (s1.reg.get ["m", "BVftable"]).getD default
def itemD : ItemDef := (s1.reg.get ["m", "D"]).getD default
def resD : Resolved := itemD.resolved?.getD default

theorem tableB :
    typeDefn? s1.reg ["m", "B"] = some tdB ∧ tdB.vft = some (tdB.vft.getD default) ∧
    (tdB.vft.getD default).fns = outB ∧ (tdB.vft.getD default).ty = .cptr (.raw itemB.path) ∧
    convertVfuncs s1.reg [["m"]] none [gfV, gfW] = .ok outB ∧
    buildVftableItem s1.reg ["m", "B"] .pub outB = some itemB ∧ s1.reg.get itemB.path = some itemB ∧
    (outB.map (·.name)).Nodup ∧ outB.length = 3 ∧ (∀ x ∈ outB, x.name ≠ "a") ∧ s1.reg.ps = 8 := by decide +kernel

theorem fnsB :
    tdB.fns.headD default ∈ tdB.fns ∧ (∀ x ∈ tdB.fns, x = tdB.fns.headD default) ∧
    (tdB.fns.headD default).name = "a" ∧
    buildFunction s1.reg [["m"]] false gfA = .ok (tdB.fns.headD default) := by decide +kernel

theorem entryD :
    typeDefn? s1.reg ["m", "D"] = some tdD ∧ s1.reg.get ["m", "D"] = some itemD ∧ itemD.state = .res resD ∧
    resD.inner = .type tdD ∧ itemD.cat = .defined := by decide +kernel

theorem baseD :
    (∀ x ∈ tdD.regions, x.isBase = true → x.name = some "b" ∧ x.ty = .data (.raw ["m", "B"])) ∧
    fieldTypePath tdD "b" = some ["m", "B"] ∧ fieldOffset s1.reg tdD "b" = some 8 := by decide +kernel

theorem fnsD :
    tdD.fns.headD default ∈ tdD.fns ∧ (∀ x ∈ tdD.fns, x.body = .field "b" "a") ∧
    (tdD.fns.headD default).name = "a" ∧
    tdD.fns.headD default ∈ C07.specInject "b" ["v", "_vfunc_1", "w"] tdB.fns := by decide +kernel

theorem slotsVW : C04.specPositions 0 ([gfV, gfW].map C04.declIndex) = some [0, 2] := by decide

theorem hB : typeDefn? s1.reg ["m", "B"] = some tdB := tableB.1
theorem hD : typeDefn? s1.reg ["m", "D"] = some tdD := entryD.1

theorem distinct : DistinctFields tdB ∧ DistinctFields tdD ∧ DistinctMethods tdB ∧ DistinctMethods tdD := by
  unfold DistinctFields DistinctMethods; decide +kernel

/-- rustc's demands hold for the emitted items -/
example : DistinctFields tdB ∧ DistinctFields tdD ∧ DistinctMethods tdB ∧ DistinctMethods tdD := distinct

/-- C05 by the theorem: for every registry, memory, type, object and argument value, `B::a` performs one call to 0x1000 -/
example (reg : Registry) (m : Mem) (fuel : Nat) (ty : Path) (self y : Nat) :
    ∃ sf ∈ tdB.fns, execMethod reg m fuel ty sf self [y] = some [⟨0x1000, [self, y]⟩] := by
  obtain ⟨hmem, _, _, hb⟩ := fnsB
  obtain ⟨a, ha, _, he⟩ := address_wrapper_with_receiver s1.reg [["m"]] gfA _ hb .mutSelf [.named "y" (.ident "u32")] rfl rfl
    (by decide) reg m fuel ty self [y] rfl
  obtain rfl : 0x1000 = a := Option.some.inj ((by decide : C05.declAddress gfA = some 0x1000).symm.trans ha)
  exact ⟨_, hmem, he⟩

/-- C04 by the theorem: for every memory and object whose accessor yields `vt`, `B::w` – written `#[index(2)]`, so
    in slot 2 by `C04.specPositions` – performs one call through the word at `vt + 2 * 8` -/
example (m : Mem) (fuel self vt : Nat) (hacc : execVftable s1.reg m fuel ["m", "B"] self = some vt) :
    ∃ sf, outB[2]? = some sf ∧ sf.name = "w" ∧
      execMethod s1.reg m fuel ["m", "B"] sf self [] = some [⟨m (vt + 2 * 8), [self]⟩] := by
  obtain ⟨_, hv, hfns, hvty, hconv, hitem, hget, hnd, _, _, hps⟩ := tableB
  have h := vfunc_wrapper_with_receiver s1.reg [["m"]] none [gfV, gfW] outB hconv ["m", "B"] .pub itemB hitem [0, 2] slotsVW
    1 gfW 2 rfl rfl .mutSelf [] rfl rfl (by decide) s1.reg (by rw [hps]; decide) hget
    ["m", "B"] tdB _ hB hv hfns hvty hnd m fuel self vt [] rfl hacc
  -- `s1.reg.ps` is rewritten to 8: left to unification, the elaborator would run the build to compute it
  rw [hps] at h
  exact h

/-- C07 by the theorem: for every memory, object and arguments, `D::a` is `B::a` on the sub-object at `self + 8` -/
example (m : Mem) (fuel self : Nat) (args : List Nat) :
    ∃ g ∈ tdD.fns, ∃ f ∈ tdB.fns, g.name = "a" ∧ f.name = "a" ∧
      execMethod s1.reg m (fuel + 1) ["m", "D"] g self args = execMethod s1.reg m fuel ["m", "B"] f (self + 8) args := by
  obtain ⟨_, hbp, ho⟩ := baseD
  obtain ⟨hg, _, hgn, hinj⟩ := fnsD
  obtain ⟨_, hone, hfn, _⟩ := fnsB
  obtain ⟨f, hf, _, _, _, he⟩ := forwarder_calls_original_on_subobject s1.reg m fuel ["m", "D"] tdD tdB "b" ["m", "B"] 8 hD
    hbp ho hB distinct.2.2.1 tdB.fns (Or.inl rfl) ["v", "_vfunc_1", "w"] _ hinj self args
  exact ⟨_, hg, f, hf, hgn, by rw [hone f hf]; exact hfn, he⟩

/-! the registry-wide theorems apply to the case -/

theorem case_bounded : C12.CaseBounded case := by
  intro path file m hm
  simp only [case, List.mem_cons, List.not_mem_nil, or_false, ModEnt.ast.injEq] at hm
  obtain ⟨_, _, rfl⟩ := hm
  refine ⟨?_, fun xt hx => by cases hx⟩
  intro d hd
  simp only [modM, List.mem_cons, List.not_mem_nil, or_false] at hd
  rcases hd with rfl | rfl <;> (intro n args z ha; cases ha)

/-- in the final registry of the accepted case, `D::a` – the only associated function of `D` – is a forwarder of the
    `#[base]` field `b`, which the emitted struct has at offset 8, and calling it is calling `B::a` on `self + 8` -/
example : ∃ s, case.run = .ok s ∧ ∀ g ∈ tdD.fns, ∃ f ∈ tdB.fns,
    ∀ (m : Mem) (fuel self : Nat) (args : List Nat),
      execMethod s.reg m (fuel + 1) ["m", "D"] g self args = execMethod s.reg m fuel ["m", "B"] f (self + 8) args := by
  obtain ⟨s, hs⟩ := (isOkB_iff _).mp run_ok
  have hreg := run_reg s hs
  refine ⟨s, hs, fun g hg => ?_⟩
  obtain ⟨_, hget, hst, hin, hcat⟩ := entryD
  obtain ⟨_, hgbody, _, _⟩ := fnsD
  rw [← hreg] at hget
  rcases case_forwarders case (Or.inr rfl) case_bounded s hs ["m", "D"] itemD resD tdD hget hst hin hcat g hg
    with ⟨a, ha⟩ | ⟨rg, hrg, b, bp, btd, fs, used, o, hbase, hname, hrty, hbtd, hfs, _, hex⟩
  · rw [hgbody g hg] at ha
    cases ha
  · obtain ⟨hregions, _, hoff8⟩ := baseD
    obtain ⟨e1, e2⟩ := hregions rg hrg hbase
    rw [e1] at hname; cases hname
    rw [e2] at hrty; cases hrty
    rw [hreg, hB] at hbtd
    obtain rfl := Option.some.inj hbtd
    obtain ⟨hoff, hex⟩ := hex distinct.2.1 distinct.2.2.1
    rw [hreg, hoff8] at hoff; cases hoff
    obtain ⟨hmem, hone, _, _⟩ := fnsB
    refine ⟨_, hmem, fun m fuel self args => ?_⟩
    obtain ⟨f, hf, _, _, hbody, he⟩ := hex m fuel self args
    -- `g` forwards to a function named `a`: one of `B`'s `impl` block, not of its table (`v`, `_vfunc_1`, `w`)
    rw [hgbody g hg] at hbody
    simp only [FBody.field.injEq, true_and] at hbody
    have hfB : f ∈ tdB.fns := by
      rcases hfs with e | ⟨v, hv, e⟩
      · rw [e] at hf; exact hf
      · obtain ⟨_, hvB, hfns, _, _, _, _, _, _, hnames, _⟩ := tableB
        rw [hvB] at hv
        rw [e, ← Option.some.inj hv, hfns] at hf
        exact absurd hbody.symm (hnames f hf)
    rw [← hone f hfB]
    exact he


end Example

end PyxisVerif.Exec
