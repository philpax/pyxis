import PyxisVerif.Spec.C17
import PyxisVerif.Lemmas.C17
/-!
# C17 – visibility, derives, packing and documentation are carried over faithfully
-/
namespace PyxisVerif.C17
open Gen

/-- `Attributes::doc` keeps exactly the written lines: joined with newlines, `none` when there are none -/
theorem doc_join (attrs : List G.Attr) (h : docsAreStrings attrs = true) :
    G.docOf attrs = some (if docStrings attrs = [] then none else some ("\n".intercalate (docStrings attrs))) := by
  rw [C20.docOf_eq_fold]; exact foldl_docStep_start attrs h

theorem doc_not_string_rejected (attrs : List G.Attr) (h : docsAreStrings attrs = false) : G.docOf attrs = none := by
  rw [C20.docOf_eq_fold]; exact foldl_docStep_bad _ attrs h

/-- **line for line, in order**: the doc attributes emitted for an item are the lines written on it
    (each written line is one line: no embedded newline) -/
theorem docs_line_for_line (attrs : List G.Attr) (h : docsAreStrings attrs = true)
    (hn : ∀ d ∈ docStrings attrs, '\n' ∉ d.toList) :
    (G.docOf attrs).map Emit.docLines = some (docStrings attrs) := by
  rw [doc_join attrs h]
  cases hds : docStrings attrs with
  | nil => rfl
  | cons d ds =>
    rw [hds] at hn
    simp only [Option.map_some, Emit.docLines]
    rw [if_neg (by simp)]
    simp only
    rw [strLines_intercalate d ds hn]

/-- where docs land: the struct carries the type's doc, each field its region's doc, each wrapper its
    function's doc, each vftable slot its function's doc; module docs become the inner doc lines
    (`C14.file_content`) -/
theorem docs_on_struct_and_fields (reg : Registry) (path : Path) (size align : Nat) (vis : Vis) (td : TypeDefn) :
    ∃ derives repr tl, Emit.typeItems reg path size align vis td =
      Sexp.mk "struct" ([Emit.docsS td.doc, derives, repr, Emit.visS vis, .str (path.getLast?.getD "")] ++
        td.regions.map fun r => Sexp.mk "fld" [Emit.docsS r.doc, Emit.visS r.vis, .str (r.name.getD ""), .str (Emit.rtyStr r.ty)])
      :: tl := by
  obtain ⟨tl, h⟩ := typeItems_head reg path size align vis td
  exact ⟨_, _, tl, h⟩

theorem docs_on_wrapper (f : SFunc) :
    ∃ tl, Emit.methodS f = Sexp.mk "method" (Emit.docsS f.doc :: Emit.visS f.vis :: .str f.name :: tl) := by
  unfold Emit.methodS
  exact ⟨_, rfl⟩

theorem docs_on_slot (owner : Path) (f : SFunc) :
    (functionToRegion owner f).doc = f.doc ∧ (functionToRegion owner f).vis = f.vis
      ∧ (functionToRegion owner f).name = some f.name := by
  exact ⟨rfl, rfl, rfl⟩

/-- a built function carries the docs written on it, and its declared visibility -/
theorem function_doc_vis (reg : Registry) (scope : List Path) (v : Bool) (f : G.Func) (sf : SFunc)
    (h : buildFunction reg scope v f = .ok sf) : G.docOf f.attrs = some sf.doc ∧ sf.vis = f.vis := by
  obtain ⟨doc, _, _, _, _, hdoc, _, _, _, _, rfl⟩ := buildFunction_inv h
  exact ⟨hdoc, rfl⟩

/-- copies inherited by derived types keep docs and visibility (only name and body are rewritten) -/
theorem inherited_copy_keeps_doc (base : String) (acc : InjAcc) (fs : List SFunc) :
    ∀ g ∈ (addFunctions base acc fs).fns, g ∈ acc.fns ∨
      ∃ f ∈ fs, f.vis = .pub ∧ g.doc = f.doc ∧ g.vis = f.vis ∧ g.args = f.args ∧ g.ret = f.ret ∧ g.cc = f.cc
        ∧ g.body = .field base f.name := by
  intro g hg
  rcases injFold base _ acc g hg with h | ⟨f, hf, hh⟩
  · exact .inl h
  · obtain ⟨hf1, hf2⟩ := List.mem_filter.mp hf
    rw [Bool.and_eq_true] at hf2
    exact .inr ⟨f, hf1, by simpa [SFunc.isPublic] using hf2.1, hh⟩

/-- generated padding fields are private and undocumented; named source fields keep visibility and doc -/
theorem padding_private (reg : Registry) (off : Nat) (placed : List (Layout.Placed Region)) (regions : List Region)
    (h : nameRegions reg off placed = .ok regions) :
    ∀ k (hk : k < placed.length) (hk' : k < regions.length),
      (placed[k].src = none → regions[k].vis = .priv ∧ regions[k].doc = none)
      ∧ (∀ r, placed[k].src = some r → r.name.isSome → regions[k] = r)
      ∧ (∀ r, placed[k].src = some r → r.name = none → regions[k].vis = .priv ∧ regions[k].doc = none) := by
  intro k hk hk'
  obtain ⟨r, o, hsrc, hr⟩ := (nameRegions_ok h).2 k hk hk'
  rw [hr]
  have unnamed : r.name = none → (renamed o r).vis = .priv ∧ (renamed o r).doc = none := fun hn => by
    unfold renamed; rw [hn]; exact ⟨rfl, rfl⟩
  rcases hsrc with hsrc | ⟨hsrc, t, _, rfl⟩
  · rw [hsrc]
    refine ⟨fun h => (by cases h), fun r' hr' hn => ?_, fun r' hr' hn => ?_⟩
    · cases hr'
      unfold renamed
      cases hn' : r.name with
      | none => rw [hn'] at hn; cases hn
      | some _ => rfl
    · cases hr'; exact unnamed hn
  · rw [hsrc]
    exact ⟨fun _ => unnamed rfl, fun _ h => (by cases h), fun _ h => (by cases h)⟩

theorem placeholder_private (j : Nat) : (placeholderFn j).vis = .priv ∧ (placeholderFn j).doc = none := by
  exact ⟨rfl, rfl⟩

/-- the marker attributes of a type are read as the property says -/
theorem type_flags (attrs : List G.Attr) (ta : TypeAttrs) (h : Res.foldlM typeAttrStep {} attrs = .ok ta) :
    Emit.derivesOf ta.copyable ta.cloneable ta.defaultable = specDerives attrs
    ∧ ta.packed = hasIdent attrs "packed" := by
  obtain ⟨_, _, _, h1, h2, h3, h4⟩ := typeAttrs_ok h
  rw [h1, h2, h3, h4]
  exact ⟨rfl, rfl⟩

theorem enum_flags (attrs : List G.Attr) (ea : EnumAttrs) (h : Res.foldlM enumAttrStep {} attrs = .ok ea) :
    Emit.derivesOf ea.copyable ea.cloneable ea.defaultable = specDerives attrs := by
  obtain ⟨_, h1, h2, h3⟩ := enumAttrs_ok h
  rw [h1, h2, h3]
  rfl

/-- packed types are emitted `repr(C, packed)` with no alignment attribute; all others `repr(C, align(N))` -/
theorem packed_no_align (reg : Registry) (path : Path) (size align : Nat) (vis : Vis) (td : TypeDefn) :
    ∃ docs derives rest tl, Emit.typeItems reg path size align vis td =
      Sexp.mk "struct" (docs :: derives ::
        Sexp.mk "repr" (if td.packed then [.str "C", .str "packed"] else [.str "C", .str ("align(" ++ toString align ++ ")")]) :: rest) :: tl := by
  obtain ⟨tl, h⟩ := typeItems_head reg path size align vis td
  exact ⟨_, _, _, tl, h⟩

/-! ## non-vacuity -/
example : docStrings [.assign "doc" (.str " a"), .ident "copyable", .assign "doc" (.str "")] = [" a", ""] := by decide +kernel
example : (G.docOf [.assign "doc" (.str " a"), .ident "copyable", .assign "doc" (.str "")]).map Emit.docLines = some [" a", ""] := by decide +kernel
example : specDerives [.ident "cloneable", .ident "defaultable"] = ["Clone", "Default"] := by decide +kernel

end PyxisVerif.C17
