import PyxisVerif.Spec.C13
import PyxisVerif.Lemmas.C13
import PyxisVerif.Lemmas.C01
import PyxisVerif.Lemmas.C08
/-!
# C13 – the emitted files form a Rust crate that type-checks (preconditions guaranteed by acceptance)
-/
namespace PyxisVerif.C13
open Gen

/-- E0124: the named fields of an accepted type are pairwise distinct -/
theorem field_names_distinct (reg : Registry) (scope : List Path) (stmts : List (Nat × G.Stmt)) (sa : StmtAcc)
    (h : Res.foldlM (stmtStep reg scope) {} stmts = .ok sa) :
    (sa.pending.filterMap (·.2.name)).Nodup := by
  exact (pendingOk_loop reg scope stmts sa h).1

/-- E0424: every virtual function of an accepted type has a receiver -/
theorem vfuncs_have_receiver (reg : Registry) (scope : List Path) (acc acc' : StmtAcc) (idx : Nat) (st : G.Stmt)
    (fns : List G.Func) (hf : st.field = .vftable fns) (h : stmtStep reg scope acc (idx, st) = .ok acc') :
    ∀ f ∈ fns, hasReceiver f = true := by
  rcases stmtStep_ok h with ⟨_, _, _, _, _, _, _, hf', _⟩ | ⟨fns', _, _, hf', _, hrecv, _⟩
  · rw [hf] at hf'; cases hf'
  · rw [hf] at hf'; cases hf'; exact hrecv

/-- base fields are named (the accessor and the forwarders refer to them by name) -/
theorem base_fields_named (reg : Registry) (scope : List Path) (stmts : List (Nat × G.Stmt)) (sa : StmtAcc)
    (h : Res.foldlM (stmtStep reg scope) {} stmts = .ok sa) :
    ∀ p ∈ sa.pending, p.2.isBase = true → p.2.name.isSome = true := by
  exact (pendingOk_loop reg scope stmts sa h).2

/-- E0084, E0081, E0428: an accepted enum has at least one case, and its cases have pairwise distinct
    names and pairwise distinct values -/
theorem enum_cases_distinct (s : State) (p : Path) (d : G.EnumDef) (r : Resolved) (h : buildEnum s p d = .ok r) :
    ∃ ed, r.inner = .enum ed ∧ ed.fields ≠ [] ∧ (ed.fields.map (·.1)).Nodup ∧ (ed.fields.map (·.2)).Nodup := by
  obtain ⟨ed, _, range, acc, _, hinner, E⟩ := CaseLift.buildEnum_ok_inv h
  have hinv : CasesOk acc :=
    Res.foldlM_induct (P := CasesOk) (show CasesOk {} from ⟨List.nodup_nil, List.nodup_nil⟩)
      (fun acc st acc' _ hacc hs => casesOk_step range acc st acc' hacc hs) E.stmts
  refine ⟨ed, hinner, fun he => ?_, E.fields ▸ hinv.1, E.fields ▸ hinv.2⟩
  have hf := (C08.enumLoop range d.stmts {} acc 0 (fun v hv => by cases hv; rfl) E.stmts).1
  rw [← E.fields, he] at hf
  have hne := E.nonempty
  cases hs : d.stmts with
  | nil => rw [hs] at hne; cases hne
  | cons a as => rw [hs] at hf; cases hf

/-- E0589: the alignment written into `repr(C, align(N))` is a power of two -/
theorem align_is_pow2 {β} (ps : Nat) (align? : Option Nat) (rs : List (Layout.Placed β)) (size a : Nat)
    (h : Layout.alignCheck ps false align? rs size = .ok a) : ∃ k, a = 2 ^ k := by
  have hp := (C01.alignCheck_unpacked_inv ps align? rs size a h).2.1
  unfold Layout.isPow2 at hp
  simp only [Bool.and_eq_true, bne_iff_ne, ne_eq, beq_iff_eq] at hp
  exact ⟨_, hp.2.symm⟩

/-- E0204: whenever `Copy` is derived, `Clone` is derived too -/
theorem copy_implies_clone (attrs : List G.Attr) (h : "Copy" ∈ C17.specDerives attrs) : "Clone" ∈ C17.specDerives attrs := by
  unfold C17.specDerives at h ⊢
  cases hc : C17.hasIdent attrs "copyable" <;> cases hl : C17.hasIdent attrs "cloneable" <;>
    cases hd : C17.hasIdent attrs "defaultable" <;> simp [hc, hl, hd] at h ⊢

/-- E0277: in an accepted `defaultable` type no field is a pointer or function pointer, and every field
    type that is already resolved is itself defaultable -/
theorem defaultable_fields (reg : Registry) (regions : List Region) (h : checkDefaultable reg regions = .ok ()) :
    ∀ r ∈ regions, ∃ p item, defaultablePath r.ty = some p ∧ reg.get p = some item ∧
      ∀ res, item.state = .res res → res.inner.defaultable = true := by
  intro r hr
  unfold checkDefaultable at h
  obtain ⟨⟨⟩, ⟨⟩, hstep⟩ := Res.foldlM_ok_mem h r hr
  split at hstep
  · cases hstep
  · rename_i p hp
    split at hstep
    · cases hstep
    · rename_i item hitem
      refine ⟨p, item, hp, hitem, ?_⟩
      intro res hres
      have hres' : item.resolved? = some res := by simp [ItemDef.resolved?, hres]
      rw [hres'] at hstep
      simp only at hstep
      split at hstep
      · cases hstep
      · rename_i hd
        simpa using hd

/-- E0412 / E0433: every item path mentioned by a resolved type expression is an existing definition,
    so the fully qualified path pyxis prints for it resolves -/
theorem printed_paths_exist (reg : Registry) (scope : List Path) (g : G.Ty) (t : DTy)
    (h : reg.resolveTy scope g = .ok t) : ∀ p ∈ rawPaths t, reg.contains p = true := by
  refine C09.resolveTy_ok_induct (P := fun _ t => ∀ p ∈ rawPaths t, reg.contains p = true) ?_ ?_ ?_ ?_ ?_ h
  · intro s t ht q hq
    obtain ⟨p, rfl, _, hp⟩ := C09.resolveString_answer ht
    rw [List.mem_singleton.mp hq]; exact hp
  · intro n t ht q hq
    obtain ⟨rfl, hp⟩ := C09.paddingType_answer ht
    rw [List.mem_singleton.mp hq]; exact hp
  · exact fun _ _ ih => ih
  · exact fun _ _ ih => ih
  · exact fun _ _ _ ih => ih

end PyxisVerif.C13
