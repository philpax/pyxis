import PyxisVerif.Lemmas.MonoVft
import PyxisVerif.Lemmas.C20E2E
import PyxisVerif.Props.C09Case
/-!
# C09, end to end, for descriptions WITH vftable blocks, when nothing mentions a generated name

`Props/C09Novft.lean` / `Props/C09Case.lean` prove that the result of `SemanticState::build` does not depend on the
resolution priority for descriptions without `vftable` blocks.  With `vftable` blocks the attempt on a type `T`
registers the generated item `<T>Vftable` during the run (`vftable::build`, on the first attempt on which `T`'s field
names resolve and its first `#[base]` field has a known size), the key set of the registry grows, name lookup is not
monotone in the key set, and the unrestricted statement is false (the known counterexamples all MENTION
a generated name: `*const BVftable` in a signature or field, `use a::FooVftable;`, a module path that coincides with a
generated path).

Here the statement is proved under `NoGenRefs` (`Lemmas/MonoVft.lean`): no generated path is a registry key, a module
path or a `use`, and no identifier of a type expression is the last segment of a generated path.  Then the generated
items are write-only during resolution, and any two priorities give the same verdict.

## What "the same verdict" is (`sameVerdictV`), and why it is not `sameVerdict`

`sameVerdict` (of `Lemmas/C09.lean`) asks, on success, for EQUAL module lists and distinguishes an error from a
panic.  With `vftable` blocks both are false, under `NoGenRefs` too (`build_schedule_independent_nogenref_refuted`,
kernel-checked witnesses below):

* `add_item` PREPENDS the generated path to the `defPaths` of its module, so two types with a vftable block in one
  module leave their generated paths in attempt order (`Witness1`).  The module lists agree up to a
  permutation of each module's `defPaths` (`ModsEqv`); every consumer sorts them (`Emit.moduleFile`, `Obs.resolvedS`),
  which is why O2 and O3 are equal (`case_o2_…`, `case_o3_…` below);
* the modelled allocation limit (`makePadding` with more than `paddingLoopBound` slots, a `panic` outcome) and an
  ordinary error can both be there in one description, and which one is met first depends on the order
  (`Witness2`).  `sameVerdictV` identifies the two kinds of failure.  When no vftable block asks for more than
  `paddingLoopBound` = 4 194 304 slots (`Small` / `CaseSmall`, syntactic) no build panics at all
  (`build_np_small`) and the failure kinds agree too: `…_nogenref_small` below, with `sameVerdictM`, which is
  `sameVerdict` except that the module lists are compared up to the order of the definition paths.

The termination test of the loop (`to_resolve == unresolved ∧ item count unchanged`) needs no separate argument: a
round that only registers generated items continues from the same abstract registry with less fuel, and
`C10.resolveLoop_ne_fuel` bounds the rounds.
-/
namespace PyxisVerif.C09
open Mono Work C19

theorem sameVerdictV_refl (x : BuildOutcome) (hm : ∀ s, x = .ok s → ModsEqv s.modules s.modules) :
    sameVerdictV x x := by
  cases x with
  | ok s1 => exact ⟨fun _ => rfl, hm s1 rfl, rfl, List.Perm.refl _⟩
  | nonterm l => exact List.Perm.refl l
  | err m => trivial
  | panic m => trivial
  | fuel => trivial

/-- **the output is a function of the input set, not of the resolution order** (with `vftable` blocks, nothing
    mentioning a generated name): from any state that satisfies the registry invariant (with `isize` literals, as the
    parser produces them), any two priorities give the same verdict -/
theorem build_schedule_independent_nogenref (s : State) (p1 p2 : List Path) (hs : C12.StateOkB s)
    (hg : NoGenRefs s) : sameVerdictV (s.build p1) (s.build p2) := by
  have cx : Ctx s := ⟨hs, hg⟩
  have hn := hs.ok.reg.keys
  obtain ⟨e, he, h1, h2⟩ := (sim_rep cx).loops_agree (attempt_monoV cx) (Rep.init cx) hn p1 p2 _ _
    (build_ne_fuel s hn p1) (build_ne_fuel s hn p2)
  rw [State.build_eq, State.build_eq]
  cases e with
  | total R =>
    obtain ⟨s1, e1, r1, n1⟩ := h1
    obtain ⟨s2, e2, r2, n2⟩ := h2
    rw [e1, e2]
    exact finish_agree r1 r2 he.2 n1 n2
  | stuck R =>
    obtain ⟨s1, e1, r1, n1⟩ := h1
    obtain ⟨s2, e2, r2, n2⟩ := h2
    rw [e1, e2]
    exact (sim_rep cx).unresolved_perm r1 n1 r2 n2 p1 p2
  | failed =>
    obtain ⟨m1, e1 | e1⟩ := h1 <;> obtain ⟨m2, e2 | e2⟩ := h2 <;> rw [e1, e2] <;> trivial

/-- on success: the two final registries have the same entries, and the module lists are equal up to the order of
    the definition paths of each module (`add_item` prepends a generated path to the `defPaths` of its module, so
    they are listed in attempt order; the emitted files sort them) -/
theorem build_ok_unique_nogenref (s : State) (p1 p2 : List Path) (hs : C12.StateOkB s) (hg : NoGenRefs s)
    (s1 s2 : State) (h1 : s.build p1 = .ok s1) (h2 : s.build p2 = .ok s2) :
    (∀ q, s1.reg.get q = s2.reg.get q) ∧ ModsEqv s1.modules s2.modules ∧
      s1.reg.ps = s2.reg.ps ∧ s1.reg.types.Perm s2.reg.types := by
  have h := build_schedule_independent_nogenref s p1 p2 hs hg
  rw [h1, h2] at h
  exact h

/-- `sameVerdict` with the module lists compared up to the order of the definition paths (and the registries' entry
    lists up to a permutation): the kind of failure is the same -/
def sameVerdictM : BuildOutcome → BuildOutcome → Prop
  | .ok s1, .ok s2 => (∀ p, s1.reg.get p = s2.reg.get p) ∧ ModsEqv s1.modules s2.modules ∧
      s1.reg.ps = s2.reg.ps ∧ s1.reg.types.Perm s2.reg.types
  | .nonterm f1, .nonterm f2 => f1.Perm f2
  | .err _, .err _ => True
  | .panic _, .panic _ => True
  | .fuel, .fuel => True
  | _, _ => False

theorem sameVerdictM_of_V {o1 o2 : BuildOutcome} (h : sameVerdictV o1 o2) (h1 : ∀ m, o1 ≠ .panic m)
    (h2 : ∀ m, o2 ≠ .panic m) : sameVerdictM o1 o2 := by
  cases o1 <;> cases o2 <;> first | exact h | exact absurd rfl (h1 _) | exact absurd rfl (h2 _)

/-- … and when no vftable block of an unresolved definition asks for more than `paddingLoopBound` slots no build
    panics, so the two runs fail in the same way if they fail -/
theorem build_schedule_independent_nogenref_small (s : State) (p1 p2 : List Path) (hs : C12.StateOkB s)
    (hg : NoGenRefs s) (hsm : Small s) : sameVerdictM (s.build p1) (s.build p2) :=
  sameVerdictM_of_V (build_schedule_independent_nogenref s p1 p2 hs hg) (build_np_small s p1 hs hsm)
    (build_np_small s p2 hs hsm)

/-- whole case: the verdict does not depend on the priority list.  `CaseNoGenRefs c` (`Lemmas/MonoVft.lean`) is
    syntactic, on the modules of the case: no generated path `<path>::<T>Vftable` (for a type `T` with a vftable block
    written in the module `path`) is the path of an item of the case, the path of a module or a `use`, and no
    identifier of a type expression (field types, enum bases, signatures of vftable and `impl` functions) is
    `<T>Vftable`; the types of extern values are not restricted (they are resolved after the loop) -/
theorem case_schedule_independent_nogenref (c : Case) (prio' : List Path) (hps : c.ps = 4 ∨ c.ps = 8)
    (hb : C12.CaseBounded c) (hg : CaseNoGenRefs c) :
    sameVerdictV c.run ({ c with prio := prio' } : Case).run :=
  run_prio_rel c prio' (fun _ => trivial) (fun _ => trivial) fun s hi =>
    build_schedule_independent_nogenref s c.prio prio' ((C12.initialState_shape c hps hb).2 s hi)
      (initial_noGenRefs c hps hb hg s hi)

/-- whole case, no vftable block asking for more than `paddingLoopBound` slots: the same kind of verdict -/
theorem case_schedule_independent_nogenref_small (c : Case) (prio' : List Path) (hps : c.ps = 4 ∨ c.ps = 8)
    (hb : C12.CaseBounded c) (hg : CaseNoGenRefs c) (hsm : CaseSmall c) :
    sameVerdictM c.run ({ c with prio := prio' } : Case).run :=
  run_prio_rel c prio' (fun _ => trivial) (fun _ => trivial) fun s hi =>
    build_schedule_independent_nogenref_small s c.prio prio' ((C12.initialState_shape c hps hb).2 s hi)
      (initial_noGenRefs c hps hb hg s hi) (initial_small c hps hb hsm s hi)

theorem modsEqv_canon {l1 l2 : List (Path × Mod)} (h : ModsEqv l1 l2) : l2.map C20.canonE = l1.map C20.canonE := by
  induction l1 generalizing l2 with
  | nil =>
    cases l2 with
    | nil => rfl
    | cons b l2 => exact h.elim
  | cons a l1 ih =>
    cases l2 with
    | nil => exact h.elim
    | cons b l2 =>
      obtain ⟨hk, ⟨dp, hm, hp⟩, ht⟩ := h
      simp only [List.map_cons, ih ht, List.cons.injEq, and_true]
      unfold C20.canonE
      rw [hm, ← hk]
      simp only [C20.canonM, C20.sortPaths_perm a.2.defPaths dp hp]

/-- two accepted final states with the same verdict differ in order only: the order of the registry's entry list,
    and the order of the definition paths of each module -/
theorem permS_of_sameVerdictV {s1 s2 : State} (h : sameVerdictV (.ok s1) (.ok s2)) : C20.PermS s1 s2 :=
  ⟨h.2.2.1.symm, fun q => (h.1 q).symm, h.2.2.2.symm, modsEqv_canon h.2.1⟩

/-- whole case: when the case is accepted it is accepted under every priority list, and the two final states differ
    in order only (`C20.PermS`: the same entries, the same modules up to the order of their definition paths) -/
theorem case_output_schedule_independent_nogenref (c : Case) (prio' : List Path) (hps : c.ps = 4 ∨ c.ps = 8)
    (hb : C12.CaseBounded c) (hg : CaseNoGenRefs c) (s : State) (h : c.run = .ok s) :
    ∃ s', ({ c with prio := prio' } : Case).run = .ok s' ∧ C20.PermS s s' := by
  have hv := case_schedule_independent_nogenref c prio' hps hb hg
  rw [h] at hv
  cases h2 : ({ c with prio := prio' } : Case).run with
  | ok s2 => rw [h2] at hv; exact ⟨s2, rfl, permS_of_sameVerdictV hv⟩
  | _ => rw [h2] at hv; exact hv.elim

/-- … in particular the emitted files (O3) are the same: the backend sorts the definition paths of a module -/
theorem case_o3_schedule_independent_nogenref (c : Case) (prio' : List Path) (hps : c.ps = 4 ∨ c.ps = 8)
    (hb : C12.CaseBounded c) (hg : CaseNoGenRefs c) (s : State) (h : c.run = .ok s) :
    ({ c with prio := prio' } : Case).o3 = c.o3 := by
  obtain ⟨s', h2, hp⟩ := case_output_schedule_independent_nogenref c prio' hps hb hg s h
  unfold Case.o3
  rw [h2, h]
  simp only [C20.files_perm hp (C20.WK.run c s h)]

/-- … and so is the resolved registry (O2): the observation sorts the items -/
theorem case_o2_schedule_independent_nogenref (c : Case) (prio' : List Path) (hps : c.ps = 4 ∨ c.ps = 8)
    (hb : C12.CaseBounded c) (hg : CaseNoGenRefs c) (s : State) (h : c.run = .ok s) :
    ({ c with prio := prio' } : Case).o2 = c.o2 := by
  obtain ⟨s', h2, hp⟩ := case_output_schedule_independent_nogenref c prio' hps hb hg s h
  unfold Case.o2
  rw [h2, h]
  exact C20.resolvedS_perm hp (C20.WK.run c s h)

/-! ## the statements with `sameVerdict` are FALSE, under `NoGenRefs` too

`sameVerdict` (of `Lemmas/C09.lean`) asks, on success, for equal module lists, and distinguishes an error from a
panic.  Two kernel-checked witnesses, both satisfying every hypothesis of the theorems above.  Each states what the
kernel evaluates about it once, as a conjunction `evals` (one evaluation: the members share the states). -/

def dpOf : BuildOutcome → Option (List Path)
  | .ok s => (s.getModule ["m"]).map (·.defPaths)
  | _ => none

theorem sameVerdict_dpOf {o1 o2 : BuildOutcome} (h : sameVerdict o1 o2) : dpOf o1 = dpOf o2 := by
  cases o1 <;> cases o2 <;> first | rfl | exact h.elim | skip
  next s1 s2 =>
    have e : s1.modules = s2.modules := h.2
    simp only [dpOf, State.getModule, e]

/-! **witness 1: the order of the definition paths.**  Pointer width 8, one module

```text
// m.pyxis
pub type A { vftable { pub fn f(&self); } }
pub type B { vftable { pub fn g(&self); } }
```

Both types are resolved in the first round under every priority; each attempt registers the generated item of its type,
and `add_item` PREPENDS its path to the `defPaths` of the module `m`.  With priority `[B, A]` the final `defPaths` are
`[AVftable, BVftable, B, A]`, with `[A, B]` they are `[BVftable, AVftable, B, A]`. -/
namespace Witness1

def modM : G.Module :=
  { defs := [
      { vis := .pub, name := "A",
        inner := .type { stmts := [{ field := .vftable [
                                       { vis := .pub, name := "f", attrs := [], args := [.constSelf], ret := none }],
                                     attrs := [] }],
                         attrs := [] } },
      { vis := .pub, name := "B",
        inner := .type { stmts := [{ field := .vftable [
                                       { vis := .pub, name := "g", attrs := [], args := [.constSelf], ret := none }],
                                     attrs := [] }],
                         attrs := [] } }] }

def case : Case :=
  { id := "c09-vft-w1", ps := 8, prio := [["m", "B"], ["m", "A"]], modules := [.ast ["m"] "m.pyxis" modM], extras := [] }

def prio' : List Path := [["m", "A"], ["m", "B"]]

theorem bounded : C12.CaseBounded case := by
  intro path file m hm
  simp only [case, List.mem_cons, List.not_mem_nil, or_false, ModEnt.ast.injEq] at hm
  obtain ⟨_, _, rfl⟩ := hm
  refine ⟨?_, ?_⟩
  · intro d hd
    simp only [modM, List.mem_cons, List.not_mem_nil, or_false] at hd
    rcases hd with rfl | rfl <;> (intro n args z ha; cases ha)
  · intro xt hx; cases hx

def s0 : State := C12.stateOf case.initialState

/-- the run under `case.prio` is accepted, with the generated path of `A` first; the run under `prio'` gives the
    generated path of `B` first -/
theorem evals :
    CaseNoGenRefs case ∧ case.initialState.isOk = true ∧
    (isOkB (runK case) = true ∧
      dpOf (runK case) = some [["m", "AVftable"], ["m", "BVftable"], ["m", "B"], ["m", "A"]]) ∧
    dpOf (runK { case with prio := prio' }) = some [["m", "BVftable"], ["m", "AVftable"], ["m", "B"], ["m", "A"]] := by
  decide +kernel

theorem noGenRefs : CaseNoGenRefs case := evals.1
theorem init : case.initialState = .ok s0 := C12.eq_ok_stateOf _ evals.2.1
theorem run_ok : isOkB case.run = true := by rw [run_eq_runK]; exact evals.2.2.1.1

/-- both runs are accepted, with different definition paths for the module `m` -/
theorem dp1 : dpOf case.run = some [["m", "AVftable"], ["m", "BVftable"], ["m", "B"], ["m", "A"]] := by
  rw [run_eq_runK]; exact evals.2.2.1.2
theorem dp2 : dpOf ({ case with prio := prio' } : Case).run
    = some [["m", "BVftable"], ["m", "AVftable"], ["m", "B"], ["m", "A"]] := by
  rw [run_eq_runK]; exact evals.2.2.2

end Witness1

/-! **witness 2: an error or the modelled allocation limit, whichever comes first.**  Pointer width 8, one module

```text
// m.pyxis
pub type A { pub x: u32, pub x: u32 }                       // error: two fields of that name
pub type B { vftable { #[index(5000000)] pub fn g(&self); } }  // 5 000 000 > 4 194 304 slots: the modelled allocation limit
```

With priority `[B, A]` the first round ends in `panic "make_padding_functions: unbounded padding loop"`, with `[A, B]` in
`err "type has more than one field of that name"`. -/
namespace Witness2

def modM : G.Module :=
  { defs := [
      { vis := .pub, name := "A",
        inner := .type { stmts := [{ field := .field .pub "x" (.ident "u32"), attrs := [] },
                                   { field := .field .pub "x" (.ident "u32"), attrs := [] }],
                         attrs := [] } },
      { vis := .pub, name := "B",
        inner := .type { stmts := [{ field := .vftable [
                                       { vis := .pub, name := "g", attrs := [.fn "index" [.int 5000000]],
                                         args := [.constSelf], ret := none }],
                                     attrs := [] }],
                         attrs := [] } }] }

def case : Case :=
  { id := "c09-vft-w2", ps := 8, prio := [["m", "B"], ["m", "A"]], modules := [.ast ["m"] "m.pyxis" modM], extras := [] }

def prio' : List Path := [["m", "A"], ["m", "B"]]

theorem bounded : C12.CaseBounded case := by
  intro path file m hm
  simp only [case, List.mem_cons, List.not_mem_nil, or_false, ModEnt.ast.injEq] at hm
  obtain ⟨_, _, rfl⟩ := hm
  refine ⟨?_, ?_⟩
  · intro d hd
    simp only [modM, List.mem_cons, List.not_mem_nil, or_false] at hd
    rcases hd with rfl | rfl <;> (intro n args z ha; cases ha)
  · intro xt hx; cases hx

/-- the run under `case.prio` ends in the modelled allocation limit, the run under `prio'` in the error -/
theorem evals :
    CaseNoGenRefs case ∧
    runK case = .panic C12.allocSite ∧
    runK { case with prio := prio' } = .err "type has more than one field of that name" := by
  decide +kernel

theorem noGenRefs : CaseNoGenRefs case := evals.1

theorem run1 : case.run = .panic C12.allocSite := run_of_runK evals.2.1

theorem run2 : ({ case with prio := prio' } : Case).run = .err "type has more than one field of that name" :=
  run_of_runK evals.2.2

end Witness2

/-- REFUTED: `case_schedule_independent_nogenref` with `sameVerdict` in place of `sameVerdictV`.  Witness 1: both runs are
    accepted and the module lists differ in the order of the definition paths. -/
theorem case_schedule_independent_nogenref_refuted :
    ¬ ∀ (c : Case) (prio' : List Path), (c.ps = 4 ∨ c.ps = 8) → C12.CaseBounded c → CaseNoGenRefs c →
      sameVerdict c.run ({ c with prio := prio' } : Case).run := by
  intro H
  have h := sameVerdict_dpOf (H Witness1.case Witness1.prio' (Or.inr rfl) Witness1.bounded Witness1.noGenRefs)
  rw [Witness1.dp1, Witness1.dp2] at h
  exact absurd h (by decide)

/-- REFUTED, second reason: an error under one priority, the modelled allocation limit under the other (witness 2) -/
theorem case_schedule_independent_nogenref_refuted_panic :
    ¬ ∀ (c : Case) (prio' : List Path), (c.ps = 4 ∨ c.ps = 8) → C12.CaseBounded c → CaseNoGenRefs c →
      sameVerdict c.run ({ c with prio := prio' } : Case).run := by
  intro H
  have h := H Witness2.case Witness2.prio' (Or.inr rfl) Witness2.bounded Witness2.noGenRefs
  rw [Witness2.run1, Witness2.run2] at h
  exact h

/-- REFUTED: the state-level statement with `sameVerdict` (the initial state of witness 1 satisfies `C12.StateOkB` and
    `NoGenRefs`) -/
theorem build_schedule_independent_nogenref_refuted :
    ¬ ∀ (s : State) (p1 p2 : List Path), C12.StateOkB s → NoGenRefs s → sameVerdict (s.build p1) (s.build p2) := by
  intro H
  have hok : C12.StateOkB Witness1.s0 :=
    (C12.initialState_shape Witness1.case (Or.inr rfl) Witness1.bounded).2 _ Witness1.init
  have hng : NoGenRefs Witness1.s0 :=
    initial_noGenRefs Witness1.case (Or.inr rfl) Witness1.bounded Witness1.noGenRefs _ Witness1.init
  have h := sameVerdict_dpOf (H Witness1.s0 Witness1.case.prio Witness1.prio' hok hng)
  rw [← Case.run_of_init Witness1.init,
    ← Case.run_of_init (c := { Witness1.case with prio := Witness1.prio' }) Witness1.init,
    Witness1.dp1, Witness1.dp2] at h
  exact absurd h (by decide)

/-- … and the theorems proved above apply to the witnesses: the emitted files and the resolved-registry observation of
    witness 1 are the same under both priorities although the module lists are not -/
example : ({ Witness1.case with prio := Witness1.prio' } : Case).o3 = Witness1.case.o3 ∧
    ({ Witness1.case with prio := Witness1.prio' } : Case).o2 = Witness1.case.o2 := by
  obtain ⟨s, hs⟩ := (isOkB_iff _).mp Witness1.run_ok
  exact ⟨case_o3_schedule_independent_nogenref _ _ (Or.inr rfl) Witness1.bounded Witness1.noGenRefs s hs,
    case_o2_schedule_independent_nogenref _ _ (Or.inr rfl) Witness1.bounded Witness1.noGenRefs s hs⟩

/-! ## non-vacuity: a concrete case that satisfies every hypothesis and is accepted

Pointer width 8, one module with a base that has a vftable block, a derived type with its own block extending it, and
a third type with a pointer to the derived type:

```text
// m.pyxis
pub type B { vftable { pub fn v(&self, x: u32); }  pub n: u64 }
pub type D { vftable { pub fn v(&self, x: u32); pub fn w(&mut self) -> u32; }  #[base] pub b: B,  pub z: u64 }
pub type P { pub d: *const D, pub k: u32, pub k2: u32 }
#[address(0x2000)] pub extern d_table: *const DVftable;
```

(the extern value MENTIONS a generated name: extern values are resolved after the loop, in the final registry, and are
not restricted by `CaseNoGenRefs`) with the priority `[P, D, B]`, the worst one: in round 1 `P` is resolved at once (a pointer does not wait for its
pointee), `D` has to wait for the size of its base `B` (and does not get as far as `vftable::build`), `B` registers
`m::BVftable` and is resolved; in round 2 `D` registers `m::DVftable`, finds the table of `B` to be a prefix of its own
and is resolved (size 24: the 16 bytes of `B`, which start with `B`'s vftable pointer, and `z`); a third round sees
that nothing is left.  The generated paths are `m::BVftable` and `m::DVftable`; nothing mentions them
(`CaseNoGenRefs`, decided by the kernel).  The states between the rounds have names (`s1`, `s2`: other files speak of
them), so the loop is stepped through round by round, from facts that are evaluated together (`evals`). -/
namespace VftExample

def modM : G.Module :=
  { defs := [
      { vis := .pub, name := "B",
        inner := .type { stmts := [{ field := .vftable [
                                       { vis := .pub, name := "v", attrs := [],
                                         args := [.constSelf, .named "x" (.ident "u32")], ret := none }],
                                     attrs := [] },
                                   { field := .field .pub "n" (.ident "u64"), attrs := [] }],
                         attrs := [] } },
      { vis := .pub, name := "D",
        inner := .type { stmts := [{ field := .vftable [
                                       { vis := .pub, name := "v", attrs := [],
                                         args := [.constSelf, .named "x" (.ident "u32")], ret := none },
                                       { vis := .pub, name := "w", attrs := [], args := [.mutSelf],
                                         ret := some (.ident "u32") }],
                                     attrs := [] },
                                   { field := .field .pub "b" (.ident "B"), attrs := [.ident "base"] },
                                   { field := .field .pub "z" (.ident "u64"), attrs := [] }],
                         attrs := [] } },
      { vis := .pub, name := "P",
        inner := .type { stmts := [{ field := .field .pub "d" (.cptr (.ident "D")), attrs := [] },
                                   { field := .field .pub "k" (.ident "u32"), attrs := [] },
                                   { field := .field .pub "k2" (.ident "u32"), attrs := [] }],
                         attrs := [] } }],
    xvals := [{ vis := .pub, name := "d_table", ty := .cptr (.ident "DVftable"),
                attrs := [.fn "address" [.int 0x2000]] }] }

def prio : List Path := [["m", "P"], ["m", "D"], ["m", "B"]]

def case : Case :=
  { id := "c09-vft", ps := 8, prio := prio, modules := [.ast ["m"] "m.pyxis" modM], extras := [] }

theorem bounded : C12.CaseBounded case := by
  intro path file m hm
  simp only [case, List.mem_cons, List.not_mem_nil, or_false, ModEnt.ast.injEq] at hm
  obtain ⟨_, _, rfl⟩ := hm
  refine ⟨?_, ?_⟩
  · intro d hd
    simp only [modM, List.mem_cons, List.not_mem_nil, or_false] at hd
    rcases hd with rfl | rfl | rfl <;> (intro n args z ha; cases ha)
  · intro xt hx; cases hx

/-- no `#[index]` / `#[size]` at all -/
theorem small : CaseSmall case := by
  intro path file m hm d hd
  simp only [case, List.mem_cons, List.not_mem_nil, or_false, ModEnt.ast.injEq] at hm
  obtain ⟨_, _, rfl⟩ := hm
  have nil : ∀ name, AttrSmall name [] := fun _ args z ha => by cases ha
  simp only [modM, List.mem_cons, List.not_mem_nil, or_false] at hd
  rcases hd with rfl | rfl | rfl
  · intro st hst
    simp only [List.mem_cons, List.not_mem_nil, or_false] at hst
    rcases hst with rfl | rfl
    · refine ⟨nil _, fun f hf => ?_⟩
      simp only [List.mem_cons, List.not_mem_nil, or_false] at hf
      subst hf
      exact nil _
    · trivial
  · intro st hst
    simp only [List.mem_cons, List.not_mem_nil, or_false] at hst
    rcases hst with rfl | rfl | rfl
    · refine ⟨nil _, fun f hf => ?_⟩
      simp only [List.mem_cons, List.not_mem_nil, or_false] at hf
      rcases hf with rfl | rfl <;> exact nil _
    · trivial
    · trivial
  · intro st hst
    simp only [List.mem_cons, List.not_mem_nil, or_false] at hst
    rcases hst with rfl | rfl | rfl <;> trivial

example : case.ps = 4 ∨ case.ps = 8 := Or.inr rfl

/-- the state after `add_module` … -/
def s0 : State := C12.stateOf case.initialState
/-- … after round 1 (`P` resolved, `D` deferred, `B` resolved and `m::BVftable` registered) … -/
def s1 : State := (runRound s0 [["m", "P"], ["m", "D"], ["m", "B"]]).1
/-- … and after round 2 (`D` resolved and `m::DVftable` registered) -/
def s2 : State := (runRound s1 [["m", "D"]]).1

/-- The generated paths of the case, and nothing mentions them.  The run ends with the extern-value pass on `s2`, which
    accepts.  What it leaves: the extern value got the generated type; both generated items are registered in the final registry; `D` has size 24,
    which needs `B` (16); the generated paths were prepended to the definition paths of `m` in attempt order. -/
theorem evals :
    (caseGenPaths case = [["m", "BVftable"], ["m", "DVftable"]] ∧ CaseNoGenRefs case) ∧
    (case.initialState.isOk = true ∧ runK case = finish s2 ∧ isOkB (finish s2) = true) ∧
    genPaths s0 = [["m", "DVftable"], ["m", "BVftable"]] ∧
    (match finish s2 with
      | .ok s => (s.getModule ["m"]).map (fun m => m.xvals.map (·.ty))
      | _ => none) = some [some (.cptr (.raw ["m", "DVftable"]))] ∧
    (s2.reg.contains ["m", "BVftable"] = true ∧ s2.reg.contains ["m", "DVftable"] = true) ∧
    (s2.reg.get ["m", "D"]).bind (fun i => i.resolved?.map (·.size)) = some 24 ∧
    (s2.reg.get ["m", "P"]).bind (fun i => i.resolved?.map (·.size)) = some 16 ∧
    (s2.getModule ["m"]).map (·.defPaths)
      = some [["m", "DVftable"], ["m", "BVftable"], ["m", "P"], ["m", "D"], ["m", "B"]] := by
  decide +kernel

/-- the generated paths of the case … -/
example : caseGenPaths case = [["m", "BVftable"], ["m", "DVftable"]] := evals.1.1

/-- … and nothing mentions them -/
theorem noGenRefs : CaseNoGenRefs case := evals.1.2

theorem init : case.initialState = .ok s0 := C12.eq_ok_stateOf _ evals.2.1.1

/-- the condition on the initial state holds (by the theorem, and decided directly) -/
example : NoGenRefs s0 := initial_noGenRefs case (Or.inr rfl) bounded noGenRefs s0 init
example : genPaths s0 = [["m", "DVftable"], ["m", "BVftable"]] := evals.2.2.1

theorem run_eq : case.run = finish s2 := run_of_runK evals.2.1.2.1

/-- the case is accepted -/
theorem run_ok : isOkB case.run = true := by
  rw [run_eq]
  exact evals.2.1.2.2

/-- the extern value got the generated type -/
example : (match finish s2 with
    | .ok s => (s.getModule ["m"]).map (fun m => m.xvals.map (·.ty))
    | _ => none) = some [some (.cptr (.raw ["m", "DVftable"]))] := evals.2.2.2.1

/-- both generated items are registered in the final registry; `D` has size 24, which needs `B` (16) -/
example : s2.reg.contains ["m", "BVftable"] = true ∧ s2.reg.contains ["m", "DVftable"] = true := evals.2.2.2.2.1
example : (s2.reg.get ["m", "D"]).bind (fun i => i.resolved?.map (·.size)) = some 24 := evals.2.2.2.2.2.1
example : (s2.reg.get ["m", "P"]).bind (fun i => i.resolved?.map (·.size)) = some 16 := evals.2.2.2.2.2.2.1
/-- the generated paths were prepended to the definition paths of `m` in attempt order -/
example : (s2.getModule ["m"]).map (·.defPaths)
    = some [["m", "DVftable"], ["m", "BVftable"], ["m", "P"], ["m", "D"], ["m", "B"]] := evals.2.2.2.2.2.2.2

/-- the theorems apply to it: every priority list gives an accepted state that differs in order only, the same
    registry observation and the same files -/
theorem any_prio (prio' : List Path) :
    isOkB ({ case with prio := prio' } : Case).run = true ∧
    sameVerdictM case.run ({ case with prio := prio' } : Case).run ∧
    ({ case with prio := prio' } : Case).o2 = case.o2 ∧
    ({ case with prio := prio' } : Case).o3 = case.o3 := by
  obtain ⟨s, hs⟩ := (isOkB_iff _).mp run_ok
  refine ⟨?_, case_schedule_independent_nogenref_small case prio' (Or.inr rfl) bounded noGenRefs small, ?_, ?_⟩
  · obtain ⟨s', hs', _⟩ := case_output_schedule_independent_nogenref case prio' (Or.inr rfl) bounded noGenRefs s hs
    rw [hs']; rfl
  · exact case_o2_schedule_independent_nogenref case prio' (Or.inr rfl) bounded noGenRefs s hs
  · exact case_o3_schedule_independent_nogenref case prio' (Or.inr rfl) bounded noGenRefs s hs

end VftExample

end PyxisVerif.C09
