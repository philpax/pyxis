import PyxisVerif.Spec.C02
import PyxisVerif.Spec.C08
import PyxisVerif.Lemmas.C02
import PyxisVerif.Props.C02Global
/-!
# C02 – resolved size and alignment equal the compiler's for every emitted type

Per kind of emitted item: primitives (`init_sound`), structs (`struct_sound`, from C01's
`rustc_offsets`), enums (`enum_sound`), generated vftable structs (`vftable_sound`); and the glue:
the size and alignment pyxis uses when it *embeds* a type are the ones it recorded for that type
(`embedding_uses_recorded`), which is what the compiler uses too (`tyLayout`).
-/
namespace PyxisVerif.C02
open Layout Gen

/-- **primitives**: pyxis's table of predefined types (generated from the Rust source) gives every
    primitive the compiler's size and alignment; the only other entry is `void` -/
theorem init_sound :
    ∀ e ∈ predefinedTypes, e.1 = "void" ∨ (e.1, e.2, predefinedAlign e.2) ∈ primLayout :=
  init_sound'

theorem init_complete : ∀ e ∈ primLayout, (e.1, e.2.1) ∈ predefinedTypes := by
  decide

/-- the size / alignment pyxis computes for a type expression are the modelled compiler's, computed
    from the layouts recorded in the registry -/
theorem embedding_uses_recorded (reg : Registry) (t : DTy) (s a : Nat)
    (hs : t.size reg = .ok (some s)) (ha : t.align reg = some a) :
    tyLayout reg.ps (regLayout reg) t = some (s, a) := by
  revert a
  refine DTy.size_induct (P := fun t s => ∀ a, t.align reg = some a → tyLayout reg.ps (regLayout reg) t = some (s, a))
    ?_ ?_ ?_ ?_ hs
  · intro p i res hg hst a ha
    rw [DTy.align_raw hg hst] at ha
    cases ha
    simp only [tyLayout, regLayout, hg, Option.bind_some, ItemDef.resolved?_of_res hst, Option.map_some]
  · intro t a ha; cases ha; rfl
  · intro t a ha; cases ha; rfl
  · intro t n s _ _ ih a ha
    simp only [tyLayout, ih a ha, Option.map_some]

/-- **structs**: for an accepted type, the compiler's `repr(C)` size and alignment of the emitted struct
    (fields = the placed regions with the layouts pyxis recorded for their types, `align(a)` or
    `packed` as emitted) are the resolved size and alignment; a declared `#[size(N)]` is the compiled
    size, a declared `#[align(N)]` the compiled alignment, `#[packed]` gives alignment 1 -/
theorem struct_sound {β} (ps : Nat) (packed : Bool) (align? : Option Nat)
    (vptr : Option (PField β)) (fields : List (PField β)) (target : Option Nat)
    (placed : List (Placed β)) (size a : Nat)
    (h : resolve vptr fields target = .ok (placed, size))
    (ha : alignCheck ps packed align? placed size = .ok a) :
    RustSem.structSize packed (if packed then none else some a) (placed.map C01.toFld) = size
    ∧ RustSem.structAlign packed (if packed then none else some a) (placed.map C01.toFld) = a
    ∧ (∀ n, target = some n → size = n)
    ∧ (∀ n, align? = some n → a = n)
    ∧ (packed = true → a = 1) := by
  exact struct_sound_lem ps packed align? vptr fields target placed size a h ha

/-- the fields handed to the compiler carry the layouts recorded in the registry: a placed source
    region's size and alignment are `Type::size` / `Type::alignment` of its type -/
theorem placed_layouts (reg : Registry) (vptr : Option Region) (pending : List (Option Nat × Region))
    (target : Option Nat) (placed : List (Placed Region)) (size : Nat)
    (h : resolve (vptr.map (toPField reg none)) (pending.map fun p => toPField reg p.1 p.2) target = .ok (placed, size)) :
    ∀ pl ∈ placed, ∀ r, pl.src = some r → r.ty.size reg = .ok (some pl.size) ∧ r.ty.align reg = pl.align := by
  exact placed_layouts_lem reg vptr pending target placed size h

/-- **enums**: an accepted enum has the size and alignment of its base integer type in the compiler's table
    (`hreg`: the ten integer names still denote the predefined types, i.e. nobody registered a root-level
    item under such a name – impossible through `pyxis::build`, whose modules all have non-empty paths) -/
theorem enum_sound (s : State) (p : Path) (d : G.EnumDef) (r : Resolved)
    (hreg : ∀ e ∈ C08.intTypes, s.reg.get [e.1] = (State.new s.reg.ps).reg.get [e.1])
    (h : buildEnum s p d = .ok r) :
    ∃ ed name, r.inner = .enum ed ∧ ed.ty = .raw [name] ∧ (name, r.size, r.align) ∈ primLayout := by
  exact enum_sound_lem s p d r hreg h

/-- **generated vftable structs**: `slots * ps` bytes, pointer-aligned, for the compiler as for pyxis -/
theorem vftable_sound (ps n : Nat) (hps : 0 < ps) :
    RustSem.structSize false (some ps) (List.replicate n ⟨ps, ps⟩) = n * ps
    ∧ RustSem.structAlign false (some ps) (List.replicate n ⟨ps, ps⟩) = ps := by
  exact vftable_sound_lem ps n hps

/-- the emitted size check transmutes between the resolved size and the item, and is present for every
    non-zero size -/
theorem size_check_emitted (reg : Registry) (path : Path) (size align : Nat) (vis : Vis) (td : TypeDefn) :
    (size > 0 → Sexp.mk "sizecheck" [.str (fmtSizeCheck (path.getLast?.getD "")), .str (path.getLast?.getD ""), .int size]
        ∈ Emit.typeItems reg path size align vis td) := by
  intro h
  unfold Emit.typeItems
  simp only [h, if_true]
  simp

end PyxisVerif.C02
