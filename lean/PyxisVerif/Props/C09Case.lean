import PyxisVerif.Props.C09Novft
/-!
# C09 for whole cases, for descriptions without vftable blocks

`Props/C09Novft.lean` proves, for a *state* of the vftable-free fragment, that `SemanticState::build`
gives the same verdict under any two resolution priorities.  Here that theorem is lifted to whole
cases (`Case.run`: `SemanticState::new`, `add_module` for every module, `build`): the fragment is
established by `SemanticState::new` (the predefined types are resolved and have no vftable) and kept by
`add_module` (the new unresolved items are the module's definitions, the new resolved items are extern
types without vftable), and the registry invariant `C12.StateOkB` comes from `C12`.

On success the two final states are equal (not only their registry lookups and modules), hence so is
every observation made on them (`Case.o2`, `Case.o3`).

The definitions `ModNoVft`, `CaseNoVft` are in `Lemmas/C09Case.lean`:

* `ModNoVft m`   – every definition of `m` that is a type has only `.field` statements;
* `CaseNoVft c`  – every module of `c` is an AST module (`ModEnt.ast`) satisfying `ModNoVft`;
  a text module makes it false (`Case.initialState` rejects text modules anyway).
-/
namespace PyxisVerif.C09

/-- a build that is accepted under one priority is accepted under every other, with the same final state:
    the two loops end in `stateOf` of the same total registry -/
theorem build_ok_novft (s : State) (p1 p2 : List Path) (hs : C12.StateOkB s) (hv : NoVft s) (s1 : State)
    (h1 : s.build p1 = .ok s1) : s.build p2 = .ok s1 := by
  have hn := hs.ok.reg.keys
  obtain ⟨e, _, e1, e2⟩ := Mono.loops_agree s hs (noVftS_of_noVft hv) p1 p2 _ _
    (Mono.build_ne_fuel s hn p1) (Mono.build_ne_fuel s hn p2)
  rw [State.build_eq] at h1 ⊢
  cases e with
  | total R =>
    obtain ⟨t1, e1, rfl, _⟩ := e1
    obtain ⟨t2, e2, rfl, _⟩ := e2
    rw [e2, ← e1]
    exact h1
  | stuck R =>
    obtain ⟨t1, e1, _⟩ := e1
    rw [e1] at h1; cases h1
  | failed =>
    obtain ⟨m, e1 | e1⟩ := e1
    · rw [e1] at h1; cases h1
    · rw [e1] at h1; cases h1

/-- state level: on success the two final states are EQUAL -/
theorem build_ok_unique_novft (s : State) (p1 p2 : List Path) (hs : C12.StateOkB s) (hv : NoVft s)
    (hr : NoVftResolved s) (s1 s2 : State) (h1 : s.build p1 = .ok s1) (h2 : s.build p2 = .ok s2) :
    s1 = s2 := by
  have _ := hr
  have h := build_ok_novft s p1 p2 hs hv s1 h1
  rw [h2] at h
  cases h
  rfl

/-- whole case: the verdict does not depend on the priority list -/
theorem case_schedule_independent_novft (c : Case) (prio' : List Path) (hps : c.ps = 4 ∨ c.ps = 8)
    (hb : C12.CaseBounded c) (hv : CaseNoVft c) :
    sameVerdict c.run ({ c with prio := prio' } : Case).run := by
  refine run_prio_rel c prio' (fun _ => trivial) (fun _ => trivial) (fun s hi => ?_)
  have hcl := initialState_clean c hv s hi
  exact build_schedule_independent_novft s c.prio prio' ((C12.initialState_shape c hps hb).2 s hi)
    hcl.noVft hcl.noVftResolved

/-- whole case: when the case is accepted, the final state – hence the emitted files (observation O3)
    and the resolved registry (O2) – is the same for every priority list -/
theorem case_output_schedule_independent_novft (c : Case) (prio' : List Path) (hps : c.ps = 4 ∨ c.ps = 8)
    (hb : C12.CaseBounded c) (hv : CaseNoVft c) (s : State) (h : c.run = .ok s) :
    ({ c with prio := prio' } : Case).run = .ok s := by
  obtain ⟨s0, hi, hbuild⟩ := Case.run_ok_inv h
  rw [run_eq_build hi]
  exact build_ok_novft s0 c.prio prio' ((C12.initialState_shape c hps hb).2 s0 hi)
    (initialState_clean c hv s0 hi).noVft s hbuild

/-- … in particular the resolved registry (O2) is the same -/
theorem case_o2_schedule_independent_novft (c : Case) (prio' : List Path) (hps : c.ps = 4 ∨ c.ps = 8)
    (hb : C12.CaseBounded c) (hv : CaseNoVft c) (s : State) (h : c.run = .ok s) :
    ({ c with prio := prio' } : Case).o2 = c.o2 := by
  unfold Case.o2
  rw [case_output_schedule_independent_novft c prio' hps hb hv s h, h]

/-- … and so are the emitted files (O3) -/
theorem case_o3_schedule_independent_novft (c : Case) (prio' : List Path) (hps : c.ps = 4 ∨ c.ps = 8)
    (hb : C12.CaseBounded c) (hv : CaseNoVft c) (s : State) (h : c.run = .ok s) :
    ({ c with prio := prio' } : Case).o3 = c.o3 := by
  unfold Case.o3
  rw [case_output_schedule_independent_novft c prio' hps hb hv s h, h]


/-! ## non-vacuity: a concrete case that satisfies every hypothesis and is accepted

Pointer width 8, two AST modules whose types reference each other across modules:

```text
// a.pyxis                                  // b.pyxis
use b::B;                                   use a::A;
pub enum Kind: u32 { X = 0, Y }             pub type B { pub a: A, pub n: u64 }
#[align(8)]
pub type A { pub b: *const B, pub kind: Kind, count: u32 }
```

with the priority `[b::B, a::A]`, the worst one: `B` is attempted first and has to wait for `A`, `A` has to
wait for `Kind`, so the build takes three rounds (`Kind`; `A`; `B`) and a fourth to see that nothing is left.
The hypotheses are proved; that the run is accepted is one kernel evaluation of `C09.runK` (`Lemmas/KernelRun.lean`). -/
namespace Example

def modA : G.Module :=
  { uses := [["b", "B"]],
    defs := [
      { vis := .pub, name := "Kind",
        inner := .enum { ty := .ident "u32",
                         stmts := [{ name := "X", expr := some (.int 0), attrs := [] },
                                   { name := "Y", expr := none, attrs := [] }],
                         attrs := [] } },
      { vis := .pub, name := "A",
        inner := .type { stmts := [{ field := .field .pub "b" (.cptr (.ident "B")), attrs := [] },
                                   { field := .field .pub "kind" (.ident "Kind"), attrs := [] },
                                   { field := .field .priv "count" (.ident "u32"), attrs := [] }],
                         attrs := [.fn "align" [.int 8]] } }] }

def modB : G.Module :=
  { uses := [["a", "A"]],
    defs := [
      { vis := .pub, name := "B",
        inner := .type { stmts := [{ field := .field .pub "a" (.ident "A"), attrs := [] },
                                   { field := .field .pub "n" (.ident "u64"), attrs := [] }],
                         attrs := [] } }] }

def case : Case :=
  { id := "c09-novft", ps := 8, prio := [["b", "B"], ["a", "A"]],
    modules := [.ast ["a"] "a.pyxis" modA, .ast ["b"] "b.pyxis" modB], extras := [] }

theorem modA_bounded : C12.ModuleBounded modA := by
  refine ⟨?_, ?_⟩
  · intro d hd
    simp only [modA, List.mem_cons, List.not_mem_nil, or_false] at hd
    rcases hd with rfl | rfl
    · trivial
    · intro n args z ha hz
      simp only [List.mem_cons, List.not_mem_nil, or_false, G.Attr.fn.injEq] at ha
      obtain ⟨_, rfl⟩ := ha
      simp only [List.mem_cons, List.not_mem_nil, or_false, G.Expr.int.injEq] at hz
      subst hz
      decide
  · intro xt hx; cases hx

theorem modB_bounded : C12.ModuleBounded modB := by
  refine ⟨?_, ?_⟩
  · intro d hd
    simp only [modB, List.mem_cons, List.not_mem_nil, or_false] at hd
    subst hd
    intro n args z ha; cases ha
  · intro xt hx; cases hx

theorem modA_noVft : ModNoVft modA := by
  intro d hd
  simp only [modA, List.mem_cons, List.not_mem_nil, or_false] at hd
  rcases hd with rfl | rfl
  · trivial
  · intro st hst
    simp only [List.mem_cons, List.not_mem_nil, or_false] at hst
    rcases hst with rfl | rfl | rfl <;> trivial

theorem modB_noVft : ModNoVft modB := by
  intro d hd
  simp only [modB, List.mem_cons, List.not_mem_nil, or_false] at hd
  subst hd
  intro st hst
  simp only [List.mem_cons, List.not_mem_nil, or_false] at hst
  rcases hst with rfl | rfl <;> trivial

theorem case_hyps : C12.CaseBounded case ∧ CaseNoVft case := by
  refine ⟨?_, ?_⟩
  · intro path file m hm
    simp only [case, List.mem_cons, List.not_mem_nil, or_false, ModEnt.ast.injEq] at hm
    rcases hm with ⟨_, _, rfl⟩ | ⟨_, _, rfl⟩
    · exact modA_bounded
    · exact modB_bounded
  · intro me hme
    simp only [case, List.mem_cons, List.not_mem_nil, or_false] at hme
    rcases hme with rfl | rfl
    · exact modA_noVft
    · exact modB_noVft

example : C12.CaseBounded case ∧ CaseNoVft case := case_hyps

example : case.ps = 4 ∨ case.ps = 8 := Or.inr rfl

/-- the state after `add_module` of both modules … -/
def s0 : State := C12.stateOf case.initialState
/-- … after round 1 (`B` and `A` deferred, `Kind` resolved) … -/
def s1 : State := (runRound s0 [["b", "B"], ["a", "A"], ["a", "Kind"]]).1
/-- … after round 2 (`B` deferred, `A` resolved) … -/
def s2 : State := (runRound s1 [["b", "B"], ["a", "A"]]).1
/-- … and after round 3 (`B` resolved) -/
def s3 : State := (runRound s2 [["b", "B"]]).1

theorem init : case.initialState = .ok s0 := C12.eq_ok_stateOf _ (by decide +kernel)

theorem run_ok : isOkB case.run = true := by
  rw [run_eq_okState (c := case) (by decide +kernel)]; rfl

example : (match case.run with | .ok _ => true | _ => false) = true := by
  obtain ⟨s, hs⟩ := (isOkB_iff _).mp run_ok
  rw [hs]

/-- all three items are resolved in the final registry: `B` with size 24, which needs `A` (16) and
    `Kind` (4) from the other module -/
example : (s3.reg.get ["b", "B"]).bind (fun i => i.resolved?.map (·.size)) = some 24 := by decide +kernel

/-- the theorems apply to it: every priority list gives the same accepted state, the same registry
    observation and the same files -/
theorem any_prio (prio' : List Path) :
    isOkB ({ case with prio := prio' } : Case).run = true ∧
    ({ case with prio := prio' } : Case).o2 = case.o2 ∧
    ({ case with prio := prio' } : Case).o3 = case.o3 := by
  obtain ⟨s, hs⟩ := (isOkB_iff _).mp run_ok
  refine ⟨?_, ?_, ?_⟩
  · rw [case_output_schedule_independent_novft case prio' (Or.inr rfl) case_hyps.1 case_hyps.2 s hs]
    rfl
  · exact case_o2_schedule_independent_novft case prio' (Or.inr rfl) case_hyps.1 case_hyps.2 s hs
  · exact case_o3_schedule_independent_novft case prio' (Or.inr rfl) case_hyps.1 case_hyps.2 s hs

end Example

end PyxisVerif.C09
