import PyxisVerif.Spec.C09
import PyxisVerif.Lemmas.C09
import PyxisVerif.Lemmas.C10
import PyxisVerif.Lemmas.C12
import PyxisVerif.Lemmas.Worklist
/-!
# The concrete attempt of pyxis as an attempt of the abstract worklist, and the link between `resolveLoop` and
`Work.Run`

What the attempt on one item reads of the registry is monotone along `RegLe` (a final answer does not change when
more items are resolved; `Stab`).  `attempt s0 R k` is the attempt on item `k` in `stateOf s0 R`, the initial state
with the definitions resolved as the abstract registry `R` says.  The resolution loop, started in any state that
stands for `R` (`Sim`), is a run of the abstract worklist, and the outcomes of two loops show the same end of that
run (`Sim.loops_agree`).  `Lemmas/MonoVft.lean` has the two instances of `Sim` and the proof that the attempt is
`Work.Mono`.
-/
namespace PyxisVerif.Mono
open C09 Work Layout

/-- `y` is the answer after more items were resolved: a final answer (`ok`, `err`, `panic`) never changes -/
def Stab {α} (x y : Res α) : Prop := x ≠ .defer → y = x

theorem Stab.rfl' {α} (x : Res α) : Stab x x := fun _ => rfl
theorem Stab.of_eq {α} {x y : Res α} (h : y = x) : Stab x y := fun _ => h
theorem Stab.defer {α} (y : Res α) : Stab .defer y := fun h => absurd rfl h

theorem Stab.elim {α} {x y : Res α} (h : Stab x y) : x = .defer ∨ y = x := by
  by_cases e : x = .defer
  · exact .inl e
  · exact .inr (h e)

theorem Stab.bind {α β} {x y : Res α} {k k' : α → Res β} (h : Stab x y)
    (hk : ∀ a, x = .ok a → Stab (k a) (k' a)) : Stab (x.bind k) (y.bind k') := by
  rcases h.elim with rfl | rfl
  · exact Stab.defer _
  · cases y with
    | ok a => exact hk a rfl
    | _ => exact Stab.rfl' _

section keys
variable (r r' : Registry) (h : ∀ p, r'.contains p = r.contains p)
include h

theorem resolveTy_fun : r'.resolveTy = r.resolveTy := by
  funext scope t; exact resolveTy_congr (fun q _ => h q)

theorem stmtStep_fun : stmtStep r' = stmtStep r := by
  funext scope acc ist; exact stmtStep_congr acc (fun q _ => h q)

theorem addImplFns_fun : addImplFns r' = addImplFns r := by
  funext scope impl acc; exact addImplFns_congr impl (fun _ _ _ _ q _ => h q) acc

end keys

def KnownD (r : Registry) (t : DTy) : Prop :=
  ∀ p ∈ byValue t, ∃ i res, r.get p = some i ∧ i.resolved? = some res

def KnownR (r : Registry) : RTy → Prop
  | .data t => KnownD r t
  | .fn .. => True

theorem knownD_of_size (r : Registry) (t : DTy) (s : Nat) (h : t.size r = .ok (some s)) : KnownD r t := by
  induction t generalizing s with
  | raw q =>
    intro p hp
    simp only [byValue, List.mem_singleton] at hp
    subst hp
    simp only [DTy.size, Res.ok.injEq] at h
    cases hg : r.get p with
    | none => rw [hg] at h; simp at h
    | some i =>
      rw [hg] at h
      simp only [Option.bind_some, Option.map_eq_some_iff] at h
      obtain ⟨x, hx, _⟩ := h
      exact ⟨i, x, rfl, hx⟩
  | cptr t _ => intro p hp; simp [byValue] at hp
  | mptr t _ => intro p hp; simp [byValue] at hp
  | arr t n ih =>
    simp only [DTy.size] at h
    obtain ⟨o, ho⟩ := DTy.size_ok r t
    rw [ho] at h
    cases o with
    | none => simp at h
    | some s0 => exact ih s0 ho

theorem knownR_of_size (r : Registry) (t : RTy) (s : Nat) (h : t.size r = .ok (some s)) : KnownR r t := by
  cases t with
  | data t => exact knownD_of_size r t s h
  | fn cc args ret => trivial

theorem get_none_mono (r r' : Registry) (hle : RegLe r r') (p : Path) (hi : r.get p = none) : r'.get p = none := by
  have := hle.keys p
  simp only [Registry.contains, hi, Option.isSome_none] at this
  cases hg : r'.get p with
  | none => rfl
  | some i => rw [hg] at this; simp at this

theorem KnownR.seen {r r' : Registry} {t : RTy} (hk : KnownR r t) (hle : C19.ResLe r r') :
    ∀ p ∈ C02.byValueR t, r'.seen p = r.seen p := by
  cases t with
  | data t => exact fun p hp => hle.seen (hk p hp)
  | fn cc args ret => exact fun p hp => nomatch hp

/-- once the size of `t` is known, size and alignment are the same in every registry that keeps the resolved entries -/
theorem dsize_resLe {r r' : Registry} (hps : r'.ps = r.ps) (hle : C19.ResLe r r') {t : DTy} {s : Nat}
    (h : t.size r = .ok (some s)) : t.size r' = t.size r ∧ t.align r' = t.align r :=
  dsize_congr hps (fun p hp => hle.seen (knownD_of_size r t s h p hp))

theorem dsize_mono {r r' : Registry} (hle : RegLe r r') {t : DTy} {s : Nat} (h : t.size r = .ok (some s)) :
    t.size r' = t.size r ∧ t.align r' = t.align r :=
  dsize_resLe hle.ps.symm (.of_regLe hle) h

theorem ralign_of_size (r : Registry) (t : RTy) (s : Nat) (h : t.size r = .ok (some s)) : (t.align r).isSome := by
  cases t with
  | data t =>
    obtain ⟨a, ha⟩ := C12.dsize_align r t s h
    simp [RTy.align, ha]
  | fn cc args ret => rfl

theorem pushField_unknown {β} (st : St β) (f : PField β) (h : f.size = .ok none) : pushField st f = .defer := by
  simp only [pushField, h, push]

theorem placeStep_unknown {β} (st : St β) (f g : PField β) (h : f.size = .ok none) (ha : g.addr = f.addr) :
    C20.placeStep st f = .defer ∨ C20.placeStep st g = C20.placeStep st f := by
  unfold C20.placeStep
  rw [ha]
  cases f.addr with
  | none => left; exact pushField_unknown st f h
  | some a =>
    simp only []
    split
    · right; rfl
    · cases pushPad st (a - st.2) with
      | ok st1 => left; exact pushField_unknown st1 f h
      | _ => right; rfl

theorem place_stab (r r' : Registry) (hle : RegLe r r') (pending : List (Option Nat × Region)) (st : St Region) :
    Stab (place st (pending.map fun p => toPField r p.1 p.2)) (place st (pending.map fun p => toPField r' p.1 p.2)) := by
  induction pending generalizing st with
  | nil => exact Stab.rfl' _
  | cons p ps ih =>
    simp only [List.map_cons]
    rw [C20.place_cons, C20.place_cons]
    refine Stab.bind ?_ (fun st2 _ => ih st2)
    obtain ⟨o, ho⟩ := RTy.size_ok r p.2.ty
    cases o with
    | some s =>
      rw [toPField_congr hle.ps.symm p.1 ((knownR_of_size r p.2.ty s ho).seen (.of_regLe hle))]
      exact Stab.rfl' _
    | none =>
      rcases placeStep_unknown st (toPField r p.1 p.2) (toPField r' p.1 p.2) ho rfl with hd | he
      · rw [hd]; exact Stab.defer _
      · exact Stab.of_eq he

def U8 (r : Registry) : Prop := ∃ i res, r.get ["u8"] = some i ∧ i.resolved? = some res

theorem paddingType_known (r : Registry) (hu : U8 r) (n : Nat) (t : DTy) (h : r.paddingType n = .ok t) :
    KnownD r t := by
  obtain ⟨rfl, _⟩ := paddingType_answer h
  intro q hq
  rw [List.mem_singleton.mp hq]; exact hu

theorem stmtStep_field_vfns (reg : Registry) (scope : List Path) (acc acc' : StmtAcc) (ist : Nat × G.Stmt)
    (hf : C01.isFieldStmt ist.2 = true) (h : stmtStep reg scope acc ist = .ok acc') : acc'.vfns = acc.vfns := by
  obtain ⟨idx, st⟩ := ist
  rcases stmtStep_ok h with ⟨_, _, _, _, _, _, _, _, _, _, _, _, _, _, rfl⟩ | ⟨fns, _, _, hfield, _⟩
  · rfl
  · simp [C01.isFieldStmt, hfield] at hf

def FieldsOnly (d : G.TypeDef) : Prop := ∀ st ∈ d.stmts, C01.isFieldStmt st = true

theorem stmts_fold_novft (reg : Registry) (scope : List Path) (d : G.TypeDef) (hv : FieldsOnly d) (sa : StmtAcc)
    (h : Res.foldlM (stmtStep reg scope) {} (d.stmts.zipIdx.map fun p => (p.2, p.1)) = .ok sa) : sa.vfns = none :=
  Res.foldlM_induct (P := fun acc : StmtAcc => acc.vfns = none) rfl
    (fun acc ist acc' hist hacc h' =>
      (stmtStep_field_vfns reg scope acc acc' ist (hv _ (C01.mem_zipIdx_swap hist)) h').trans hacc) h

/-- the part of `type_definition::build` after `resolve_regions` -/
def btTail (reg : Registry) (module1 : Mod) (path : Path) (doc : Option String) (ta : TypeAttrs)
    (regions : List Region) (vft : Option Vft) (size : Nat) (placed : List (Placed Region)) : Res Resolved :=
  let used0 : List String := match vft with | some v => v.fns.map (·.name) | none => []
  match injectBases reg regions { fns := [], used := used0 } with
  | .ok acc1 =>
    match addImplFns reg module1.scope (module1.implFor path) acc1 with
    | .ok acc2 =>
      match (if ta.defaultable then checkDefaultable reg regions else .ok ()) with
      | .ok () =>
        match Layout.alignCheck reg.ps ta.packed ta.align placed size with
        | .ok alignment =>
          .ok { size, align := alignment,
                inner := .type { regions, doc, fns := acc2.fns, vft, singleton := ta.singleton,
                                 copyable := ta.copyable, cloneable := ta.cloneable,
                                 defaultable := ta.defaultable, packed := ta.packed } }
        | e => e.cast
      | e => e.cast
    | e => e.cast
  | e => e.cast

theorem btTail_mono (r r' : Registry) (hle : RegLe r r') (module1 : Mod) (path : Path) (doc : Option String)
    (ta : TypeAttrs) (regions : List Region) (vft : Option Vft) (size : Nat) (placed : List (Placed Region))
    (hk : ∀ reg ∈ regions, KnownR r reg.ty) :
    btTail r' module1 path doc ta regions vft size placed = btTail r module1 path doc ta regions vft size placed := by
  unfold btTail
  have hk' := fun reg hreg => (hk reg hreg).seen (.of_regLe hle)
  simp only [fun acc => injectBases_congr regions acc hk', addImplFns_fun r r' hle.keys,
    checkDefaultable_congr regions hk', ← hle.ps]

theorem U8.contains {r : Registry} (hu : U8 r) : r.contains ["u8"] = true := by
  obtain ⟨i, _, hi, _⟩ := hu
  simp [Registry.contains, hi]

theorem moduleFor_congr (s s' : State) (hm : s'.modules = s.modules) (p : Path) : s'.moduleFor p = s.moduleFor p := by
  unfold State.moduleFor State.getModule
  rw [hm]

theorem buildEnum_stab (s s' : State) (hm : s'.modules = s.modules) (hle : RegLe s.reg s'.reg)
    (path : Path) (d : G.EnumDef) : Stab (buildEnum s path d) (buildEnum s' path d) := by
  unfold buildEnum
  rw [moduleFor_congr s s' hm, resolveTy_fun s.reg s'.reg hle.keys]
  cases s.moduleFor path with
  | none => exact Stab.rfl' _
  | some module =>
    simp only []
    cases s.reg.resolveTy module.scope d.ty with
    | ok ty =>
      simp only []
      obtain ⟨o, ho⟩ := DTy.size_ok s.reg ty
      cases o with
      | none => rw [ho]; exact Stab.defer _
      | some size =>
        rw [(dsize_mono hle ho).1, (dsize_mono hle ho).2]
        exact Stab.rfl' _
    | _ => exact Stab.rfl' _

/-- an entry of the initial registry with its definition resolved as `R` says -/
def resItem (R : Reg Path Resolved) (p : Path) (i : ItemDef) : ItemDef :=
  match i.state, R p with
  | .unres _, some r => { i with state := .res r }
  | _, _ => i

/-- the concrete state of the abstract registry `R` over the initial state `s0` -/
def stateOf (s0 : State) (R : Reg Path Resolved) : State :=
  { s0 with reg := { s0.reg with types := s0.reg.types.map fun e => (e.1, resItem R e.1 e.2) } }

theorem get_stateOf (s0 : State) (R : Reg Path Resolved) (p : Path) :
    (stateOf s0 R).reg.get p = (s0.reg.get p).map (resItem R p) := by
  simp only [stateOf, Registry.get]
  exact lookup_map_val (resItem R) s0.reg.types p

theorem resItem_res (R : Reg Path Resolved) (p : Path) (i : ItemDef) (r : Resolved) (h : i.state = .res r) :
    resItem R p i = i := by
  unfold resItem; rw [h]

theorem resItem_none (R : Reg Path Resolved) (p : Path) (i : ItemDef) (h : R p = none) : resItem R p i = i := by
  unfold resItem; rw [h]; cases i.state <;> rfl

theorem resItem_some (R : Reg Path Resolved) (p : Path) (i : ItemDef) (d : G.Item) (v : Resolved)
    (hi : i.state = .unres d) (h : R p = some v) : resItem R p i = { i with state := .res v } := by
  unfold resItem; rw [h, hi]

theorem resItem_fields (R : Reg Path Resolved) (p : Path) (i : ItemDef) :
    (resItem R p i).vis = i.vis ∧ (resItem R p i).path = i.path ∧ (resItem R p i).cat = i.cat := by
  unfold resItem; split <;> exact ⟨rfl, rfl, rfl⟩

theorem stateOf_le (s0 : State) (R R' : Reg Path Resolved) (h : Reg.le R R') :
    RegLe (stateOf s0 R).reg (stateOf s0 R').reg := by
  refine ⟨rfl, ?_, ?_⟩
  · intro p
    simp only [Registry.contains, get_stateOf, Option.isSome_map]
  · intro p i hi
    rw [get_stateOf] at hi
    cases h0 : s0.reg.get p with
    | none => rw [h0] at hi; cases hi
    | some i0 =>
      rw [h0] at hi
      simp only [Option.map_some, Option.some.injEq] at hi
      subst hi
      refine ⟨resItem R' p i0, by rw [get_stateOf, h0]; rfl, ?_, ?_, ?_, ?_⟩
      · rw [(resItem_fields R' p i0).1, (resItem_fields R p i0).1]
      · rw [(resItem_fields R' p i0).2.1, (resItem_fields R p i0).2.1]
      · rw [(resItem_fields R' p i0).2.2, (resItem_fields R p i0).2.2]
      · cases hst : i0.state with
        | res r => left; rw [resItem_res R' p i0 r hst, resItem_res R p i0 r hst]
        | unres d =>
          cases hR : R p with
          | some v => left; rw [resItem_some R p i0 d v hst hR, resItem_some R' p i0 d v hst (h p v hR)]
          | none =>
            rw [resItem_none R p i0 hR]
            cases hR' : R' p with
            | none => left; rw [resItem_none R' p i0 hR']
            | some v =>
              right
              rw [resItem_some R' p i0 d v hst hR']
              simp [ItemDef.isResolved, ItemDef.resolved?, hst]

theorem stateOf_u8 (s0 : State) (R : Reg Path Resolved) (hu : U8 s0.reg) : U8 (stateOf s0 R).reg := by
  obtain ⟨i, res, hi, hres⟩ := hu
  refine ⟨i, res, ?_, hres⟩
  rw [get_stateOf, hi]
  simp only [Option.map_some, Option.some.injEq]
  unfold ItemDef.resolved? at hres
  split at hres
  · next r hr => exact resItem_res R _ i r hr
  · cases hres

def toOut : Res Resolved → Out Resolved
  | .ok r => .done r
  | .defer => .defer
  | .err _ => .fail
  | .panic _ => .fail

/-- pyxis's attempt on item `k` of the initial state `s0`, from the abstract registry `R` -/
def attempt (s0 : State) (R : Reg Path Resolved) (k : Path) : Out Resolved :=
  match s0.reg.get k with
  | none => .defer
  | some i =>
    if i.isPredefined then .defer else
    match i.state with
    | .res _ => .defer
    | .unres d =>
      match d.inner with
      | .type td => toOut (buildType (stateOf s0 R) k d.vis td).2
      | .enum ed => toOut (buildEnum (stateOf s0 R) k ed)

def NoVftS (s : State) : Prop :=
  ∀ p i d td, s.reg.get p = some i → i.state = .unres d → d.inner = .type td → FieldsOnly td

theorem toOut_stab {x y : Res Resolved} (h : Stab x y) (hne : toOut x ≠ .defer) : toOut y = toOut x := by
  rw [h (fun e => hne (by rw [e]; rfl))]

theorem lookup_of_mem {α β} [BEq α] [LawfulBEq α] (l : List (α × β)) (hn : (l.map (·.1)).Nodup) (k : α) (v : β)
    (h : (k, v) ∈ l) : List.lookup k l = some v := by
  induction l with
  | nil => cases h
  | cons e l ih =>
    obtain ⟨k', v'⟩ := e
    simp only [List.map_cons, List.nodup_cons] at hn
    rw [List.lookup_cons]
    rcases List.mem_cons.mp h with h | h
    · cases h; simp
    · have hne : k ≠ k' := fun e => hn.1 (e ▸ List.mem_map.mpr ⟨(k, v), h, rfl⟩)
      have : (k == k') = false := by simpa using hne
      rw [this]; exact ih hn.2 h

def Pending (s0 : State) (k : Path) : Prop :=
  ∃ i d, s0.reg.get k = some i ∧ i.isPredefined = false ∧ i.state = .unres d

theorem stateOf_upd (s0 : State) (hn : (s0.reg.types.map (·.1)).Nodup) (R : Reg Path Resolved) (k : Path)
    (i : ItemDef) (d : G.Item) (r : Resolved) (hi : s0.reg.get k = some i) (hu : i.state = .unres d)
    (hR : R k = none) :
    { stateOf s0 R with reg := (stateOf s0 R).reg.setState k (.res r) } = stateOf s0 (upd R k r) := by
  simp only [stateOf, Registry.setState, List.map_map]
  congr 2
  apply List.map_congr_left
  intro e he
  simp only [Function.comp]
  have hge : s0.reg.get e.1 = some e.2 := lookup_of_mem s0.reg.types hn e.1 e.2 he
  by_cases hk : e.1 = k
  · have hei : e.2 = i := by rw [hk, hi] at hge; cases hge; rfl
    have h1 : resItem R e.1 e.2 = e.2 := resItem_none R e.1 e.2 (by rw [hk]; exact hR)
    have h2 : resItem (upd R k r) e.1 e.2 = { e.2 with state := .res r } :=
      resItem_some _ e.1 e.2 d r (by rw [hei]; exact hu) (by simp [upd, hk])
    rw [h1, h2]
    simp [hk]
  · have h2 : resItem (upd R k r) e.1 e.2 = resItem R e.1 e.2 := by
      unfold resItem
      simp [upd, hk]
    rw [h2]
    simp [hk]

theorem isPredefined_resItem (R : Reg Path Resolved) (p : Path) (i : ItemDef) :
    (resItem R p i).isPredefined = i.isPredefined := by
  unfold ItemDef.isPredefined; rw [(resItem_fields R p i).2.2]

theorem mem_ulist_stateOf (s0 : State) (hn : (s0.reg.types.map (·.1)).Nodup) (R : Reg Path Resolved) (k : Path) :
    k ∈ C10.ulist (stateOf s0 R).reg ↔ Pending s0 k ∧ R k = none := by
  simp only [C10.ulist, stateOf, List.mem_map, List.mem_filter]
  constructor
  · rintro ⟨e', ⟨⟨e, he, rfl⟩, hf⟩, rfl⟩
    simp only [isPredefined_resItem, Bool.and_eq_true, Bool.not_eq_eq_eq_not, Bool.not_true] at hf
    have hge : s0.reg.get e.1 = some e.2 := lookup_of_mem s0.reg.types hn e.1 e.2 he
    cases hst : e.2.state with
    | res r =>
      rw [resItem_res R e.1 e.2 r hst] at hf
      simp [ItemDef.isResolved, ItemDef.resolved?, hst] at hf
    | unres d =>
      cases hR : R e.1 with
      | some v =>
        rw [resItem_some R e.1 e.2 d v hst hR] at hf
        simp [ItemDef.isResolved, ItemDef.resolved?] at hf
      | none => exact ⟨⟨e.2, d, hge, hf.1, hst⟩, rfl⟩
  · rintro ⟨⟨i, d, hi, hpre, hst⟩, hR⟩
    refine ⟨(k, resItem R k i), ⟨⟨(k, i), C14.mem_of_lookup _ _ _ hi, rfl⟩, ?_⟩, rfl⟩
    rw [resItem_none R k i hR]
    simp [hpre, ItemDef.isResolved, ItemDef.resolved?, hst]

theorem attempt_pending (s0 : State) (R : Reg Path Resolved) (k : Path) (h : attempt s0 R k ≠ .defer) :
    Pending s0 k := by
  unfold attempt at h
  cases hg : s0.reg.get k with
  | none => simp [hg] at h
  | some i =>
    simp only [hg] at h
    cases hp : i.isPredefined with
    | true => simp [hp] at h
    | false =>
      cases hst : i.state with
      | res r => simp [hp, hst] at h
      | unres d => exact ⟨i, d, hg, hp, hst⟩

/-- the abstract registry of the initial state: nothing resolved by the loop yet -/
def R0 : Reg Path Resolved := fun _ => none

theorem stateOf_R0 (s0 : State) : stateOf s0 R0 = s0 := by
  have : (s0.reg.types.map fun e => (e.1, resItem R0 e.1 e.2)) = s0.reg.types := by
    conv => rhs; rw [← List.map_id s0.reg.types]
    apply List.map_congr_left
    intro e _
    rw [resItem_none R0 e.1 e.2 rfl]; rfl
  simp only [stateOf, this]

theorem Reg.le_refl (R : Reg Path Resolved) : Reg.le R R := fun _ _ h => h
theorem Reg.le_trans {R1 R2 R3 : Reg Path Resolved} (h1 : Reg.le R1 R2) (h2 : Reg.le R2 R3) : Reg.le R1 R3 :=
  fun k v h => h2 k v (h1 k v h)

theorem Run.dom (s0 : State) {R : Reg Path Resolved} (r : Run (attempt s0) R0 R) (k : Path) (v : Resolved)
    (h : R k = some v) : Pending s0 k :=
  r.in_dom (attempt_pending s0) (fun _ _ h0 => by cases h0) h

def Total (s0 : State) (R : Reg Path Resolved) : Prop := ∀ k, Pending s0 k → (R k).isSome
def Stuck (s0 : State) (R : Reg Path Resolved) : Prop := ∀ k, R k = none → attempt s0 R k = .defer

theorem u8_of_ok {s : State} (hs : C12.StateOk s) : U8 s.reg := by
  obtain ⟨i, hi, hr⟩ := hs.reg.u8
  obtain ⟨res, hres⟩ := Option.isSome_iff_exists.mp hr
  exact ⟨i, res, hi, hres⟩

theorem attempt_eq {s0 : State} {k : Path} {i : ItemDef} {d : G.Item} (hi : s0.reg.get k = some i)
    (hpre : i.isPredefined = false) (hst : i.state = .unres d) (R : Reg Path Resolved) :
    attempt s0 R k = toOut (C20.attemptDef (stateOf s0 R) k d).2 := by
  unfold attempt C20.attemptDef
  simp only [hi, hpre, hst, Bool.false_eq_true, if_false]
  cases d.inner <;> rfl

/-- what one attempt on `k` with result `res`, from a state that stands for `R`, has to do when the abstract
    attempt answers `o`; a failing attempt may end in an error or in a panic -/
def StepPost (Rel : Reg Path Resolved → State → Prop) (R : Reg Path Resolved) (k : Path) (res : State × Res Unit) :
    Out Resolved → Prop
  | .done v => ∃ s', res = (s', .ok ()) ∧ Rel (upd R k v) s'
  | .defer => ∃ s', res = (s', .ok ()) ∧ Rel R s'
  | .fail => ∃ s' m, res = (s', .err m) ∨ res = (s', .panic m)

theorem finishAttempt_post {Rel : Reg Path Resolved → State → Prop} {R : Reg Path Resolved} {k : Path} (s1 : State)
    (x : Res Resolved) (hdone : ∀ r, x = .ok r → Rel (upd R k r) { s1 with reg := s1.reg.setState k (.res r) })
    (hdefer : x = .defer → Rel R s1) : StepPost Rel R k (C20.finishAttempt k (s1, x)) (toOut x) := by
  cases x with
  | ok r => exact ⟨_, rfl, hdone r rfl⟩
  | defer => exact ⟨_, rfl, hdefer rfl⟩
  | err m => exact ⟨s1, m, .inl rfl⟩
  | panic m => exact ⟨s1, m, .inr rfl⟩

/-- `Rel R s`: the concrete state `s` stands for the abstract registry `R` over the initial state `s0`.  What
    makes the resolution loop, started in such a state, a run of the abstract worklist: the work list of a round
    is what `R` has left, and one attempt answers as the abstract attempt does and keeps the relation. -/
structure Sim (s0 : State) (Rel : Reg Path Resolved → State → Prop) : Prop where
  unres : ∀ {R s}, Rel R s → (C10.keys s.reg).Nodup → ∀ k, k ∈ C10.ulist s.reg ↔ Pending s0 k ∧ R k = none
  skip : ∀ {R s k v}, Rel R s → Pending s0 k → R k = some v → attemptItem s k = (s, .ok ())
  step : ∀ {R s k}, Rel R s → Pending s0 k → R k = none → StepPost Rel R k (attemptItem s k) (attempt s0 R k)

namespace Sim
variable {s0 : State} {Rel : Reg Path Resolved → State → Prop}

theorem mem_unresolved (sim : Sim s0 Rel) {R : Reg Path Resolved} {s : State} (h : Rel R s)
    (hn : (C10.keys s.reg).Nodup) (prio : List Path) (k : Path) :
    k ∈ s.reg.unresolved prio ↔ Pending s0 k ∧ R k = none := by
  rw [C10.unresolved_eq, List.mem_mergeSort]
  exact sim.unres h hn k

theorem unresolved_perm (sim : Sim s0 Rel) {R : Reg Path Resolved} {s1 s2 : State} (h1 : Rel R s1)
    (n1 : (C10.keys s1.reg).Nodup) (h2 : Rel R s2) (n2 : (C10.keys s2.reg).Nodup) (p1 p2 : List Path) :
    (s1.reg.unresolved p1).Perm (s2.reg.unresolved p2) := by
  rw [List.perm_ext_iff_of_nodup]
  · intro k
    rw [sim.mem_unresolved h1 n1, sim.mem_unresolved h2 n2]
  · rw [C10.unresolved_eq]
    exact (List.mergeSort_perm _ _).nodup_iff.mpr (C10.ulist_nodup _ n1)
  · rw [C10.unresolved_eq]
    exact (List.mergeSort_perm _ _).nodup_iff.mpr (C10.ulist_nodup _ n2)

def Failed (s0 : State) : Prop := ∃ R k, Run (attempt s0) R0 R ∧ R k = none ∧ attempt s0 R k = .fail

/-- what a round over `l` from `R` to `R'` with result `x` tells: either every item of `l` deferred and nothing
    changed, or one of them was resolved; or an attempt failed -/
def RoundPost (s0 : State) (l : List Path) (R R' : Reg Path Resolved) : Res Unit → Prop
  | .ok () => ((∀ k ∈ l, R k = none → attempt s0 R k = .defer) ∧ R' = R) ∨ ∃ k ∈ l, R k = none ∧ (R' k).isSome
  | .err _ => Failed s0
  | .panic _ => Failed s0
  | .defer => False

theorem RoundPost.skip {p : Path} {ps : List Path} {R R' : Reg Path Resolved} {x : Res Unit}
    (hp : R p = none → attempt s0 R p = .defer) (h : RoundPost s0 ps R R' x) : RoundPost s0 (p :: ps) R R' x := by
  cases x with
  | ok u =>
    cases u
    rcases h with ⟨h1, h2⟩ | ⟨k, hk, h1, h2⟩
    · left
      refine ⟨?_, h2⟩
      intro k hk hR
      rcases List.mem_cons.mp hk with rfl | hk
      · exact hp hR
      · exact h1 k hk hR
    · right; exact ⟨k, List.mem_cons_of_mem _ hk, h1, h2⟩
  | err m => exact h
  | defer => exact h
  | panic m => exact h

theorem RoundPost.step {p : Path} {ps : List Path} {R R' : Reg Path Resolved} {v : Resolved}
    {x : Res Unit} (hp : R p = none) (hle : Reg.le (upd R p v) R') (h : RoundPost s0 ps (upd R p v) R' x) :
    RoundPost s0 (p :: ps) R R' x := by
  cases x with
  | ok u =>
    cases u
    right
    refine ⟨p, List.mem_cons_self, hp, ?_⟩
    rw [hle p v (by simp [upd])]; rfl
  | err m => exact h
  | defer => exact h
  | panic m => exact h

theorem round (sim : Sim s0 Rel) (l : List Path) (hl : ∀ k ∈ l, Pending s0 k) (R : Reg Path Resolved)
    (hrun : Run (attempt s0) R0 R) (s : State) (hrel : Rel R s) :
    ∃ R', Run (attempt s0) R0 R' ∧ Reg.le R R' ∧ ((runRound s l).2 = .ok () → Rel R' (runRound s l).1) ∧
      RoundPost s0 l R R' (runRound s l).2 := by
  induction l generalizing R s with
  | nil => exact ⟨R, hrun, Reg.le_refl R, fun _ => hrel, .inl ⟨fun k hk => (by cases hk), rfl⟩⟩
  | cons p ps ih =>
    have hps : ∀ k ∈ ps, Pending s0 k := fun k hk => hl k (List.mem_cons_of_mem _ hk)
    have hp := hl p List.mem_cons_self
    rw [runRound_cons]
    cases hR : R p with
    | some v =>
      rw [sim.skip hrel hp hR]
      obtain ⟨R', h1, h3, h4, h5⟩ := ih hps R hrun s hrel
      exact ⟨R', h1, h3, h4, h5.skip (fun h => by rw [hR] at h; cases h)⟩
    | none =>
      have h2 := sim.step hrel hp hR
      cases hat : attempt s0 R p with
      | done v =>
        rw [hat] at h2
        obtain ⟨s', hs', hrel'⟩ := h2
        rw [hs']
        obtain ⟨R', i1, i3, i4, i5⟩ := ih hps (upd R p v) (Run.step R p v hrun hR hat) s' hrel'
        exact ⟨R', i1, Reg.le_trans (le_upd R p v hR) i3, i4, i5.step hR i3⟩
      | defer =>
        rw [hat] at h2
        obtain ⟨s', hs', hrel'⟩ := h2
        rw [hs']
        obtain ⟨R', i1, i3, i4, i5⟩ := ih hps R hrun s' hrel'
        exact ⟨R', i1, i3, i4, i5.skip (fun _ => hat)⟩
      | fail =>
        rw [hat] at h2
        obtain ⟨s', m, hs' | hs'⟩ := h2
        · rw [hs']
          exact ⟨R, hrun, Reg.le_refl R, fun h => (by cases h), ⟨R, p, hrun, hR, hat⟩⟩
        · rw [hs']
          exact ⟨R, hrun, Reg.le_refl R, fun h => (by cases h), ⟨R, p, hrun, hR, hat⟩⟩

/-- what the outcome of the resolution loop tells about the abstract run -/
def LoopPost (s0 : State) (Rel : Reg Path Resolved → State → Prop) (prio : List Path) : BuildOutcome → Prop
  | .ok s' => ∃ R', Run (attempt s0) R0 R' ∧ Rel R' s' ∧ (C10.keys s'.reg).Nodup ∧ Total s0 R'
  | .nonterm l => ∃ R' s', Run (attempt s0) R0 R' ∧ Rel R' s' ∧ (C10.keys s'.reg).Nodup ∧
      l = s'.reg.unresolved prio ∧ l ≠ [] ∧ Stuck s0 R'
  | .err _ => Failed s0
  | .panic _ => Failed s0
  | .fuel => True

/-- The termination test of the loop (work list and item count unchanged) needs no argument of its own: a round
    that only registered generated items continues from the same abstract registry with less fuel. -/
theorem loop (sim : Sim s0 Rel) (prio : List Path) (fuel : Nat) (R : Reg Path Resolved)
    (hrun : Run (attempt s0) R0 R) (s : State) (hrel : Rel R s) (hn : (C10.keys s.reg).Nodup) :
    LoopPost s0 Rel prio (resolveLoop prio fuel s) := by
  induction fuel generalizing R s with
  | zero => simp [resolveLoop, LoopPost]
  | succ n ih =>
    have hmem := sim.mem_unresolved hrel hn prio
    unfold resolveLoop
    simp only []
    split
    · next he =>
      refine ⟨R, hrun, hrel, hn, ?_⟩
      intro k hp
      cases hR : R k with
      | some v => rfl
      | none =>
        have : k ∈ s.reg.unresolved prio := (hmem k).mpr ⟨hp, hR⟩
        rw [List.isEmpty_iff.mp he] at this
        cases this
    · next hne =>
      obtain ⟨R', h1, _, h4, h5⟩ := sim.round (s.reg.unresolved prio)
        (fun k hk => ((hmem k).mp hk).1) R hrun s hrel
      have hn1 := (C10.runRound_prog (s.reg.unresolved prio) s hn).nodup
      generalize runRound s (s.reg.unresolved prio) = rr at h4 h5 hn1 ⊢
      obtain ⟨s1, res⟩ := rr
      simp only [] at h4 h5 hn1
      cases res with
      | ok u =>
        cases u
        have hrel1 := h4 rfl
        simp only []
        split
        · next hcond =>
          simp only [Bool.and_eq_true, beq_iff_eq] at hcond
          rcases h5 with ⟨hdef, _⟩ | ⟨k, hk, hRk, hR'k⟩
          · refine ⟨R, s, hrun, hrel, hn, rfl, ?_, ?_⟩
            · intro e; rw [e] at hne; exact hne rfl
            · intro k hk
              by_cases hd : attempt s0 R k = .defer
              · exact hd
              · exact hdef k ((hmem k).mpr ⟨attempt_pending s0 R k hd, hk⟩) hk
          · exfalso
            rw [hcond.1] at hk
            have := ((sim.mem_unresolved hrel1 hn1 prio k).mp hk).2
            rw [this] at hR'k
            cases hR'k
        · exact ih R' h1 s1 hrel1 hn1
      | err m => exact h5
      | defer => exact h5.elim
      | panic m => exact h5

end Sim

/-- the end of the abstract run that a loop outcome shows: an accepted state standing for a total registry, the
    work list of a state standing for a stuck one, or a failure -/
def Shows (Rel : Reg Path Resolved → State → Prop) (prio : List Path) : End Path Resolved → BuildOutcome → Prop
  | .total R, o => ∃ s, o = .ok s ∧ Rel R s ∧ (C10.keys s.reg).Nodup
  | .stuck R, o => ∃ s, o = .nonterm (s.reg.unresolved prio) ∧ Rel R s ∧ (C10.keys s.reg).Nodup
  | .failed, o => ∃ m, o = .err m ∨ o = .panic m

abbrev EndOf (s0 : State) (e : End Path Resolved) : Prop := e.Holds (attempt s0) R0 (Pending s0)

theorem Sim.LoopPost.shows {s0 : State} {Rel : Reg Path Resolved → State → Prop} (sim : Sim s0 Rel)
    {prio : List Path} {o : BuildOutcome} (h : Sim.LoopPost s0 Rel prio o) (hf : o ≠ .fuel) :
    ∃ e, EndOf s0 e ∧ Shows Rel prio e o := by
  cases o with
  | ok s =>
    obtain ⟨R, r, hrel, hn, t⟩ := h
    exact ⟨.total R, ⟨r, t⟩, s, rfl, hrel, hn⟩
  | nonterm l =>
    obtain ⟨R, s, r, hrel, hn, rfl, hne, st⟩ := h
    obtain ⟨k, hk⟩ := List.exists_mem_of_ne_nil _ hne
    exact ⟨.stuck R, ⟨r, st, k, (sim.mem_unresolved hrel hn prio k).mp hk⟩, s, rfl, hrel, hn⟩
  | err m => exact ⟨.failed, h, m, .inl rfl⟩
  | panic m => exact ⟨.failed, h, m, .inr rfl⟩
  | fuel => exact absurd rfl hf

/-- **the resolution loop is independent of the priority**: when the attempt is monotone, the outcomes of two
    loops from a state that stands for the empty registry show the same end of the abstract run -/
theorem Sim.loops_agree {s0 : State} {Rel : Reg Path Resolved → State → Prop} (sim : Sim s0 Rel)
    (hm : Mono (attempt s0)) (h0 : Rel R0 s0) (hn : (C10.keys s0.reg).Nodup) (p1 p2 : List Path) (f1 f2 : Nat)
    (n1 : resolveLoop p1 f1 s0 ≠ .fuel) (n2 : resolveLoop p2 f2 s0 ≠ .fuel) :
    ∃ e, EndOf s0 e ∧ Shows Rel p1 e (resolveLoop p1 f1 s0) ∧ Shows Rel p2 e (resolveLoop p2 f2 s0) := by
  obtain ⟨e1, he1, h1⟩ := (sim.loop p1 f1 R0 Run.start s0 h0 hn).shows sim n1
  obtain ⟨e2, he2, h2⟩ := (sim.loop p2 f2 R0 Run.start s0 h0 hn).shows sim n2
  have e : e2 = e1 := End.unique hm (attempt_pending s0) (fun _ _ h => by cases h) he2 he1
  subst e
  exact ⟨e2, he1, h1, h2⟩

/-- `SemanticState::build` gives the loop enough fuel -/
theorem build_ne_fuel (s : State) (hn : (C10.keys s.reg).Nodup) (prio : List Path) :
    resolveLoop prio (2 * s.nUnres + 2) s ≠ .fuel :=
  C10.resolveLoop_ne_fuel prio _ s hn (by have := C10.mu_le s.reg; unfold State.nUnres; omega)

end PyxisVerif.Mono
