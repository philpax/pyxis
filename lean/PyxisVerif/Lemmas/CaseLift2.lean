import PyxisVerif.Props.CaseLift
import PyxisVerif.Props.C03
import PyxisVerif.Props.C04
import PyxisVerif.Props.C05
import PyxisVerif.Props.C07
import PyxisVerif.Props.C11
import PyxisVerif.Props.C13
import PyxisVerif.Props.C14
/-!
# From per-item theorems to every accepted case, part 2 (C03, C04, C05, C07, C11, C13, C14)

`Lemmas/Build.lean` takes an accepted build apart (`TypeBuild`), `Lemmas/TypeBuild.lean` reads the parts in later
registries, and `Lemmas/CaseLift.lean` carries the provenance invariant through
a whole run.  This file adds what the properties lifted in `Props/CaseLift2.lean` need beyond that:

* **C03**: the layout core (`Layout.resolve`, `Layout.alignCheck`) does not look at the payload of the fields it places
  (`resolve_U_eq`, `alignCheck_U`), so an accepted layout is an accepted C03 description (`verdict_of_layout`) – the
  `TypeSpec` read off the pending fields (`specType`).
* **C05 / C11**: a stored module is `add_module` of a module *written in the case under its path* (`CaseLift.ModSrc`);
  what that says about the function blocks of a type (`ModSrc.impl_src`, `declaredImplFns`) and about the scope every
  type name is looked up in (`UsesOf`, `scope_src`, `case_modules_src`, `FnTypes`).
* **C14**, by properties that `add_item` and the resolution of an item keep (`Closed`, `Lemmas/Closed.lean`): the pointer
  width (`case_ps`), the well-formedness of the stored modules (`ModInv`, `case_modInv`: distinct keys; distinct
  definition paths, children of the module's path, entries of the registry), "every item of a non-root module is listed
  in its module" (`Listed`, `case_listed` – needs pairwise distinct module paths, `listed_fold`), "every module path of
  the case is stored" (`case_modules_present`).

Definitions (specification part) are marked `def` / `structure` and are interleaved with the lemmas that use them.
-/
namespace PyxisVerif.CaseLift2
open Gen Layout CaseLift

theorem ps_closed (ps : Nat) : Closed (fun t : State => t.reg.ps = ps) :=
  ⟨fun t t' i ht ha => by rw [C14.addItem_reg t t' i ha]; exact ht, fun _ _ _ ht => ht⟩

/-- **the pointer width of the final registry of an accepted case is the case's** -/
theorem case_ps (c : Case) (s : State) (h : c.run = .ok s) : s.reg.ps = c.ps := by
  obtain ⟨s1, ms, h1, _, rfl⟩ := (ps_closed c.ps).run rfl (fun _ _ _ _ _ _ _ hs => hs) h
  exact h1


/-- forget the payload of a pending field -/
def pfU {β} (f : PField β) : PField Unit := { addr := f.addr, size := f.size, align := f.align, isArr := f.isArr, val := () }
/-- forget the payload of a placed region -/
def plU {β} (p : Placed β) : Placed Unit := ⟨p.size, p.align, p.src.map fun _ => ()⟩
def stU {β} (st : St β) : St Unit := (st.1.map plU, st.2)

def rmap {α β} (f : α → β) : Res α → Res β
  | .ok a => .ok (f a)
  | .defer => .defer
  | .err m => .err m
  | .panic m => .panic m

theorem rmap_ok_inv {α β} (f : α → β) (r : Res α) (b : β) (h : rmap f r = .ok b) : ∃ a, r = .ok a ∧ f a = b := by
  cases r with
  | ok a => simp only [rmap, Res.ok.injEq] at h; exact ⟨a, rfl, h⟩
  | defer | err _ | panic _ => cases h

theorem push_U {β} (st : St β) (sz : Res (Option Nat)) (al : Option Nat) (arr : Bool) (src : Option β) :
    push (stU st) sz al arr (src.map fun _ => ()) = rmap stU (push st sz al arr src) := by
  unfold push
  cases sz with
  | ok o =>
    cases o with
    | none => rfl
    | some s =>
      have e : (stU st).2 = st.2 := rfl
      simp only [e]
      by_cases c1 : s = 0 ∧ arr = true
      · rw [if_pos c1, if_pos c1]; rfl
      · rw [if_neg c1, if_neg c1]
        by_cases c2 : st.2 + s ≤ usizeMax
        · rw [if_pos c2, if_pos c2]
          simp [rmap, stU, plU]
        · rw [if_neg c2, if_neg c2]; rfl
  | defer | err _ | panic _ => rfl

theorem pushPad_U {β} (st : St β) (n : Nat) : pushPad (stU st) n = rmap stU (pushPad st n) :=
  push_U st _ _ _ none

theorem pushField_U {β} (st : St β) (f : PField β) : pushField (stU st) (pfU f) = rmap stU (pushField st f) :=
  push_U st _ _ _ (some f.val)

theorem place_U {β} (fields : List (PField β)) (st : St β) :
    place (stU st) (fields.map pfU) = rmap stU (place st fields) := by
  induction fields generalizing st with
  | nil => rfl
  | cons f fs ih =>
    have e1 : (stU st).2 = st.2 := rfl
    simp only [List.map_cons]
    unfold place
    cases ha : f.addr with
    | some a =>
      simp only [pfU, ha, e1]
      split
      · rfl
      · rw [pushPad_U]
        cases pushPad st (a - st.2) with
        | ok st1 =>
          simp only [rmap]
          rw [show ({ addr := some a, size := f.size, align := f.align, isArr := f.isArr, val := () } : PField Unit) = pfU f
            from by rw [pfU, ha], pushField_U]
          cases pushField st1 f with
          | ok st2 => exact ih st2
          | defer | err _ | panic _ => rfl
        | defer | err _ | panic _ => rfl
    | none =>
      simp only [pfU, ha]
      rw [show ({ addr := none, size := f.size, align := f.align, isArr := f.isArr, val := () } : PField Unit) = pfU f
        from by rw [pfU, ha], pushField_U]
      cases pushField st f with
      | ok st2 => exact ih st2
      | defer | err _ | panic _ => rfl

theorem padTail_U {β} (st : St β) (target : Option Nat) : padTail (stU st) target = rmap stU (padTail st target) := by
  unfold padTail
  cases target with
  | none => rfl
  | some t =>
    simp only []
    have e1 : (stU st).2 = st.2 := rfl
    rw [e1]
    split
    · exact pushPad_U st _
    · rfl

theorem sumSizes_U {β} (rs : List (Placed β)) : sumSizes (rs.map plU) = sumSizes rs := by
  unfold sumSizes
  simp [plU, Function.comp_def]

theorem requestedAlign_U {β} (ps : Nat) (a? : Option Nat) (rs : List (Placed β)) :
    requestedAlign ps a? (rs.map plU) = requestedAlign ps a? rs := by
  unfold requestedAlign
  cases a? with
  | some a => rfl
  | none =>
    cases rs with
    | nil => rfl
    | cons r rs =>
      cases rs with
      | nil => rfl
      | cons r' rs => rfl

theorem foldlM_map {α β γ} (f : γ → β → Res γ) (g : α → β) (l : List α) (c : γ) :
    Res.foldlM f c (l.map g) = Res.foldlM (fun c a => f c (g a)) c l := by
  induction l generalizing c with
  | nil => rfl
  | cons a l ih =>
    simp only [List.map_cons, Res.foldlM]
    cases f c (g a) with
    | ok c' => exact ih c'
    | defer | err _ | panic _ => rfl

theorem lcmAll_U {β} (rs : List (Placed β)) : lcmAll (rs.map plU) = lcmAll rs := by
  unfold lcmAll
  rw [foldlM_map]
  rfl

theorem fieldsAligned_U {β} (rs : List (Placed β)) (off : Nat) : fieldsAligned off (rs.map plU) = fieldsAligned off rs := by
  induction rs generalizing off with
  | nil => rfl
  | cons r rs ih =>
    simp only [List.map_cons, fieldsAligned]
    have e1 : (plU r).align = r.align := rfl
    have e2 : (plU r).size = r.size := rfl
    rw [e1, e2]
    cases r.align with
    | none => rfl
    | some a => simp only [ih]

theorem alignCheck_U {β} (ps : Nat) (packed : Bool) (a? : Option Nat) (rs : List (Placed β)) (size : Nat) :
    alignCheck ps packed a? (rs.map plU) size = alignCheck ps packed a? rs size := by
  unfold alignCheck
  rw [requestedAlign_U, lcmAll_U, fieldsAligned_U]


theorem resolve_U_eq {β} (vptr : Option (PField β)) (fields : List (PField β)) (target : Option Nat) :
    resolve (vptr.map pfU) (fields.map pfU) target =
      rmap (fun x => (x.1.map plU, x.2)) (resolve vptr fields target) := by
  have e0 : (([], 0) : St Unit) = stU (([], 0) : St β) := rfl
  cases vptr with
  | none =>
    unfold resolve
    simp only [Option.map_none]
    rw [e0, place_U]
    cases place ([], 0) fields with
    | ok st1 =>
      simp only [rmap]
      rw [padTail_U]
      cases padTail st1 target with
      | ok st2 =>
        simp only [rmap]
        have e : (stU st2).1 = st2.1.map plU := rfl
        rw [e, sumSizes_U]
        cases target with
        | none => rfl
        | some t =>
          simp only []
          split <;> rfl
      | defer | err _ | panic _ => rfl
    | defer | err _ | panic _ => rfl
  | some v =>
    unfold resolve
    simp only [Option.map_some]
    rw [e0, pushField_U]
    cases pushField ([], 0) v with
    | ok st0 =>
      simp only [rmap]
      rw [place_U]
      cases place st0 fields with
      | ok st1 =>
        simp only [rmap]
        rw [padTail_U]
        cases padTail st1 target with
        | ok st2 =>
          simp only [rmap]
          have e : (stU st2).1 = st2.1.map plU := rfl
          rw [e, sumSizes_U]
          cases target with
          | none => rfl
          | some t =>
            simp only []
            split <;> rfl
        | defer | err _ | panic _ => rfl
      | defer | err _ | panic _ => rfl
    | defer | err _ | panic _ => rfl

/-- the layout core does not look at the payload: an accepted placement is accepted with the payloads forgotten -/
theorem resolve_U {β} (vptr : Option (PField β)) (fields : List (PField β)) (target : Option Nat)
    (placed : List (Placed β)) (size : Nat) (h : resolve vptr fields target = .ok (placed, size)) :
    resolve (vptr.map pfU) (fields.map pfU) target = .ok (placed.map plU, size) := by
  rw [resolve_U_eq, h]
  rfl

/-! ### the `TypeSpec` of C03 read off an accepted type -/

/-- the C03 view of a pending field in registry `reg`: its written address, the size and alignment of its type, whether
    the type is an array -/
def specField (reg : Registry) (q : Option Nat × Region) : C03.FieldSpec :=
  { addr := q.1,
    size := match q.2.ty.size reg with | .ok (some n) => n | _ => 0,
    align := (q.2.ty.align reg).getD 0,
    isArray := q.2.ty.isArray }

/-- the C03 view of a type: whether it owns a vftable pointer, its declared fields, the `size` / `align` / `packed`
    attributes -/
def specType (reg : Registry) (ownPtr : Bool) (pending : List (Option Nat × Region)) (ta : TypeAttrs) : C03.TypeSpec :=
  { vft := ownPtr, fields := pending.map (specField reg), size? := ta.targetSize, align? := ta.align,
    packed := ta.packed }

theorem zipIdx_map_fst' {α β} (l : List α) (F : α → β) (n : Nat) : (l.zipIdx n).map (fun p => F p.1) = l.map F := by
  induction l generalizing n with
  | nil => rfl
  | cons a l ih => simp only [List.zipIdx_cons, List.map_cons, ih]

/-- **an accepted layout is an accepted C03 description**: when the layout core accepts the pointer region (none, or
    the type's own pointer) and the declared fields, and the alignment block accepts the result, C03's `verdict` – the
    same two functions run on the `TypeSpec` read off the fields – is that size and alignment -/
theorem verdict_of_layout (reg : Registry) (vptr : Option Region)
    (hv : vptr = none ∨ ∃ vpath, vptr = some (C06.ownPointer vpath))
    (pending : List (Option Nat × Region)) (ta : TypeAttrs) (placed : List (Placed Region)) (size a : Nat)
    (hres : resolve (vptr.map (toPField reg none)) (pending.map fun p => toPField reg p.1 p.2) ta.targetSize
      = .ok (placed, size))
    (hal : alignCheck reg.ps ta.packed ta.align placed size = .ok a) :
    C03.verdict reg.ps (specType reg vptr.isSome pending ta) = .ok (size, a) := by
  have hU := resolve_U _ _ _ _ _ hres
  obtain ⟨_, hf⟩ := resolve_sizes _ _ _ _ _ hres
  have e1 : (vptr.map (toPField reg none)).map pfU =
      (if vptr.isSome then some (C03.vptrField reg.ps) else none).map pfU := by
    rcases hv with rfl | ⟨vpath, rfl⟩
    · rfl
    · rfl
  have e2 : (pending.map fun p => toPField reg p.1 p.2).map pfU =
      (C03.pfields (specType reg vptr.isSome pending ta)).map pfU := by
    unfold C03.pfields specType
    simp only [List.map_map]
    rw [show ((pfU ∘ fun (p : C03.FieldSpec × Nat) => p.1.toPField (p.2 + 1))) =
      (fun (p : C03.FieldSpec × Nat) => (fun f : C03.FieldSpec => pfU (f.toPField 0)) p.1) from rfl]
    rw [zipIdx_map_fst' (pending.map (specField reg)) (fun f : C03.FieldSpec => pfU (f.toPField 0)) 0, List.map_map]
    apply List.map_congr_left
    intro q hq
    obtain ⟨n, hn⟩ := hf (toPField reg q.1 q.2) (List.mem_map.mpr ⟨q, hq, rfl⟩)
    have hn' : q.2.ty.size reg = .ok (some n) := hn
    obtain ⟨al, hal'⟩ := Option.isSome_iff_exists.mp (Mono.ralign_of_size reg q.2.ty n hn')
    simp only [Function.comp, pfU, toPField, C03.FieldSpec.toPField, specField, hn', hal', Option.getD_some]
  rw [e1, e2] at hU
  rw [resolve_U_eq] at hU
  obtain ⟨x, hx, hxe⟩ := rmap_ok_inv _ _ _ hU
  obtain ⟨rs, sz⟩ := x
  simp only [Prod.mk.injEq] at hxe
  obtain ⟨hrs, rfl⟩ := hxe
  have hal2 : alignCheck reg.ps ta.packed ta.align rs sz = .ok a := by
    rw [← alignCheck_U, hrs, alignCheck_U]; exact hal
  unfold C03.verdict
  have hx' : resolve (if (specType reg vptr.isSome pending ta).vft = true then some (C03.vptrField reg.ps) else none)
      (C03.pfields (specType reg vptr.isSome pending ta)) (specType reg vptr.isSome pending ta).size? = .ok (rs, sz) := hx
  rw [hx']
  simp only []
  have hal3 : alignCheck reg.ps (specType reg vptr.isSome pending ta).packed
      (specType reg vptr.isSome pending ta).align? rs sz = .ok a := hal2
  rw [hal3]


theorem specField_known (reg : Registry) (q : Option Nat × Region) (n : Nat) (hn : q.2.ty.size reg = .ok (some n)) :
    ∃ a, q.2.ty.align reg = some a ∧
      specField reg q = { addr := q.1, size := n, align := a, isArray := q.2.ty.isArray } := by
  obtain ⟨a, ha⟩ := Option.isSome_iff_exists.mp (Mono.ralign_of_size reg q.2.ty n hn)
  exact ⟨a, ha, by simp only [specField, hn, ha, Option.getD_some]⟩

/-- two modules of the case written under the same path are the same module (in particular: the paths of the modules of
    the case are pairwise distinct) -/
def DistinctModulePaths (c : Case) : Prop :=
  ∀ path f1 m1 f2 m2, ModEnt.ast path f1 m1 ∈ c.modules → ModEnt.ast path f2 m2 ∈ c.modules → m1 = m2

theorem moduleFor_src (c : Case) (s : State) (hQ : ModsGood (ModOf c) s) (path : Path) (name : String) (md : Mod)
    (hm : s.moduleFor (path ++ [name]) = some md) : ModOf c path md := by
  unfold State.moduleFor at hm
  rw [Path.parent?_concat] at hm
  simp only [] at hm
  exact hQ (path, md) (C14.mem_of_lookup s.modules path md hm)


/-! ### C05: the function blocks of every emitted struct -/

/-- the functions written for the type called `name` in the function blocks (`impl`) of module `m`, in source order -/
def declaredImplFns (m : G.Module) (name : String) : List G.Func :=
  (m.impls.filter (fun b => b.name == name)).flatMap (·.fns)

theorem append_singleton_inj {α} {l l' : List α} {a a' : α} (h : l ++ [a] = l' ++ [a']) : l = l' ∧ a = a' := by
  have := List.append_inj' h rfl
  exact ⟨this.1, by simpa using this.2⟩

theorem implFor_of_src (path : Path) (m : G.Module) (md : Mod)
    (himpls : md.impls = m.impls.map (fun f => (path ++ [f.name], f))) (name : String) :
    ((md.implFor (path ++ [name])).map (·.fns)).getD [] = declaredImplFns m name := by
  rw [C05.impl_blocks_merged, himpls]
  unfold declaredImplFns
  congr 1
  induction m.impls with
  | nil => rfl
  | cons b bs ih =>
    simp only [List.map_cons, List.filter_cons]
    have e : ((path ++ [b.name] == path ++ [name]) : Bool) = (b.name == name) := by simp
    rw [e]
    split
    · simp only [List.map_cons, ih]
    · exact ih

/-- the function blocks a stored module holds for the type `path ++ [name]`: none in the initial root module; otherwise
    the module is `add_module` of a module `m` written in the case under `path`, whose `use` list makes the name scope
    and whose function blocks for `name`, merged, are the block held -/
theorem ModSrc.impl_src {c : Case} {path : Path} {md : Mod} (h : ModSrc c path md) (name : String) :
    (path = [] ∧ md.impls = []) ∨
    ∃ file m, ModEnt.ast path file m ∈ c.modules ∧ md.scope = path :: m.uses ∧
      ((md.implFor (path ++ [name])).map (·.fns)).getD [] = declaredImplFns m name := by
  rcases h with ⟨hp0, _, _, himp⟩ | ⟨file, m, hm, hpath, huses, himp⟩
  · exact Or.inl ⟨hp0, himp⟩
  · refine Or.inr ⟨file, m, hm, ?_, implFor_of_src path m md himp name⟩
    show md.path :: md.uses = path :: m.uses
    rw [hpath, huses]

theorem implFor_none_of_nil (md : Mod) (p : Path) (h : md.impls = []) : md.implFor p = none := by
  unfold Mod.implFor
  rw [h]
  rfl

theorem declaredFn_of_mem (c : Case) (path : Path) (file : String) (m : G.Module) (hm : ModEnt.ast path file m ∈ c.modules)
    (name : String) (gf : G.Func) (h : gf ∈ declaredImplFns m name) : DeclaredFn c (path ++ [name]) gf := by
  unfold declaredImplFns at h
  simp only [List.mem_flatMap, List.mem_filter, beq_iff_eq] at h
  obtain ⟨blk, ⟨hblk, hn⟩, hgf⟩ := h
  exact ⟨path, blk, ⟨file, m, hm, hblk⟩, by rw [hn], hgf⟩

theorem mem_of_declaredFn (c : Case) (hdist : DistinctModulePaths c) (path : Path) (file : String) (m : G.Module)
    (hm : ModEnt.ast path file m ∈ c.modules) (name : String) (gf : G.Func)
    (h : DeclaredFn c (path ++ [name]) gf) : gf ∈ declaredImplFns m name := by
  obtain ⟨path', blk, ⟨file', m', hm', hblk⟩, hp, hgf⟩ := h
  obtain ⟨rfl, hn⟩ := append_singleton_inj hp
  have := hdist path file m file' m' hm hm'
  subst this
  unfold declaredImplFns
  simp only [List.mem_flatMap, List.mem_filter, beq_iff_eq]
  exact ⟨blk, ⟨hblk, hn.symm⟩, hgf⟩

/-! ### C11: the scope every type name of a declared item is looked up in -/

/-- what `use` list a module path has in the case: that of a module written under the path (the root module, if no
    module is written under `[]`, has none) -/
def UsesOf (c : Case) (path : Path) (uses : List Path) : Prop :=
  (path = [] ∧ uses = []) ∨ ∃ file m, ModEnt.ast path file m ∈ c.modules ∧ uses = m.uses

theorem usesOf_of_src (c : Case) (path : Path) (md : Mod) (h : ModSrc c path md) :
    md.scope = path :: md.uses ∧ UsesOf c path md.uses := by
  rcases h with ⟨hp, hpath, huses, _⟩ | ⟨file, m, hm, hpath, huses, _⟩
  · exact ⟨by unfold Mod.scope; rw [hpath, hp], Or.inl ⟨hp, huses⟩⟩
  · exact ⟨by unfold Mod.scope; rw [hpath], Or.inr ⟨file, m, hm, huses⟩⟩

/-- the scope of the stored module of a declared definition: the path of the module the definition is written in, then
    the `use` entries of a module written in the case under that path -/
theorem scope_src (c : Case) (s0 : State) (hQ : ModsGood (ModOf c) s0) {p : Path} {item : G.Item} (hD : Declared c p item)
    (md : Mod) (hm : s0.moduleFor p = some md) :
    ∃ path uses, p = path ++ [item.name] ∧ md.scope = path :: uses ∧ UsesOf c path uses := by
  obtain ⟨path, _, _, _, _, rfl⟩ := hD
  obtain ⟨h1, h2⟩ := usesOf_of_src c path md (moduleFor_src c s0 hQ path item.name md hm).2
  exact ⟨path, md.uses, rfl, h1, h2⟩

/-- the stored modules of the final state of an accepted case are `add_module` of modules written in the case -/
theorem case_modules_src (c : Case) (hps : c.ps = 4 ∨ c.ps = 8) (hb : C12.CaseBounded c) (s : State)
    (h : c.run = .ok s) : ∀ e ∈ s.modules, e.2.scope = e.1 :: e.2.uses ∧ UsesOf c e.1 e.2.uses := by
  obtain ⟨s1, ms, hJ, hms, rfl⟩ := case_J c hps hb s h
  intro e he
  obtain ⟨e0, he0, hstep⟩ := mapM'_mem _ _ _ hms e he
  obtain ⟨m', hm', rfl⟩ := xvalPass_ok_inv hstep
  obtain ⟨hsc, _, _, _⟩ := resolveXVals_inv s1.reg e0.2 m' hm'
  obtain ⟨h1, h2⟩ := usesOf_of_src c e0.1 e0.2 (hJ.mods e0 he0).2
  have hsc' : m'.path :: m'.uses = e0.1 :: e0.2.uses := by
    have : m'.scope = e0.1 :: e0.2.uses := by rw [hsc, h1]
    exact this
  simp only [List.cons.injEq] at hsc'
  refine ⟨?_, ?_⟩
  · show m'.path :: m'.uses = e0.1 :: m'.uses
    rw [hsc'.1]
  · show UsesOf c e0.1 m'.uses
    rw [hsc'.2]
    exact h2

/-- the parameter and return types of the built function `f` are those written on `gf`, resolved with `scope` in `reg` -/
def FnTypes (reg : Registry) (scope : List Path) (gf : G.Func) (f : SFunc) : Prop :=
  C05.specArgs reg scope gf.args = some f.args ∧
  (∀ n t, SArg.field n t ∈ f.args → ∃ gty, G.Arg.named n gty ∈ gf.args ∧ reg.resolveTy scope gty = .ok t) ∧
  (match gf.ret with
   | none => f.ret = none
   | some gt => ∃ t, reg.resolveTy scope gt = .ok t ∧ f.ret = some t)

theorem specArgs_field_mem (reg : Registry) (scope : List Path) (gas : List G.Arg) (sas : List SArg)
    (h : C05.specArgs reg scope gas = some sas) :
    ∀ n t, SArg.field n t ∈ sas → ∃ gty, G.Arg.named n gty ∈ gas ∧ reg.resolveTy scope gty = .ok t := by
  induction gas generalizing sas with
  | nil => cases h; intro n t hm; cases hm
  | cons ga rest ih =>
    obtain ⟨sa, sas', rfl, hs', _, hfield⟩ := Exec.specArgs_cons reg scope ga rest sas h
    intro n t hm
    rcases List.mem_cons.mp hm with hm | hm
    · obtain ⟨gty, rfl, ht⟩ := hfield n t hm.symm
      exact ⟨gty, List.mem_cons_self, ht⟩
    · obtain ⟨gty, h1, h2⟩ := ih sas' hs' n t hm
      exact ⟨gty, List.mem_cons_of_mem _ h1, h2⟩

theorem fnTypes_of_built (reg : Registry) (scope : List Path) (isV : Bool) (gf : G.Func) (f : SFunc)
    (h : buildFunction reg scope isV gf = .ok f) : FnTypes reg scope gf f := by
  have hargs := Exec.built_args reg scope isV gf f h
  obtain ⟨_, _, _, _, ret, _, _, _, _, hret, rfl⟩ := buildFunction_inv h
  exact ⟨hargs, specArgs_field_mem reg scope gf.args _ hargs, hret⟩

theorem contains_ext {r r' : Registry} (he : C02.Ext r r') (q : Path) (h : r.contains q = true) : r'.contains q = true := by
  unfold Registry.contains at h ⊢
  cases hg : r.get q with
  | none => rw [hg] at h; cases h
  | some i =>
    obtain ⟨i', hg', _⟩ := he.keep q i hg
    rw [hg']
    rfl

theorem resolveTy_ident (reg : Registry) (scope : List Path) (nm : String) (t : DTy)
    (h : reg.resolveTy scope (.ident nm) = .ok t) : reg.resolveString scope nm = some t := by
  simp only [Registry.resolveTy] at h
  split at h
  · next t' ht' => cases h; exact ht'
  · cases h


/-! ### C13: what acceptance guarantees about every emitted struct -/

theorem fldsOf_mem (reg : Registry) (rs : List Region) (fs : List RustSem.Fld) (h : Exec.fldsOf reg rs = some fs) :
    ∀ rg ∈ rs, ∃ f, Exec.fldOf reg rg = some f := by
  intro rg hrg
  obtain ⟨k, hk, rfl⟩ := List.getElem_of_mem hrg
  obtain ⟨hl, hall⟩ := Exec.fldsOf_getElem reg rs fs h
  exact ⟨_, hall k hk (hl ▸ hk)⟩

theorem tyLayout_defaultablePath (reg : Registry) (t : DTy) (x : Nat × Nat) (q : Path)
    (h : C02.tyLayout reg.ps (C02.regLayout reg) t = some x) (hq : t.defaultablePath = some q) :
    ∃ item res, reg.get q = some item ∧ item.state = .res res := by
  induction t generalizing x with
  | raw p =>
    simp only [DTy.defaultablePath, Option.some.injEq] at hq
    subst hq
    simp only [C02.tyLayout, C02.regLayout] at h
    cases hg : reg.get p with
    | none => rw [hg] at h; cases h
    | some item =>
      rw [hg] at h
      simp only [Option.bind_some, Option.map_eq_some_iff] at h
      obtain ⟨res, hres, _⟩ := h
      exact ⟨item, res, rfl, C02.resolved?_eq hres⟩
  | cptr t _ => cases hq
  | mptr t _ => cases hq
  | arr t n ih =>
    simp only [DTy.defaultablePath] at hq
    simp only [C02.tyLayout, Option.map_eq_some_iff] at h
    obtain ⟨y, hy, _⟩ := h
    exact ih y hy hq

/-! ### C14: the stored modules and their definition paths, through a whole run -/

/-- **the stored modules are well formed**: their keys are pairwise distinct; the definition paths of each are
    pairwise distinct, are children of the module's path, and are entries of the registry -/
structure ModInv (s : State) : Prop where
  keys : (s.modules.map (·.1)).Nodup
  nodup : ∀ e ∈ s.modules, e.2.defPaths.Nodup
  parent : ∀ e ∈ s.modules, ∀ q ∈ e.2.defPaths, Path.parent? q = some e.1
  listed : ∀ e ∈ s.modules, ∀ q ∈ e.2.defPaths, s.reg.contains q = true

theorem contains_setState (r : Registry) (p q : Path) (st : IState) :
    (r.setState p st).contains q = r.contains q := by
  unfold Registry.contains
  rw [C12.get_setState]
  split
  · cases r.get q <;> rfl
  · rfl

theorem keys_addItem (s s' : State) (i : ItemDef) (h : s.addItem i = .ok s') :
    s'.modules.map (·.1) = s.modules.map (·.1) := by
  obtain ⟨par, m0, _, _, rfl⟩ := C14.addItem_inv s s' i h
  simp only [List.map_map]
  apply List.map_congr_left
  intro e _
  simp only [Function.comp]
  split <;> rfl

theorem modInv_closed : Closed ModInv := by
  refine ⟨?_, ?_⟩
  · intro s s' i hs h
    have hkeys := keys_addItem s s' i h
    obtain ⟨par, m0, hpar, hm0, rfl⟩ := C14.addItem_inv s s' i h
    have hmem0 := C14.mem_of_lookup s.modules par m0 hm0
    refine ⟨hkeys ▸ hs.keys, C14.defPaths_nodup_main s _ i h hs.nodup, ?_, ?_⟩
    · intro e he q hq
      simp only [List.mem_map] at he
      obtain ⟨e0, he0, rfl⟩ := he
      split at hq
      · next hk =>
        have hk' : e0.1 = par := by simpa using hk
        simp only [hk] at hq ⊢
        simp only [if_true]
        split at hq
        · rw [hk']; exact hs.parent _ hmem0 q hq
        · rcases List.mem_cons.mp hq with rfl | hq
          · rw [hk']; exact hpar
          · rw [hk']; exact hs.parent _ hmem0 q hq
      · next hk =>
        simp only [hk] at hq ⊢
        exact hs.parent e0 he0 q hq
    · intro e he q hq
      simp only [List.mem_map] at he
      obtain ⟨e0, he0, rfl⟩ := he
      rw [C14.contains_add]
      split at hq
      · split at hq
        · exact Or.inl (hs.listed _ hmem0 q hq)
        · rcases List.mem_cons.mp hq with rfl | hq
          · exact Or.inr rfl
          · exact Or.inl (hs.listed _ hmem0 q hq)
      · exact Or.inl (hs.listed e0 he0 q hq)
  · intro s p st hs
    exact ⟨hs.keys, hs.nodup, hs.parent, fun e he q hq => by
      show (s.reg.setState p st).contains q = true
      rw [contains_setState]; exact hs.listed e he q hq⟩

theorem modInv_putModule (s : State) (path : Path) (md : Mod) (hmd : md.defPaths = []) (hs : ModInv s) :
    ModInv (s.putModule path md) := by
  refine ⟨?_, ?_, ?_, ?_⟩
  · simp only [State.putModule, List.map_cons, List.nodup_cons]
    refine ⟨?_, (hs.keys.sublist (List.filter_sublist.map _))⟩
    intro hmem
    obtain ⟨e, he, hk⟩ := List.mem_map.mp hmem
    have := (List.mem_filter.mp he).2
    simp [hk] at this
  · intro e he
    simp only [State.putModule, List.mem_cons, List.mem_filter] at he
    rcases he with rfl | ⟨he, _⟩
    · rw [hmd]; exact List.nodup_nil
    · exact hs.nodup e he
  · intro e he q hq
    simp only [State.putModule, List.mem_cons, List.mem_filter] at he
    rcases he with rfl | ⟨he, _⟩
    · rw [hmd] at hq; cases hq
    · exact hs.parent e he q hq
  · intro e he q hq
    simp only [State.putModule, List.mem_cons, List.mem_filter] at he
    rcases he with rfl | ⟨he, _⟩
    · rw [hmd] at hq; cases hq
    · exact hs.listed e he q hq

theorem modInv_empty (ps : Nat) : ModInv { modules := [([], ({} : Mod))], reg := { ps := ps } } :=
  ⟨(by simp), (by intro e he; simp at he; subst he; exact List.nodup_nil),
   (by intro e he q hq; simp at he; subst he; cases hq),
   (by intro e he q hq; simp at he; subst he; cases hq)⟩

theorem modInv_initial (c : Case) (s : State) (h : c.initialState = .ok s) : ModInv s :=
  Case.initialState_induct (modInv_closed.init c.ps (modInv_empty c.ps))
    (fun b b' path _ m _ hb ha => modInv_closed.addMod b b' m path (fun _ _ _ => modInv_putModule b path _ rfl hb) ha) h

theorem mapM'_map_eq {α β γ} (f : α → Res β) (g : β → γ) (k : α → γ) (hf : ∀ a b, f a = .ok b → g b = k a)
    (l : List α) (l' : List β) (h : Res.mapM' f l = .ok l') : l'.map g = l.map k := by
  induction l generalizing l' with
  | nil => simp only [Res.mapM', Res.ok.injEq] at h; subst h; rfl
  | cons a l ih =>
    unfold Res.mapM' at h
    split at h
    · next b hb =>
      split at h
      · next bs hbs =>
        simp only [Res.ok.injEq] at h
        subst h
        simp only [List.map_cons, hf a b hb, ih bs hbs]
      all_goals cases h
    all_goals cases h

/-- what `build` does to the stored modules after the resolution loop: same keys, same definition paths -/
theorem final_modules (reg : Registry) (l ms : List (Path × Mod)) (h : Res.mapM' (C20.xvalPass reg) l = .ok ms) :
    ms.map (·.1) = l.map (·.1) ∧ ms.map (fun e => (e.1, e.2.defPaths)) = l.map (fun e => (e.1, e.2.defPaths)) := by
  refine ⟨mapM'_map_eq _ _ _ ?_ l ms h, mapM'_map_eq _ _ _ ?_ l ms h⟩
  · intro a b hab
    obtain ⟨m', _, rfl⟩ := xvalPass_ok_inv hab
    rfl
  · intro a b hab
    obtain ⟨m', hm', rfl⟩ := xvalPass_ok_inv hab
    obtain ⟨_, hdp, _⟩ := resolveXVals_inv reg a.2 m' hm'
    simp only [hdp]

theorem mem_of_map_eq {α β} (f : α → β) (l l' : List α) (h : l'.map f = l.map f) : ∀ e' ∈ l', ∃ e ∈ l, f e' = f e := by
  intro e' he'
  have : f e' ∈ l.map f := by rw [← h]; exact List.mem_map_of_mem he'
  obtain ⟨e, he, hfe⟩ := List.mem_map.mp this
  exact ⟨e, he, hfe.symm⟩

/-- **the stored modules of the final state of every accepted case are well formed** -/
theorem case_modInv (c : Case) (s : State) (h : c.run = .ok s) : ModInv s := by
  obtain ⟨s1, ms, h1, hms, rfl⟩ :=
    modInv_closed.run (modInv_empty c.ps) (fun b path _ m _ _ _ hb => modInv_putModule b path _ rfl hb) h
  obtain ⟨hk, hdp⟩ := final_modules s1.reg s1.modules ms hms
  refine ⟨by show (ms.map (·.1)).Nodup; rw [hk]; exact h1.keys, ?_, ?_, ?_⟩
  · intro e' he'
    obtain ⟨e, he, hfe⟩ := mem_of_map_eq _ _ _ hdp e' he'
    simp only [Prod.mk.injEq] at hfe
    rw [hfe.2]; exact h1.nodup e he
  · intro e' he' q hq
    obtain ⟨e, he, hfe⟩ := mem_of_map_eq _ _ _ hdp e' he'
    simp only [Prod.mk.injEq] at hfe
    rw [hfe.2] at hq
    rw [hfe.1]; exact h1.parent e he q hq
  · intro e' he' q hq
    obtain ⟨e, he, hfe⟩ := mem_of_map_eq _ _ _ hdp e' he'
    simp only [Prod.mk.injEq] at hfe
    rw [hfe.2] at hq
    exact h1.listed e he q hq


/-! ### C14: every item of a non-root module is listed in its module (when module paths are distinct) -/

/-- the paths the (AST) modules of a case are written under, in order -/
def astPaths (l : List ModEnt) : List Path :=
  l.filterMap fun me => match me with | .ast p _ _ => some p | .text _ _ => none

/-- every entry of the registry whose parent path is a non-root module is listed in the definition paths of the module
    stored under that path -/
def Listed (s : State) : Prop :=
  ∀ q i par, s.reg.get q = some i → Path.parent? q = some par → par ≠ [] →
    ∃ md, (par, md) ∈ s.modules ∧ q ∈ md.defPaths

theorem lookup_of_mem_nodup {α β} [BEq α] [LawfulBEq α] (l : List (α × β)) (hn : (l.map (·.1)).Nodup) (k : α) (v : β)
    (h : (k, v) ∈ l) : l.lookup k = some v := by
  induction l with
  | nil => cases h
  | cons e l ih =>
    obtain ⟨k', v'⟩ := e
    simp only [List.map_cons, List.nodup_cons] at hn
    rcases List.mem_cons.mp h with he | he
    · cases he
      simp
    · have hne : k ≠ k' := by
        intro e
        apply hn.1
        rw [← e]
        exact List.mem_map.mpr ⟨(k, v), he, rfl⟩
      have : (k == k') = false := by simpa using hne
      rw [List.lookup_cons, this]
      exact ih hn.2 he

theorem mem_unique_of_nodup_keys {α β} [BEq α] [LawfulBEq α] (l : List (α × β)) (hn : (l.map (·.1)).Nodup) {k : α} {v v' : β}
    (h : (k, v) ∈ l) (h' : (k, v') ∈ l) : v = v' := by
  have h1 := lookup_of_mem_nodup l hn k v h
  rw [lookup_of_mem_nodup l hn k v' h'] at h1
  exact (Option.some.inj h1).symm

theorem modInvListed_closed : Closed (fun s => ModInv s ∧ Listed s) := by
  refine ⟨?_, ?_⟩
  · intro s s' i hs h
    refine ⟨modInv_closed.addItem s s' i hs.1 h, ?_⟩
    obtain ⟨parent, m0, hpar, hm0, rfl⟩ := C14.addItem_inv s s' i h
    have hmem0 := C14.mem_of_lookup s.modules parent m0 hm0
    intro q j par hj hp hne
    simp only [C14.get_add] at hj
    by_cases hq : q = i.path
    · subst hq
      rw [hpar] at hp
      cases hp
      refine ⟨{ m0 with defPaths := if m0.defPaths.contains i.path then m0.defPaths else i.path :: m0.defPaths },
        List.mem_map.mpr ⟨(parent, m0), hmem0, by simp⟩, ?_⟩
      simp only
      split
      · next hc => simpa using hc
      · exact List.mem_cons_self
    · rw [if_neg hq] at hj
      obtain ⟨md, hmd, hqm⟩ := hs.2 q j par hj hp hne
      by_cases hk : par = parent
      · subst hk
        have : md = m0 := by
          have := lookup_of_mem_nodup s.modules hs.1.keys par md hmd
          unfold State.getModule at hm0
          rw [this] at hm0
          cases hm0; rfl
        subst this
        refine ⟨{ md with defPaths := if md.defPaths.contains i.path then md.defPaths else i.path :: md.defPaths },
          List.mem_map.mpr ⟨(par, md), hmd, by simp⟩, ?_⟩
        simp only
        split
        · exact hqm
        · exact List.mem_cons_of_mem _ hqm
      · refine ⟨md, List.mem_map.mpr ⟨(par, md), hmd, ?_⟩, hqm⟩
        have : ((par == parent) : Bool) = false := by simpa using hk
        simp [this]
  · intro s p st hs
    refine ⟨modInv_closed.setState s p st hs.1, ?_⟩
    intro q j par hj hp hne
    simp only [C12.get_setState] at hj
    split at hj
    · cases hg : s.reg.get q with
      | none => rw [hg] at hj; cases hj
      | some i0 => exact hs.2 q i0 par hg hp hne
    · exact hs.2 q j par hj hp hne

theorem listed_putModule (s : State) (path : Path) (md : Mod) (hs : Listed s)
    (hfresh : path = [] ∨ path ∉ s.modules.map (·.1)) : Listed (s.putModule path md) := by
  intro q i par hg hp hne
  obtain ⟨md', hmd', hq⟩ := hs q i par hg hp hne
  refine ⟨md', ?_, hq⟩
  simp only [State.putModule, List.mem_cons, List.mem_filter]
  right
  refine ⟨hmd', ?_⟩
  have : par ≠ path := by
    rcases hfresh with rfl | hf
    · exact hne
    · intro e
      apply hf
      rw [← e]
      exact List.mem_map.mpr ⟨(par, md'), hmd', rfl⟩
  simpa using this

theorem addModule_keys (s s' : State) (m : G.Module) (path : Path) (h : s.addModule m path = .ok s') :
    (∀ k ∈ s'.modules.map (·.1), k = path ∨ k ∈ s.modules.map (·.1)) ∧
    (∀ k ∈ s.modules.map (·.1), k ∈ s'.modules.map (·.1)) ∧ path ∈ s'.modules.map (·.1) := by
  have hc : Closed (fun t : State => (∀ k ∈ t.modules.map (·.1), k = path ∨ k ∈ s.modules.map (·.1)) ∧
      (∀ k ∈ s.modules.map (·.1), k ∈ t.modules.map (·.1)) ∧ path ∈ t.modules.map (·.1)) := by
    refine ⟨?_, ?_⟩
    · intro t t' i ht ha
      rw [keys_addItem t t' i ha]
      exact ht
    · intro t p st ht
      exact ht
  refine hc.addMod s s' m path ?_ h
  intro xvals doc _
  refine ⟨?_, ?_, ?_⟩
  · intro k hk
    simp only [State.putModule, List.map_cons, List.mem_cons] at hk
    rcases hk with rfl | hk
    · exact Or.inl rfl
    · right
      obtain ⟨e, he, rfl⟩ := List.mem_map.mp hk
      exact List.mem_map.mpr ⟨e, (List.mem_filter.mp he).1, rfl⟩
  · intro k hk
    simp only [State.putModule, List.map_cons, List.mem_cons]
    by_cases e : k = path
    · exact Or.inl e
    · right
      obtain ⟨x, hx, rfl⟩ := List.mem_map.mp hk
      exact List.mem_map.mpr ⟨x, List.mem_filter.mpr ⟨hx, by simpa using e⟩, rfl⟩
  · simp [State.putModule]

theorem listed_fold (l : List ModEnt) (s0 s : State) (h : Res.foldlM C20.caseStep s0 l = .ok s)
    (hnd : (astPaths l).Nodup) (hfresh : ∀ p ∈ astPaths l, p = [] ∨ p ∉ s0.modules.map (·.1))
    (h0 : ModInv s0 ∧ Listed s0) : ModInv s ∧ Listed s := by
  induction l generalizing s0 with
  | nil => simp only [Res.foldlM, Res.ok.injEq] at h; subst h; exact h0
  | cons me rest ih =>
    obtain ⟨s1, h1, h2⟩ := Res.foldlM_cons_ok.mp h
    cases me with
    | text f t => cases h1
    | ast path file m =>
      have hap : astPaths (ModEnt.ast path file m :: rest) = path :: astPaths rest := rfl
      rw [hap] at hnd hfresh
      have hstep : s0.addModule m path = .ok s1 := h1
      have hI1 : ModInv s1 ∧ Listed s1 :=
        modInvListed_closed.addMod s0 s1 m path
          (fun xvals doc _ => ⟨modInv_putModule s0 path _ rfl h0.1,
            listed_putModule s0 path _ h0.2 (hfresh path List.mem_cons_self)⟩) hstep
      obtain ⟨hk1, _, _⟩ := addModule_keys s0 s1 m path hstep
      refine ih s1 h2 (List.nodup_cons.mp hnd).2 ?_ hI1
      intro p hp
      rcases hfresh p (List.mem_cons_of_mem _ hp) with h3 | h3
      · exact Or.inl h3
      · right
        intro hmem
        rcases hk1 p hmem with e | e
        · subst e
          exact (List.nodup_cons.mp hnd).1 hp
        · exact h3 e

theorem keys_fold (l : List ModEnt) (s0 s : State) (h : Res.foldlM C20.caseStep s0 l = .ok s) :
    (∀ k ∈ s0.modules.map (·.1), k ∈ s.modules.map (·.1)) ∧ ∀ p ∈ astPaths l, p ∈ s.modules.map (·.1) := by
  induction l generalizing s0 with
  | nil => simp only [Res.foldlM, Res.ok.injEq] at h; subst h; exact ⟨fun k hk => hk, fun p hp => by cases hp⟩
  | cons me rest ih =>
    obtain ⟨s1, h1, h2⟩ := Res.foldlM_cons_ok.mp h
    cases me with
    | text f t => cases h1
    | ast path file m =>
      have hstep : s0.addModule m path = .ok s1 := h1
      obtain ⟨_, hk2, hk3⟩ := addModule_keys s0 s1 m path hstep
      obtain ⟨i1, i2⟩ := ih s1 h2
      refine ⟨fun k hk => i1 k (hk2 k hk), ?_⟩
      intro p hp
      have hap : astPaths (ModEnt.ast path file m :: rest) = path :: astPaths rest := rfl
      rw [hap] at hp
      rcases List.mem_cons.mp hp with rfl | hp
      · exact i1 p hk3
      · exact i2 p hp

theorem keysSup_closed (K : List Path) : Closed (fun t : State => ∀ k ∈ K, k ∈ t.modules.map (·.1)) :=
  ⟨fun t t' i ht ha => by rw [keys_addItem t t' i ha]; exact ht, fun _ _ _ ht => ht⟩

theorem mem_astPaths (l : List ModEnt) (path : Path) (file : String) (m : G.Module) (h : ModEnt.ast path file m ∈ l) :
    path ∈ astPaths l := List.mem_filterMap.mpr ⟨_, h, rfl⟩

/-- **every module of the case is stored**: for every module written in the case, the final state holds a module under
    its path -/
theorem case_modules_present (c : Case) (s : State) (h : c.run = .ok s) (path : Path) (file : String) (m : G.Module)
    (hm : ModEnt.ast path file m ∈ c.modules) : ∃ md, (path, md) ∈ s.modules := by
  obtain ⟨s0, hs0, hbuild⟩ := Case.run_ok_inv h
  rw [C20.initialState_eq] at hs0
  obtain ⟨_, hall⟩ := keys_fold c.modules _ s0 hs0
  obtain ⟨s1, ms, hl, hms, rfl⟩ := State.build_ok_inv hbuild
  have h1 := (keysSup_closed [path]).loop c.prio _ s0
    (fun k hk => by simp at hk; subst hk; exact hall _ (mem_astPaths c.modules k file m hm)) s1 hl
  obtain ⟨hk, _⟩ := final_modules s1.reg s1.modules ms hms
  have : path ∈ ms.map (·.1) := by rw [hk]; exact h1 path (by simp)
  obtain ⟨e, he, rfl⟩ := List.mem_map.mp this
  exact ⟨e.2, he⟩

theorem keysEq_closed (K : List Path) : Closed (fun t : State => t.modules.map (·.1) = K) :=
  ⟨fun t t' i ht ha => by rw [keys_addItem t t' i ha]; exact ht, fun _ _ _ ht => ht⟩

/-- **every item of a non-root module is listed in its module**, for every accepted case whose module paths are
    pairwise distinct -/
theorem case_listed (c : Case) (hnd : (astPaths c.modules).Nodup) (s : State) (h : c.run = .ok s) : Listed s := by
  obtain ⟨s0, hs0, hbuild⟩ := Case.run_ok_inv h
  rw [C20.initialState_eq] at hs0
  have hnew : ModInv (State.new c.ps) ∧ Listed (State.new c.ps) :=
    modInvListed_closed.init c.ps ⟨modInv_empty c.ps, fun q i par hg => by cases hg⟩
  have hkeys0 : (State.new c.ps).modules.map (·.1) = [[]] :=
    (keysEq_closed [[]]).init c.ps rfl
  have h0 := listed_fold c.modules _ s0 hs0 hnd (by
    intro p _
    rw [hkeys0]
    by_cases e : p = []
    · exact Or.inl e
    · exact Or.inr (by simpa using e)) hnew
  obtain ⟨s1, ms, hl, hms, rfl⟩ := State.build_ok_inv hbuild
  have h1 := modInvListed_closed.loop c.prio _ s0 h0 s1 hl
  obtain ⟨_, hdp⟩ := final_modules s1.reg s1.modules ms hms
  intro q i par hg hp hne
  obtain ⟨md, hmd, hq⟩ := h1.2 q i par hg hp hne
  obtain ⟨e', he', hfe⟩ := mem_of_map_eq _ _ _ hdp.symm (par, md) hmd
  simp only [Prod.mk.injEq] at hfe
  refine ⟨e'.2, ?_, by rw [← hfe.2]; exact hq⟩
  have : e' = (par, e'.2) := by rw [hfe.1]
  rw [← this]; exact he'

theorem distinct_of_nodup (l : List ModEnt) (hnd : (astPaths l).Nodup) :
    ∀ path f1 m1 f2 m2, ModEnt.ast path f1 m1 ∈ l → ModEnt.ast path f2 m2 ∈ l → m1 = m2 := by
  induction l with
  | nil => intro path f1 m1 f2 m2 h1; cases h1
  | cons me rest ih =>
    intro path f1 m1 f2 m2 h1 h2
    have hrest : (astPaths rest).Nodup := by
      cases me with
      | ast p f m => exact (List.nodup_cons.mp (show (p :: astPaths rest).Nodup from hnd)).2
      | text f t => exact hnd
    rcases List.mem_cons.mp h1 with e1 | e1
    · rcases List.mem_cons.mp h2 with e2 | e2
      · rw [← e1] at e2; cases e2; rfl
      · subst e1
        exact absurd (mem_astPaths rest path f2 m2 e2) (List.nodup_cons.mp (show (path :: astPaths rest).Nodup from hnd)).1
    · rcases List.mem_cons.mp h2 with e2 | e2
      · subst e2
        exact absurd (mem_astPaths rest path f1 m1 e1) (List.nodup_cons.mp (show (path :: astPaths rest).Nodup from hnd)).1
      · exact ih hrest path f1 m1 f2 m2 e1 e2

theorem distinctModulePaths_of_nodup (c : Case) (hnd : (astPaths c.modules).Nodup) : DistinctModulePaths c :=
  distinct_of_nodup c.modules hnd

theorem moduleFile_mem_files (s : State) (e : Path × Mod) (he : e ∈ s.modules) (hne : e.1 ≠ []) :
    Emit.moduleFile s e.1 e.2 ∈ Emit.files s := by
  unfold Emit.files Emit.sortBy
  refine List.mem_map.mpr ⟨e, List.mem_mergeSort.mpr (List.mem_filter.mpr ⟨he, ?_⟩), rfl⟩
  cases h : e.1 with
  | nil => exact absurd h hne
  | cons a l => rfl

theorem itemItems_in_file (s : State) (key : Path) (md : Mod) (q : Path) (i : ItemDef) (hq : q ∈ md.defPaths)
    (hg : s.reg.get q = some i) : ∀ x ∈ Emit.itemItems s.reg i, x ∈ fileItems (Emit.moduleFile s key md) := by
  intro x hx
  rw [fileItems_moduleFile]
  simp only [List.mem_append]
  left; left; right
  simp only [List.mem_flatMap, Emit.sortBy, List.mem_mergeSort, List.mem_filterMap]
  exact ⟨i, ⟨q, hq, hg⟩, hx⟩


end PyxisVerif.CaseLift2
