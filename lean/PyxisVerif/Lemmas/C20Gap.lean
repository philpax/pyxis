import PyxisVerif.Lemmas.C20E2E
import PyxisVerif.Lemmas.C02Global
/-!
# C20, end to end – an `unknown<N>` gap versus an address on the following field

Helper lemmas for `Props/C20Gap.lean`.

The two descriptions

```text
type T { …, _: unknown<n>, f: X, … }        type T { …, #[address(A)] f: X, … }
```

give the same `type_definition::build` in every state in which (i) `u8` is the predefined one-byte type
(an invariant of every run: `u8ok_visited`) and (ii) the placement loop arrives at the gap at offset
`A - n`.  The chain:

* the statement loop leaves two accumulators that differ in the pending list only: `… (none, gap) ::
  (none, f) …` against `… (some A, f) …` (`PendR`, `stmtFold_gap`); statements after the gap are visited
  with an index that is one smaller, which only a `vftable` block could notice, and it is rejected with
  the same message at every index but 0;
* `resolve_regions` places both lists into lists related by `LR` (`Lemmas/C20.lean`): equal region for
  region, except that the gap is a source region on one side and generated padding on the other
  (`resolveFrom_RR`, from `gap_vs_address_RR`);
* the naming pass gives both the same regions (`nameRegions_LR`): an unnamed region gets the name
  `_field_<offset>`, private visibility, no doc comment – whatever the gap statement said –, and keeps
  its type, which is `[u8; n]` on both sides;
* the alignment block looks at sizes and alignments of the placed regions only (`alignCheck_LR`).
-/
namespace PyxisVerif.C20
open Layout

def u8Item : ItemDef := C02.predefItem ("u8", 1)

def U8ok (reg : Registry) : Prop := reg.get ["u8"] = some u8Item

theorem u8ok_new (ps : Nat) : U8ok (State.new ps).reg :=
  C02.new_get ps ("u8", 1) (by decide)

theorem u8ok_addItem (s s' : State) (i : ItemDef) (h : s.addItem i = .ok s')
    (hfree : s.reg.get i.path = none) (hu : U8ok s.reg) : U8ok s'.reg :=
  (C02.addItem_ext s s' i h (Or.inl hfree)).1.res' hu rfl

theorem u8ok_initial (c : Case) (s : State) (h : c.initialState = .ok s) : U8ok s.reg :=
  Case.initialState_induct (P := fun s => U8ok s.reg) (u8ok_new c.ps)
    (fun _ _ _ _ _ _ hs ha => State.addModule_of_addItem (P := fun s => U8ok s.reg) (fun _ _ _ => hs)
      (fun s i s' hs hfree ha => u8ok_addItem s s' i ha hfree hs) ha) h

theorem u8ok_keeps {s s' : State} (hk : Keeps ["u8"] s s') (hu : U8ok s.reg) : U8ok s'.reg :=
  hk u8Item _ hu rfl

theorem u8ok_attemptItem (s : State) (q : Path) (hu : U8ok s.reg) : U8ok (attemptItem s q).1.reg :=
  u8ok_keeps (attemptItem_keeps ["u8"] s q) hu

theorem u8ok_visited (c : Case) (s : State) (h : Visited c s) : U8ok s.reg := by
  induction h with
  | init s0 h0 => exact u8ok_initial c s0 h0
  | step s q _ ih => exact u8ok_attemptItem s q ih

theorem u8ok_buildVftable (s : State) (owner : Path) (vis : Vis) (fb : Option Region) (vfns : Option (List SFunc))
    (hu : U8ok s.reg) : U8ok (buildVftable s owner vis fb vfns).1.reg :=
  u8ok_keeps (reach_keeps ["u8"] (C02.buildVftable_reach2 s owner vis fb vfns)) hu

theorem paddingType_u8ok (reg : Registry) (hu : U8ok reg) (n : Nat) :
    reg.paddingType n = .ok (.arr (.raw ["u8"]) n) := by
  have hc : reg.contains ["u8"] = true := by unfold Registry.contains; rw [hu]; rfl
  unfold Registry.paddingType Registry.resolveString
  simp [hc]

theorem size_u8arr (reg : Registry) (hu : U8ok reg) (n : Nat) :
    DTy.size reg (.arr (.raw ["u8"]) n) = if n ≤ usizeMax then .ok (some n) else .ok none := by
  unfold U8ok at hu
  simp only [DTy.size, hu, u8Item, C02.predefItem, ItemDef.resolved?, Option.bind_some, Option.map_some,
    Nat.one_mul]

theorem align_u8arr (reg : Registry) (hu : U8ok reg) (n : Nat) :
    DTy.align reg (.arr (.raw ["u8"]) n) = some 1 := by
  unfold U8ok at hu
  simp only [DTy.align, hu, u8Item, C02.predefItem, ItemDef.resolved?, Option.bind_some, Option.map_some]
  rfl

/-- the region the statement loop makes of a gap statement `_: unknown<n>` -/
def gapRegion (vis : G.Vis) (doc : Option String) (n : Nat) : Region :=
  { vis, name := none, doc, ty := .data (.arr (.raw ["u8"]) n), isBase := false }

theorem gapRegion_isGap (reg : Registry) (hu : U8ok reg) (vis : G.Vis) (doc : Option String) (n : Nat) :
    IsGapRegion reg (gapRegion vis doc n) n :=
  ⟨rfl, rfl, _, paddingType_u8ok reg hu n, rfl⟩

theorem toPField_gapRegion (reg : Registry) (hu : U8ok reg) (vis : G.Vis) (doc : Option String) (n : Nat)
    (hn : n ≤ usizeMax) : toPField reg none (gapRegion vis doc n) = gapField (gapRegion vis doc n) n := by
  unfold toPField gapField
  simp only [gapRegion, RTy.size, RTy.align, RTy.isArray, DTy.isArray, size_u8arr reg hu n, align_u8arr reg hu n,
    hn, if_true]

theorem RR.rfl_of_not_ok {r : Region} {n : Nat} (x : Res (St Region)) (h : ∀ a, x ≠ .ok a) : RR r n x x := by
  cases x with
  | ok a => exact (h a rfl).elim
  | defer => trivial
  | err m => rfl
  | panic m => rfl

theorem gap_place (reg : Registry) (hu : U8ok reg) (vis : G.Vis) (doc : Option String) (n : Nat)
    (st : St Region) (g : PField Region) (fs : List (PField Region)) (hg : g.addr = none) :
    RR (gapRegion vis doc n) n (place st (toPField reg none (gapRegion vis doc n) :: g :: fs))
      (place st ({ g with addr := some (st.2 + n) } :: fs)) := by
  by_cases hn : n ≤ usizeMax
  · rw [toPField_gapRegion reg hu vis doc n hn]
    exact gap_vs_address_RR st _ n g fs hg
  · have e1 : place st (toPField reg none (gapRegion vis doc n) :: g :: fs) = .defer := by
      rw [place_cons]
      simp only [placeStep, toPField, pushField, push, gapRegion, RTy.size, size_u8arr reg hu n, hn, if_false,
        Res.bind]
    have e2 : place st ({ g with addr := some (st.2 + n) } :: fs) = .defer := by
      rw [place_cons]
      have h1 : ¬ (st.2 + n < st.2) := by omega
      have h2 : st.2 + n - st.2 = n := by omega
      have h3 : ¬ (n = 0) := by intro h; rw [h] at hn; exact hn (Nat.zero_le _)
      have h4 : ¬ (st.2 + n ≤ usizeMax) := by omega
      simp only [placeStep, h1, if_false, h2, pushPad, push, h3, false_and, h4, Res.bind]
    rw [e1, e2]
    trivial
theorem LR.sum_eq {r : Region} {n : Nat} {a b : List (Placed Region)} (h : LR r n a b) :
    sumSizes a = sumSizes b := by
  have := h.map_eq
  have h2 := congrArg (fun l => (l.map Prod.fst).sum) this
  simpa [sumSizes, List.map_map, Function.comp_def] using h2

theorem resolveFrom_RR (r : Region) (n : Nat) (start : Res (St Region)) (fs fs' : List (PField Region))
    (target : Option Nat) (h : ∀ st0, start = .ok st0 → RR r n (place st0 fs) (place st0 fs')) :
    RR r n (resolveFrom start fs target) (resolveFrom start fs' target) := by
  cases start with
  | ok st0 =>
    have hp := h st0 rfl
    unfold resolveFrom
    simp only []
    cases h1 : place st0 fs <;> cases h2 : place st0 fs' <;> rw [h1, h2] at hp <;> simp only [RR] at hp
      <;> simp only [RR]
    · next a b =>
      have ht : RR r n (padTail a target) (padTail b target) := by
        unfold padTail
        cases target with
        | none => exact hp
        | some t =>
          simp only [← hp.1]
          by_cases c : a.2 < t
          · simp only [c, if_true]; exact push_congr r n a b hp _ _ _ _
          · simp only [c, if_false]; exact hp
      cases h3 : padTail a target <;> cases h4 : padTail b target <;> rw [h3, h4] at ht <;> simp only [RR] at ht
        <;> simp only []
      · next a2 b2 =>
        rw [← ht.2.sum_eq]
        cases target with
        | none => exact ⟨rfl, ht.2⟩
        | some t =>
          simp only []
          by_cases c : sumSizes a2.1 ≠ t
          · rw [if_pos c, if_pos c]
          · rw [if_neg c, if_neg c]; exact ⟨rfl, ht.2⟩
      · exact ht
      · exact ht
    · exact hp
    · exact hp
  | defer => trivial
  | err m => rfl
  | panic m => rfl

theorem PR.size_eq {r : Region} {n : Nat} {p q : Placed Region} (h : PR r n p q) : p.size = q.size := by
  rcases h with rfl | ⟨_, _, h1, h2, _⟩
  · rfl
  · rw [h1, h2]

theorem PR.align_eq {r : Region} {n : Nat} {p q : Placed Region} (h : PR r n p q) : p.align = q.align := by
  rcases h with rfl | ⟨_, _, _, _, h3⟩
  · rfl
  · exact h3

theorem nameRegions_LR (reg : Registry) (r : Region) (n : Nat) (hr : IsGapRegion reg r n)
    (ps qs : List (Placed Region)) (h : LR r n ps qs) (off : Nat) :
    nameRegions reg off ps = nameRegions reg off qs := by
  induction h generalizing off with
  | nil => rfl
  | @cons p q ps qs hp _ ih =>
    rcases hp with rfl | ⟨h1, h2, h3, h4, _⟩
    · rw [nameRegions.eq_def]
      conv => rhs; rw [nameRegions.eq_def]
      simp only [ih]
    · obtain ⟨hn, _, t, ht, hty⟩ := hr
      rw [nameRegions.eq_def]
      conv => rhs; rw [nameRegions.eq_def]
      simp only [h1, h2, h3, h4, ht, hn, hty, ih]

theorem lcmAll_LR {r : Region} {n : Nat} {ps qs : List (Placed Region)} (h : LR r n ps qs) :
    lcmAll ps = lcmAll qs := by
  unfold lcmAll
  generalize (1 : Nat) = acc
  induction h generalizing acc with
  | nil => rfl
  | cons hp _ ih =>
    simp only [Res.foldlM, hp.align_eq]
    split
    · exact ih _
    · rfl
    · rfl
    · rfl

theorem fieldsAligned_LR {r : Region} {n : Nat} {ps qs : List (Placed Region)} (h : LR r n ps qs) (off : Nat) :
    fieldsAligned off ps = fieldsAligned off qs := by
  induction h generalizing off with
  | nil => rfl
  | cons hp _ ih =>
    simp only [fieldsAligned, hp.align_eq, hp.size_eq, ih]

theorem requestedAlign_LR {r : Region} {n : Nat} {ps qs : List (Placed Region)} (h : LR r n ps qs) (ps0 : Nat)
    (al : Option Nat) : requestedAlign ps0 al ps = requestedAlign ps0 al qs := by
  cases h with
  | nil => rfl
  | cons hp ht =>
    cases ht with
    | nil => simp only [requestedAlign, hp.align_eq]
    | cons _ _ => rfl

theorem alignCheck_LR {r : Region} {n : Nat} {ps qs : List (Placed Region)} (h : LR r n ps qs) (ps0 : Nat)
    (packed : Bool) (al : Option Nat) (size : Nat) :
    alignCheck ps0 packed al ps size = alignCheck ps0 packed al qs size := by
  unfold alignCheck
  rw [requestedAlign_LR h, lcmAll_LR h, fieldsAligned_LR h]

/-- the statement is a gap: an unnamed field `_: unknown<n>` (any visibility), whose attributes contain
    neither `#[base]` nor `#[address(..)]` and no malformed doc attribute -/
def IsGapStmt (gap : G.Stmt) (n : Nat) : Prop :=
  (∃ vis, gap.field = .field vis "_" (.unk n)) ∧ (G.docOf gap.attrs).isSome = true ∧
    Res.foldlM fieldAttrStep {} gap.attrs = .ok {}

theorem fold_shifted (gr : Region) (hn : gr.name = none) (A K : Nat) (reg : Registry) (scope : List Path)
    (l : List G.Stmt) (i j : Nat) (acc acc' : StmtAcc) (h : PendR [(none, gr)] A K acc acc') :
    RelRes (PendR [(none, gr)] A K)
      (Res.foldlM (stmtStep reg scope) acc ((l.zipIdx (i + 1)).map fun p => (p.2, p.1)))
      (Res.foldlM (stmtStep reg scope) acc' ((l.zipIdx (j + 1)).map fun p => (p.2, p.1))) := by
  induction l generalizing i j acc acc' with
  | nil => exact .ok h
  | cons a l ih =>
    simp only [List.zipIdx_cons, List.map_cons]
    rw [foldlM_cons_bind, foldlM_cons_bind]
    exact (stmtStep_PendR (by simpa using hn) A K reg scope acc acc' h (i + 1) (j + 1) (Or.inr ⟨by omega, by omega⟩) a).bind
      (fun c c' hr => ih (i + 1) (j + 1) c c' hr)

theorem stmtStep_gapStmt (reg : Registry) (hu : U8ok reg) (scope : List Path) (acc : StmtAcc) (idx : Nat)
    (gap : G.Stmt) (n : Nat) (vis : G.Vis) (doc : Option String)
    (hf : gap.field = .field vis "_" (.unk n)) (hdoc : G.docOf gap.attrs = some doc)
    (hfa : Res.foldlM fieldAttrStep {} gap.attrs = .ok {}) :
    stmtStep reg scope acc (idx, gap)
      = .ok { acc with pending := acc.pending ++ [(none, gapRegion vis doc n)] } := by
  unfold stmtStep
  simp only [hf, hdoc, hfa, Registry.resolveTy, paddingType_u8ok reg hu n]
  simp [gapRegion]

theorem stmtFold_gap (A : Nat) (reg : Registry) (hu : U8ok reg) (scope : List Path) (spre spost : List G.Stmt)
    (gap st : G.Stmt) (n : Nat) (gvis : G.Vis) (gdoc : Option String)
    (hgf : gap.field = .field gvis "_" (.unk n)) (hgdoc : G.docOf gap.attrs = some gdoc)
    (hgfa : Res.foldlM fieldAttrStep {} gap.attrs = .ok {})
    (vis : G.Vis) (name : String) (ty : G.Ty) (hf : st.field = .field vis name ty) (hna : NoAddrAttr st) :
    RelRes (PendR [(none, gapRegion gvis gdoc n)] A (spre.filter C01.isFieldStmt).length)
      (stmtFold reg scope (spre ++ gap :: st :: spost)) (stmtFold reg scope (spre ++ withAddr st A :: spost)) := by
  simp only [stmtFold, List.zipIdx_append, List.zipIdx_cons, List.map_append, List.map_cons]
  refine RelRes.foldlM_prefix _ _ _ _ _ (fun acc hp => ?_)
  have hlen := stmtFold_pending hp
  rw [foldlM_cons_bind, stmtStep_gapStmt reg hu scope acc (0 + spre.length) gap n gvis gdoc hgf hgdoc hgfa,
    foldlM_cons_bind (a := (0 + spre.length, withAddr st A)), ← hlen]
  simp only [Res.bind]
  rw [foldlM_cons_bind]
  exact (stmtStep_withAddr (mid := [(none, gapRegion gvis gdoc n)]) (by simp [gapRegion]) A reg scope acc
    (0 + spre.length + 1) (0 + spre.length) st vis name ty hf hna).bind (fun a a' hr =>
      fold_shifted (gapRegion gvis gdoc n) rfl A _ reg scope spost (0 + spre.length + 1) (0 + spre.length) a a' hr)

/-- two results of `resolve_regions`: the same regions, vftable and size; placements related by `LR` -/
def OR (r : Region) (n : Nat) (x y : RROut) : Prop :=
  x.1 = y.1 ∧ x.2.1 = y.2.1 ∧ x.2.2.1 = y.2.2.1 ∧ LR r n x.2.2.2 y.2.2.2

theorem RR.relRes {r : Region} {n : Nat} {x y : Res (St Region)} (h : RR r n x y) : RelRes (SR r n) x y := by
  cases x <;> cases y <;> simp only [RR] at h
  · exact .ok h
  · exact .defer
  · subst h; exact .err _
  · subst h; exact .panic _

theorem rrTail_gap (reg : Registry) (hu : U8ok reg) (ppre ppost : List (Option Nat × Region)) (gvis : G.Vis)
    (gdoc : Option String) (n : Nat) (r : Region) (A : Nat) (target : Option Nat) (vft : Option Vft)
    (vregion : Option Region)
    (hc : ∀ st0 st1, placeStart reg vregion = .ok st0 →
      place st0 (ppre.map fun p => toPField reg p.1 p.2) = .ok st1 → st1.2 + n = A) :
    RelRes (OR (gapRegion gvis gdoc n) n)
      (rrTail reg (ppre ++ (none, gapRegion gvis gdoc n) :: (none, r) :: ppost) target vft vregion)
      (rrTail reg (ppre ++ (some A, r) :: ppost) target vft vregion) := by
  rw [rrTail_eq, rrTail_eq]
  refine (RR.relRes (resolveFrom_RR (gapRegion gvis gdoc n) n _ _ _ target (fun st0 h0 => ?_))).bind
    (fun a b hab => ?_)
  · simp only [List.map_append, List.map_cons, place_append]
    cases hp : place st0 (ppre.map fun p => toPField reg p.1 p.2) with
    | ok st1 =>
      simp only [Res.bind]
      have h := gap_place reg hu gvis gdoc n st1 (toPField reg none r)
        (ppost.map fun p => toPField reg p.1 p.2) rfl
      rw [hc st0 st1 h0 hp] at h
      exact h
    | defer => trivial
    | err m => rfl
    | panic m => rfl
  · rw [nameRegions_LR reg _ n (gapRegion_isGap reg hu gvis gdoc n) a.1 b.1 hab.2 0]
    exact RelRes.bind_same (fun regions _ => .ok ⟨rfl, rfl, hab.1, hab.2⟩)

theorem btAfter_OR (s1 : State) (path : Path) (doc : Option String) (ta : TypeAttrs) (r : Region) (n : Nat)
    (a b : RROut) (h : OR r n a b) : btAfter s1 path doc ta a = btAfter s1 path doc ta b := by
  obtain ⟨a1, a2, a3, a4⟩ := a
  obtain ⟨b1, b2, b3, b4⟩ := b
  obtain ⟨h1, h2, h3, h4⟩ := h
  simp only [] at h1 h2 h3 h4
  subst h1 h2 h3
  unfold btAfter
  simp only [alignCheck_LR h4]

theorem btCore_gap (s : State) (path : Path) (vis : Vis) (doc : Option String) (ta : TypeAttrs)
    (target : Option Nat) (sa sa' : StmtAcc) (gvis : G.Vis) (gdoc : Option String) (n A K : Nat)
    (hu : U8ok s.reg) (har : PendR [(none, gapRegion gvis gdoc n)] A K sa sa')
    (hc : ∀ s1 vft vregion st0 st1,
      buildVftable s path vis ((sa.pending.map (·.2)).find? (·.isBase)) sa.vfns = (s1, .ok (vft, vregion)) →
      placeStart s1.reg vregion = .ok st0 →
      place st0 ((sa.pending.take K).map fun p => toPField s1.reg p.1 p.2) = .ok st1 → st1.2 + n = A) :
    btCore s path vis doc ta target sa' = btCore s path vis doc ta target sa := by
  obtain ⟨hv, ppre, r, ppost, hk, h1, h2⟩ := har
  replace h1 : sa.pending = ppre ++ (none, gapRegion gvis gdoc n) :: (none, r) :: ppost := h1
  refine btCore_pending s path vis doc ta target sa sa' hv
    (by rw [h1, h2]; simp [List.find?_append, gapRegion]) (fun s1 vft vregion hb => ?_)
  have hu1 : U8ok s1.reg := by
    have := u8ok_buildVftable s path vis ((sa.pending.map (·.2)).find? (·.isBase)) sa.vfns hu
    rw [hb] at this
    exact this
  rw [h1, h2]
  exact (rrTail_gap s1.reg hu1 ppre ppost gvis gdoc n r A target vft vregion (fun st0 st1 h0 hp =>
    hc s1 vft vregion st0 st1 hb h0 (by rw [h1, List.take_left' hk]; exact hp))).mono
      (fun a b hor => (btAfter_OR s1 path doc ta _ n a b hor).symm)

/-- one attempt: in a state in which `u8` is the predefined type and the natural offset of the gap, if
    determined, is `A - n`, `type_definition::build` gives the same answer and the same new state -/
theorem buildType_gap (s : State) (path : Path) (vis : Vis) (td : G.TypeDef) (spre spost : List G.Stmt)
    (gap st : G.Stmt) (fvis : G.Vis) (name : String) (ty : G.Ty) (n A : Nat) (hu : U8ok s.reg)
    (hs : td.stmts = spre ++ gap :: st :: spost) (hgap : IsGapStmt gap n)
    (hf : st.field = .field fvis name ty) (hna : NoAddrAttr st)
    (hoff : ∀ a, naturalOffset s path vis td (spre.filter C01.isFieldStmt).length = some a → a + n = A) :
    buildType s path vis { td with stmts := spre ++ withAddr st A :: spost } = buildType s path vis td := by
  obtain ⟨⟨gvis, hgf⟩, hgd, hgfa⟩ := hgap
  obtain ⟨gdoc, hgdoc⟩ := Option.isSome_iff_exists.mp hgd
  exact buildType_stmts s path vis td _ (PendR [(none, gapRegion gvis gdoc n)] A (spre.filter C01.isFieldStmt).length)
    (fun module _ => by
      rw [hs]
      exact stmtFold_gap A s.reg hu module.scope spre spost gap st n gvis gdoc hgf hgdoc hgfa fvis name ty hf hna)
    (fun module doc ta sa sa' h1 e1 har => btCore_gap s path vis doc ta _ sa sa' gvis gdoc n A _ hu har
      (fun _ _ _ _ _ hb h0 hp => hoff _ (naturalOffset_eq h1 e1 hb h0 hp)))

def IsPlainFieldStmt (st : G.Stmt) : Prop := C01.isFieldStmt st = true ∧ NoAddrAttr st

theorem IsPlainFieldStmt.field {st : G.Stmt} (h : IsPlainFieldStmt st) :
    ∃ vis name ty, st.field = .field vis name ty := by
  have h1 := h.1
  unfold C01.isFieldStmt at h1
  cases hf : st.field with
  | field vis name ty => exact ⟨vis, name, ty, rfl⟩
  | vftable fns => rw [hf] at h1; cases h1

/-- the definition `d` (a type) with the gap statement (`_gap`, at position `spre.length`) removed and
    `#[address(A)]` added to the field statement `st` that followed it -/
def gapRewrite (d : G.Item) (td : G.TypeDef) (spre spost : List G.Stmt) (_gap st : G.Stmt) (A : Nat) : G.Item :=
  { d with inner := .type { td with stmts := spre ++ withAddr st A :: spost } }

theorem gap_to_address_run_lem (c c' : Case) (p : Path) (d : G.Item) (td : G.TypeDef) (spre spost : List G.Stmt)
    (gap st : G.Stmt) (n A : Nat)
    (hd : d.inner = .type td) (hs : td.stmts = spre ++ gap :: st :: spost)
    (hgap : IsGapStmt gap n) (hst : IsPlainFieldStmt st)
    (hrep : ReplacedDef c c' p d (gapRewrite d td spre spost gap st A))
    (hside : ∀ s, Visited c s → ∀ i, s.reg.get p = some i → i.state = .unres d →
      ∀ a, naturalOffset s p d.vis td (spre.filter C01.isFieldStmt).length = some a → a + n = A) :
    c'.run = mapO (swapS p d (gapRewrite d td spre spost gap st A)) c.run := by
  obtain ⟨fvis, name, ty, hf⟩ := hst.field
  exact run_replaced_type c c' p d td _ hd hrep (fun s hv i hg hst' =>
    buildType_gap s p d.vis td spre spost gap st fvis name ty n A (u8ok_visited c s hv) hs hgap hf hst.2
      (hside s hv i hg hst'))

theorem ReplacedDef.symm {c c' : Case} {p : Path} {d d' : G.Item} (h : ReplacedDef c c' p d d')
    (hname : d'.name = d.name) : ReplacedDef c' c p d' d := by
  obtain ⟨j, k, path, file, m, hj, hk, hp, rfl⟩ := h
  obtain ⟨hjl, hje⟩ := List.getElem?_eq_some_iff.mp hj
  obtain ⟨hkl, hke⟩ := List.getElem?_eq_some_iff.mp hk
  refine ⟨j, k, path, file, { m with defs := m.defs.set k d' }, ?_, ?_, ?_, ?_⟩
  · simp [hjl]
  · simp [hkl]
  · rw [hname]; exact hp
  · have e1 : (m.defs.set k d').set k d = m.defs := by
      rw [List.set_set, ← hke]; exact List.set_getElem_self hkl
    have e2 : (c.modules.set j (.ast path file { m with defs := m.defs.set k d' })).set j (.ast path file m)
        = c.modules := by
      rw [List.set_set, ← hje]; exact List.set_getElem_self hjl
    simp only [e1]
    rw [show ({ m with defs := m.defs } : G.Module) = m from rfl, e2]

/-- the states a case can visit when `p` is the only unresolved item and one attempt resolves it:
    the initial state, and states in which `p` is resolved -/
theorem visited_single (c : Case) (p : Path) (s0 : State) (h0 : c.initialState = .ok s0)
    (hall : s0.reg.types.all (fun e => e.1 == p || e.2.isResolved) = true)
    (hres : (((attemptItem s0 p).1.reg.get p).bind (·.resolved?)).isSome = true)
    (s : State) (hv : Visited c s) : s = s0 ∨ ∃ i r, s.reg.get p = some i ∧ i.state = .res r := by
  induction hv with
  | init s1 h1 => rw [h0] at h1; cases h1; exact Or.inl rfl
  | step s q _ ih =>
    rcases ih with rfl | ⟨i, r, hg, hr⟩
    · by_cases hq : q = p
      · subst hq
        right
        cases hg : (attemptItem s q).1.reg.get q with
        | none => rw [hg] at hres; cases hres
        | some i =>
          rw [hg] at hres
          simp only [Option.bind_some, ItemDef.resolved?] at hres
          cases hst : i.state with
          | unres d => rw [hst] at hres; cases hres
          | res r => exact ⟨i, r, rfl, hst⟩
      · left
        have hnot : ∀ item d, s.reg.get q = some item → item.state ≠ .unres d := by
          intro item d hg hst
          have hm := C14.mem_of_lookup s.reg.types q item hg
          have := List.all_eq_true.mp hall _ hm
          simp only [Bool.or_eq_true, beq_iff_eq, hq, false_or, ItemDef.isResolved, ItemDef.resolved?, hst] at this
          cases this
        exact attemptItem_induct (P := fun t => t = s) rfl (fun item d hg hst => (hnot item d hg hst).elim)
          (fun item d _ _ hg hst _ _ => (hnot item d hg hst).elim)
    · exact Or.inr ⟨i, r, attemptItem_keeps p s q i r hg hr, hr⟩

theorem fieldAttrStep_other (fa : FieldAttrs) (a : G.Attr) (h1 : a ≠ .ident "base")
    (h2 : ∀ args, a ≠ .fn "address" args) : fieldAttrStep fa a = .ok fa := by
  unfold fieldAttrStep
  split
  · exact (h1 rfl).elim
  · exact (h2 _ rfl).elim
  · rfl

theorem fieldAttrs_other (l : List G.Attr) (fa : FieldAttrs)
    (h : ∀ a ∈ l, a ≠ .ident "base" ∧ ∀ args, a ≠ .fn "address" args) :
    Res.foldlM fieldAttrStep fa l = .ok fa := by
  induction l with
  | nil => rfl
  | cons a l ih =>
    simp only [Res.foldlM]
    rw [fieldAttrStep_other fa a (h a List.mem_cons_self).1 (h a List.mem_cons_self).2]
    exact ih (fun b hb => h b (List.mem_cons_of_mem _ hb))

theorem docStep_isSome (acc : Option (Option String)) (a : G.Attr) (ha : acc.isSome = true)
    (h : ∀ e, a = .assign "doc" e → ∃ v, e = .str v) : (docStep acc a).isSome = true := by
  cases acc with
  | none => cases ha
  | some doc =>
    unfold docStep
    simp only []
    split
    · cases doc <;> rfl
    · next e hne =>
      obtain ⟨v, hv⟩ := h e rfl
      exact (hne v hv).elim
    · rfl

theorem docOf_isSome (l : List G.Attr) (h : ∀ a ∈ l, ∀ e, a = .assign "doc" e → ∃ v, e = .str v) :
    (G.docOf l).isSome = true := by
  rw [docOf_eq_fold]
  have H : ∀ acc : Option (Option String), acc.isSome = true → (l.foldl docStep acc).isSome = true := by
    induction l with
    | nil => intro acc ha; exact ha
    | cons a l ih =>
      intro acc ha
      simp only [List.foldl_cons]
      exact ih (fun b hb => h b (List.mem_cons_of_mem _ hb)) _
        (docStep_isSome acc a ha (h a List.mem_cons_self))
  exact H _ rfl

/-- a `_: unknown<n>` statement whose attributes are doc comments and attributes other than `#[base]`,
    `#[address(..)]` is a gap statement; in particular the plain `_: unknown<n>` -/
theorem isGapStmt_of_attrs (vis : G.Vis) (n : Nat) (attrs : List G.Attr)
    (h : ∀ a ∈ attrs, a ≠ .ident "base" ∧ (∀ args, a ≠ .fn "address" args) ∧
      ∀ e, a = .assign "doc" e → ∃ v, e = .str v) :
    IsGapStmt { field := .field vis "_" (.unk n), attrs } n :=
  ⟨⟨vis, rfl⟩, docOf_isSome attrs (fun a ha => (h a ha).2.2),
    fieldAttrs_other attrs {} (fun a ha => ⟨(h a ha).1, (h a ha).2.1⟩)⟩

end PyxisVerif.C20
