import PyxisVerif.Spec.C15
import PyxisVerif.Lemmas.C14
import PyxisVerif.Lemmas.Build
/-! extern values: `xvalAddress` against `declInt "address"`, one converted value of `add_module` -/
namespace PyxisVerif.C15
open Gen

def xaddrStep (acc : Option Nat) (a : G.Attr) : Res (Option Nat) :=
  match a with
  | .fn "address" [.int v] => match tryUsize v with
    | some n => .ok (some n)
    | none => .err "failed to convert `address` attribute into usize for extern value"
  | _ => .ok acc

theorem xvalAddress_eq (attrs : List G.Attr) : xvalAddress attrs = Res.foldlM xaddrStep none attrs := rfl

theorem xvalAddress_rel (attrs : List G.Attr) (o : Option Nat) (h : xvalAddress attrs = .ok o) :
    Rel id o (declInt "address" attrs) := by
  refine Rel.fold (proj := id) (fun st a st' hs ai hr => ?_) h rfl
  unfold xaddrStep at hs
  split at hs
  · split at hs
    · next n hn => cases hs; exact .hit hn
    · cases hs
  · next hm => cases hs; rwa [declStep_miss hm]

open PyxisVerif.C14 in
theorem xvalStep_ok (ev : G.XVal) (x : XValue) (h : xvalStep ev = .ok x) :
    ∃ a : Int, declInt "address" ev.attrs = some a ∧ 0 ≤ a ∧ x.addr = a.toNat
      ∧ x.name = ev.name ∧ x.vis = ev.vis ∧ x.gty = ev.ty := by
  unfold xvalStep at h
  split at h
  · cases h
  · next n hn =>
    simp only [Res.ok.injEq] at h
    subst h
    have hr := xvalAddress_rel _ _ hn
    unfold Rel at hr
    split at hr
    · next a ha => exact ⟨a, ha, hr.1, by simpa using hr.2, rfl, rfl, rfl⟩
    · cases hr
  · exact (Res.cast_ne_ok _ _ h).elim

theorem head_mk (t : String) (xs : List Sexp) : Sexp.head? (Sexp.mk t xs) = some t := rfl

end PyxisVerif.C15
