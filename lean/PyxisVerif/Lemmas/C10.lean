import PyxisVerif.Spec.C09
import PyxisVerif.Lemmas.Stages
import PyxisVerif.Lemmas.C05
import PyxisVerif.Lemmas.C20
/-!
# C10: every round that continues makes progress

`Prog r r' l`: what a round over the items `l` does to the registry (keys stay duplicate-free, nothing becomes
unresolved, a new key is the generated vftable item of an attempted item).  The measure `mu` (unresolved entries plus
generated items still missing) drops in every round after which the loop goes on (`round_progress`), so the rounds
bound of `SemanticState::build` is never exhausted (`resolveLoop_ne_fuel`).
-/
namespace PyxisVerif.C10
open C09

theorem nodup_subset_length {α} [DecidableEq α] (l1 l2 : List α) (hn : l1.Nodup) (hs : ∀ x ∈ l1, x ∈ l2) :
    l1.length ≤ l2.length :=
  hn.length_le_of_subset hs

theorem nodup_subset_lt {α} [DecidableEq α] (l1 l2 : List α) (hn : l1.Nodup) (hs : ∀ x ∈ l1, x ∈ l2)
    (o : α) (ho : o ∈ l2) (hno : o ∉ l1) : l1.length < l2.length :=
  nodup_subset_length (o :: l1) l2 (List.nodup_cons.mpr ⟨hno, hn⟩) (by
    intro x hx
    rcases List.mem_cons.mp hx with rfl | hx
    · exact ho
    · exact hs x hx)

theorem nodup_subset_perm {α} [DecidableEq α] (l1 l2 : List α) (hn : l1.Nodup) (hn2 : l2.Nodup)
    (hs : ∀ x ∈ l1, x ∈ l2) (hl : l2.length ≤ l1.length) : l1.Perm l2 := by
  refine (List.perm_ext_iff_of_nodup hn hn2).mpr fun a => ⟨hs a, fun ha => ?_⟩
  apply Decidable.byContradiction
  intro hna
  have := nodup_subset_lt l1 l2 hn hs a ha hna
  omega

theorem mapM'_ok_all {α β} (f : α → Res β) (l : List α) (l' : List β) (h : Res.mapM' f l = .ok l') :
    ∀ x ∈ l, ∃ y, f x = .ok y :=
  Res.mapM'_induct (P := fun l _ => ∀ x ∈ l, ∃ y, f x = .ok y) (fun _ hx => nomatch hx)
    (fun _ b _ _ hb _ ih x hx => (List.mem_cons.mp hx).elim (fun e => e ▸ ⟨b, hb⟩) (ih x)) h

theorem mapM'_err {α β} (f : α → Res β) (l : List α)
    (hnp : ∀ y ∈ l, (∃ b, f y = .ok b) ∨ ∃ m, f y = .err m)
    (x : α) (hx : x ∈ l) (hxe : ∃ m, f x = .err m) : ∃ m, Res.mapM' f l = .err m := by
  induction l with
  | nil => cases hx
  | cons a as ih =>
    unfold Res.mapM'
    rcases hnp a List.mem_cons_self with ⟨b, hb⟩ | ⟨m, hm⟩
    · rw [hb]
      simp only
      rcases List.mem_cons.mp hx with rfl | hx'
      · obtain ⟨m, hm⟩ := hxe; rw [hb] at hm; cases hm
      · obtain ⟨m, hm⟩ := ih (fun y hy => hnp y (List.mem_cons_of_mem _ hy)) hx'
        rw [hm]; exact ⟨m, rfl⟩
    · rw [hm]; exact ⟨m, rfl⟩

/-! ## extern values -/

/-- the conversion applied to every extern value by `resolve_extern_values` -/
def xvStep (reg : Registry) (m : Mod) (ev : XValue) : Res XValue :=
  match reg.resolveTy m.scope ev.gty with
  | .ok t => Res.ok { ev with ty := some t }
  | .defer => .err "failed to resolve type for extern value"
  | e => e.cast

theorem resolveXVals_eq (reg : Registry) (m : Mod) :
    resolveXVals reg m = (match Res.mapM' (xvStep reg m) m.xvals with
      | .ok xvals => .ok { m with xvals }
      | e => e.cast) := rfl

theorem lookup_isSome_iff {α β} [BEq α] [LawfulBEq α] (l : List (α × β)) (q : α) :
    (List.lookup q l).isSome = true ↔ q ∈ l.map (·.1) := by
  induction l with
  | nil => simp
  | cons e l ih =>
    obtain ⟨k, v⟩ := e
    rw [List.lookup_cons]
    by_cases h : q = k
    · subst h; simp
    · have : (q == k) = false := by simpa using h
      simp [this, ih, h]

theorem filter_ne_length {α β} [BEq α] [LawfulBEq α] (l : List (α × β)) (k : α)
    (hn : (l.map (·.1)).Nodup) (hk : k ∈ l.map (·.1)) :
    (l.filter fun e => e.1 != k).length + 1 = l.length := by
  induction l with
  | nil => simp at hk
  | cons e l ih =>
    obtain ⟨k', v⟩ := e
    simp only [List.map_cons, List.nodup_cons] at hn
    by_cases h : k' = k
    · subst h
      have hall : ∀ a ∈ l, (a.1 != k') = true := by
        intro a ha
        have : a.1 ≠ k' := fun e => hn.1 (e ▸ List.mem_map.mpr ⟨a, ha, rfl⟩)
        simpa using this
      simp [List.filter_eq_self.mpr hall]
    · have hk' : k ∈ l.map (·.1) := by
        simp only [List.map_cons, List.mem_cons] at hk
        rcases hk with hk | hk
        · exact absurd hk.symm h
        · exact hk
      have hne : (k' != k) = true := by simpa using h
      simp only [List.filter_cons, hne, if_true, List.length_cons]
      have := ih hn.2 hk'
      omega

theorem contains_iff_mem_keys (r : Registry) (q : Path) : r.contains q = true ↔ q ∈ keys r :=
  lookup_isSome_iff r.types q

theorem ulist_nodup (r : Registry) (hn : (keys r).Nodup) : (ulist r).Nodup :=
  List.Nodup.sublist (List.filter_sublist.map _) hn

/-- what one attempt (and hence a round over the items `l`) does to the registry: keys stay
    duplicate-free and are never removed, no entry becomes unresolved, and if the number of entries
    changed then the generated vftable item of one of the attempted items was registered under a new key -/
structure Prog (r r' : Registry) (l : List Path) : Prop where
  nodup : (keys r').Nodup
  mono : ∀ q, r.contains q = true → r'.contains q = true
  sub : ∀ q, q ∈ ulist r' → q ∈ ulist r
  len : r'.types.length = r.types.length ∨
    ∃ o ∈ l, ∃ q, vftablePath o = some q ∧ r.contains q = false ∧ r'.contains q = true

theorem Prog.refl (r : Registry) (l : List Path) (hn : (keys r).Nodup) : Prog r r l :=
  ⟨hn, fun _ h => h, fun _ h => h, Or.inl rfl⟩

theorem Prog.weaken {r r' : Registry} {l l' : List Path} (h : Prog r r' l) (hl : ∀ o ∈ l, o ∈ l') :
    Prog r r' l' := by
  refine ⟨h.nodup, h.mono, h.sub, ?_⟩
  rcases h.len with h | ⟨o, ho, q, hq⟩
  · exact Or.inl h
  · exact Or.inr ⟨o, hl o ho, q, hq⟩

theorem Prog.trans {r r1 r2 : Registry} {l : List Path} (h1 : Prog r r1 l) (h2 : Prog r1 r2 l) :
    Prog r r2 l := by
  refine ⟨h2.nodup, fun q h => h2.mono q (h1.mono q h), fun q h => h1.sub q (h2.sub q h), ?_⟩
  rcases h1.len with e1 | ⟨o, ho, q, hq, hc, hc1⟩
  · rcases h2.len with e2 | ⟨o, ho, q, hq, hc, hc2⟩
    · exact Or.inl (e2.trans e1)
    · refine Or.inr ⟨o, ho, q, hq, ?_, hc2⟩
      cases hr : r.contains q with
      | false => rfl
      | true => rw [h1.mono q hr] at hc; cases hc
  · exact Or.inr ⟨o, ho, q, hq, hc, h2.mono q hc1⟩

theorem keys_add (r : Registry) (i : ItemDef) :
    keys (r.add i) = i.path :: (keys r).filter (· != i.path) := by
  simp only [keys, Registry.add, List.map_cons, List.filter_map]
  rfl

theorem nodup_keys_add {r : Registry} (hn : (keys r).Nodup) (i : ItemDef) : (keys (r.add i)).Nodup := by
  rw [keys_add, List.nodup_cons]
  exact ⟨by simp, List.Nodup.sublist List.filter_sublist hn⟩

theorem add_prog (r : Registry) (item : ItemDef) (p : Path) (hn : (keys r).Nodup)
    (hres : item.isResolved = true) (hp : vftablePath p = some item.path)
    (hex : r.get item.path = none ∨ r.get item.path = some item) : Prog r (r.add item) [p] := by
  refine ⟨nodup_keys_add hn item, ?_, ?_, ?_⟩
  · intro q hq
    exact (C14.contains_add r item q).mpr (Or.inl hq)
  · intro q hq
    simp only [ulist, Registry.add, List.filter_cons, hres, Bool.not_true, Bool.and_false,
      Bool.false_eq_true, if_false, List.mem_map, List.mem_filter] at hq ⊢
    obtain ⟨e, ⟨⟨he, _⟩, hf⟩, rfl⟩ := hq
    exact ⟨e, ⟨he, hf⟩, rfl⟩
  · rcases hex with hnone | hsome
    · refine Or.inr ⟨p, List.mem_singleton.mpr rfl, item.path, hp, ?_, ?_⟩
      · simp [Registry.contains, hnone]
      · exact (C14.contains_add r item item.path).mpr (Or.inr rfl)
    · left
      have hk : item.path ∈ keys r := (contains_iff_mem_keys r item.path).mp (by simp [Registry.contains, hsome])
      have := filter_ne_length r.types item.path hn hk
      simp only [Registry.add, List.length_cons]
      exact this

theorem keys_setState (r : Registry) (p : Path) (x : IState) : keys (r.setState p x) = keys r := by
  simp only [keys, Registry.setState, List.map_map]
  apply List.map_congr_left
  intro e _
  simp only [Function.comp]
  split <;> rfl

theorem setState_prog (r : Registry) (p : Path) (x : Resolved) (l : List Path) (hn : (keys r).Nodup) :
    Prog r (r.setState p (.res x)) l := by
  refine ⟨by rw [keys_setState]; exact hn, ?_, ?_, Or.inl (by simp [Registry.setState])⟩
  · intro q hq
    rw [contains_iff_mem_keys] at hq ⊢
    rw [keys_setState]; exact hq
  · intro q hq
    simp only [ulist, Registry.setState, List.mem_map, List.mem_filter] at hq ⊢
    obtain ⟨e', ⟨⟨e, he, rfl⟩, hf⟩, rfl⟩ := hq
    by_cases hk : (e.1 == p) = true
    · simp [hk, ItemDef.isResolved, ItemDef.resolved?] at hf
    · simp only [hk] at hf ⊢
      exact ⟨e, ⟨he, hf⟩, rfl⟩

/-- `C02.Reach2` without the shape of the item: it is resolved and sits under the generated path of `owner` -/
def Reach (s s1 : State) (owner : Path) : Prop :=
  s1 = s ∨ ∃ item, vftablePath owner = some item.path ∧ item.isResolved = true ∧
    (s.reg.get item.path = none ∨ s.reg.get item.path = some item) ∧ s.addItem item = .ok s1

theorem _root_.PyxisVerif.C02.Reach2.reach {s s1 : State} {owner : Path} (h : C02.Reach2 s s1 owner) :
    Reach s s1 owner := by
  rcases h with rfl | ⟨vis, fns, item, hi, hfree, ha⟩
  · exact .inl rfl
  · unfold buildVftableItem at hi
    obtain ⟨q, hq, rfl⟩ := Option.map_eq_some_iff.mp hi
    exact .inr ⟨_, hq, rfl, hfree, ha⟩

theorem buildType_reach (s : State) (path : Path) (vis : Vis) (d : G.TypeDef) :
    Reach s (buildType s path vis d).1 path :=
  (C02.buildType_reach2 s path vis d).reach

theorem Reach.prog {s s1 : State} {p : Path} (h : Reach s s1 p) (hn : (keys s.reg).Nodup) :
    Prog s.reg s1.reg [p] := by
  rcases h with rfl | ⟨item, hp, hres, hex, ha⟩
  · exact Prog.refl _ _ hn
  · rw [C14.addItem_reg s s1 item ha]
    exact add_prog s.reg item p hn hres hp hex

theorem attemptItem_prog (s : State) (p : Path) (hn : (keys s.reg).Nodup) :
    Prog s.reg (attemptItem s p).1.reg [p] :=
  attemptItem_induct (P := fun t => Prog s.reg t.reg [p]) (Prog.refl _ _ hn)
    (fun _ d _ _ => (attemptDef_reach2 s p d).reach.prog hn)
    (fun _ _ _ _ _ _ _ h1 => h1.trans (setState_prog _ _ _ _ h1.nodup))

theorem runRound_prog (l : List Path) (s : State) (hn : (keys s.reg).Nodup) :
    Prog s.reg (runRound s l).1.reg l := by
  induction l generalizing s with
  | nil => exact Prog.refl _ _ hn
  | cons p ps ih =>
    have h1 := (attemptItem_prog s p hn).weaken (l' := p :: ps) (by simp)
    rw [runRound_cons]
    split
    · next s1 ha =>
      rw [ha] at h1
      exact h1.trans ((ih s1 h1.nodup).weaken (fun o ho => List.mem_cons_of_mem _ ho))
    · next s1 e _ ha =>
      rw [ha] at h1
      exact h1

/-! ## the measure that drops in every round that continues -/

def missing (r : Registry) (o : Path) : Bool :=
  match vftablePath o with
  | some q => !r.contains q
  | none => false

def glist (r : Registry) : List Path := (ulist r).filter (missing r)

/-- unresolved items + unresolved items that may still register a generated item -/
def mu (r : Registry) : Nat := (ulist r).length + (glist r).length

theorem mu_le (r : Registry) : mu r ≤ 2 * (r.types.filter fun e => !e.2.isResolved).length := by
  have h1 : (ulist r).length ≤ (r.types.filter fun e => !e.2.isResolved).length := by
    simp only [ulist, List.length_map]
    rw [← List.filter_filter]
    exact List.length_filter_le _ _
  have h2 : (glist r).length ≤ (ulist r).length := List.length_filter_le _ _
  unfold mu; omega

theorem glist_sub {r r1 : Registry} {l : List Path} (hp : Prog r r1 l) : ∀ o ∈ glist r1, o ∈ glist r := by
  intro o ho
  simp only [glist, List.mem_filter] at ho ⊢
  refine ⟨hp.sub o ho.1, ?_⟩
  have hm := ho.2
  unfold missing at hm ⊢
  split
  · next q hq =>
    rw [hq] at hm
    simp only [Bool.not_eq_eq_eq_not, Bool.not_true] at hm ⊢
    cases hc : r.contains q with
    | false => rfl
    | true => rw [hp.mono q hc] at hm; cases hm
  · next hq => rw [hq] at hm; cases hm

theorem round_progress (prio : List Path) (r r1 : Registry) (hn : (keys r).Nodup)
    (hp : Prog r r1 (r.unresolved prio))
    (hc : ¬ (r.unresolved prio = r1.unresolved prio ∧ r.types.length = r1.types.length)) :
    mu r1 < mu r := by
  have hu := ulist_nodup r hn
  have hu1 := ulist_nodup r1 hp.nodup
  have hg1 : (glist r1).Nodup := List.Nodup.sublist List.filter_sublist hu1
  have hgl : (glist r1).length ≤ (glist r).length :=
    nodup_subset_length _ _ hg1 (glist_sub hp)
  have hul : (ulist r1).length ≤ (ulist r).length := nodup_subset_length _ _ hu1 hp.sub
  by_cases he : r.unresolved prio = r1.unresolved prio
  · -- the list of unresolved items did not change: a generated item was registered
    have hlen : r1.types.length ≠ r.types.length := fun e => hc ⟨he, e.symm⟩
    rcases hp.len with e | ⟨o, ho, q, hq, hcq, hcq1⟩
    · exact absurd e hlen
    · have ho' : o ∈ ulist r := by
        rw [unresolved_eq, List.mem_mergeSort] at ho; exact ho
      have hog : o ∈ glist r := by
        simp only [glist, List.mem_filter, missing, hq, hcq]
        exact ⟨ho', rfl⟩
      have hog1 : o ∉ glist r1 := by
        simp only [glist, List.mem_filter, missing, hq, hcq1]
        simp
      have := nodup_subset_lt _ _ hg1 (glist_sub hp) o hog hog1
      unfold mu; omega
  · -- the list changed: it lost an item
    have : (ulist r1).length < (ulist r).length := by
      apply Nat.lt_of_not_le
      intro hle
      have hperm := nodup_subset_perm _ _ hu1 hu hp.sub hle
      apply he
      rw [unresolved_eq, unresolved_eq]
      exact (C20.mergeSort_perm_eq (prioLe prio) (C20.prioLe_trans prio) (C20.prioLe_total prio) _ _ hperm
        (fun a b _ _ h1 h2 => C20.prioLe_antisymm prio a b h1 h2)).symm
    unfold mu; omega

theorem resolveLoop_ne_fuel (prio : List Path) (fuel : Nat) (s : State) (hn : (keys s.reg).Nodup)
    (hf : mu s.reg < fuel) : resolveLoop prio fuel s ≠ .fuel := by
  refine resolveLoop_rounds (P := fun n s o => (keys s.reg).Nodup → mu s.reg < n → o ≠ .fuel)
    (fun _ _ h => by omega) (fun _ _ _ _ _ => nofun) (fun _ _ _ _ _ _ _ _ _ => nofun) ?_
    (fun _ _ _ _ _ _ _ => nofun) (fun _ _ _ _ _ _ _ => nofun) (fun _ _ _ _ _ _ => nofun) fuel s hn hf
  intro n s s1 o _ hr hc ih hn hf
  have hp := runRound_prog (s.reg.unresolved prio) s hn
  rw [hr] at hp
  have hlt := round_progress prio s.reg s1.reg hn hp hc
  exact ih hp.nodup (by omega)

end PyxisVerif.C10
