import PyxisVerif.Lemmas.Parser
import PyxisVerif.Lemmas.Lexer
namespace PyxisVerif
namespace C18
open Lex (K Delim Tok Pos)
open Print (digitsLE digitChar Base)

/-! # single tokens at character level, and the token lists the printer writes (`chk`) -/

/-- not one of the characters that turn a leading `r`/`b`/`c` into a literal prefix -/
def Safe (c : Char) : Prop := c ≠ '"' ∧ c ≠ '#' ∧ c ≠ '\''

theorem safe_idCont {c : Char} (h : Lex.isIdCont c = true) : Safe c := by
  have := (isIdCont_iff c).1 h
  refine ⟨?_, ?_, ?_⟩ <;> (rintro rfl; exact absurd this (by decide))

/-- `a` is not taken for a literal prefix when the next character, and after an `r` the one
    after it, is none of `"`, `#`, `'` -/
theorem litPrefix_none (a : Char) (r : List Char)
    (hr : ∀ b r', r = b :: r' → Safe b ∧ (b = 'r' → ∀ c r'', r' = c :: r'' → Safe c)) :
    Lex.litPrefix (a :: r) = none := by
  unfold Lex.litPrefix
  split
  · next e => exact ((hr _ _ (List.cons.inj e).2).1.1 rfl).elim
  · next e => exact ((hr _ _ (List.cons.inj e).2).1.2.1 rfl).elim
  · next e => exact ((hr _ _ (List.cons.inj e).2).1.2.1 rfl).elim
  · next e => exact ((hr _ _ (List.cons.inj e).2).1.1 rfl).elim
  · next e => exact ((hr _ _ (List.cons.inj e).2).1.2.2 rfl).elim
  · next e => exact (((hr _ _ (List.cons.inj e).2).2 rfl _ _ rfl).1 rfl).elim
  · next e => exact (((hr _ _ (List.cons.inj e).2).2 rfl _ _ rfl).2.1 rfl).elim
  · next e => exact ((hr _ _ (List.cons.inj e).2).1.1 rfl).elim
  · next e => exact (((hr _ _ (List.cons.inj e).2).2 rfl _ _ rfl).1 rfl).elim
  · next e => exact (((hr _ _ (List.cons.inj e).2).2 rfl _ _ rfl).2.1 rfl).elim
  · rfl

theorem idStart_cont {c : Char} (h : Lex.isIdStart c = true) : Lex.isIdCont c = true := by
  have := (isIdStart_iff c).1 h
  exact (isIdCont_iff c).2 (by omega)

/-- the punctuation characters the printer writes -/
def okPunctList : List Char := ['#', '!', '=', ',', ';', ':', '<', '>', '*', '&', '-']

def okPunct (c : Char) : Bool := okPunctList.contains c

/-- what the lexer's case distinctions ask of such a character, by evaluation on the table -/
theorem okPunct_facts {c : Char} (h : okPunct c = true) :
    c ≠ '"' ∧ c ≠ '\'' ∧ c.isDigit = false ∧ Lex.isPunctCh c = true ∧ c ≠ '/' ∧ LeafStart c ∧
      Lex.isIdCont c = false ∧ c ≠ '.' := by
  have hm : c ∈ okPunctList := List.contains_iff_mem.1 h
  clear h
  revert c
  decide

theorem punctNext_cons {c : Char} (h : c ≠ '/') (r : List Char) :
    Lex.punctNext (c :: r) = Lex.isPunctCh c := by
  unfold Lex.punctNext
  split
  · rename_i e; exact absurd (List.cons.inj e).1 h
  · rename_i e; exact absurd (List.cons.inj e).1 h
  · rename_i e; cases e; rfl
  · rename_i e; cases e

theorem lexLeaf_punct (c : Char) (h : okPunct c = true) (r : List Char) :
    Lex.lexLeaf (c :: r) = some (.punct c (Lex.punctNext r), r) := by
  obtain ⟨h1, h2, h3, h4, h5, -⟩ := okPunct_facts h
  rw [Lex.lexLeaf, if_neg h1, if_neg h2]
  simp only [h3, h4, Bool.false_eq_true, if_false, if_true, h5, false_and]

theorem punctNext_okPunct {c : Char} (h : okPunct c = true) (rest : List Char) :
    Lex.punctNext (c :: rest) = true := by
  obtain ⟨-, -, -, h4, h5, -⟩ := okPunct_facts h
  rw [punctNext_cons h5, h4]

/-- the characters `escChar` writes with a backslash -/
def escaped : List Char := ['"', '\\', '\n', '\r', '\t', '\x00']

theorem escChar_plain {c : Char} (h : c ∉ escaped) : Print.escChar c = [c] := by
  simp only [escaped, List.mem_cons, List.not_mem_nil, or_false, not_or] at h
  obtain ⟨h1, h2, h3, h4, h5, h6⟩ := h
  simp only [Print.escChar, h1, h2, h3, h4, h5, h6, if_false]

theorem cooked_escChar (c : Char) (f : Nat) (r acc : List Char) :
    Lex.cooked .str (f + 1) (Print.escChar c ++ r) acc = Lex.cooked .str f r (c :: acc) := by
  by_cases hs : c ∈ escaped
  · simp only [escaped, List.mem_cons, List.not_mem_nil, or_false] at hs
    rcases hs with rfl | rfl | rfl | rfl | rfl | rfl <;> rfl
  · rw [escChar_plain hs, List.cons_append, List.nil_append, Lex.cooked]
    simp only [escaped, List.mem_cons, List.not_mem_nil, or_false, not_or] at hs
    simp [hs.1, hs.2.1, hs.2.2.2.1]

theorem escChar_length (c : Char) : 1 ≤ (Print.escChar c).length := by
  by_cases hs : c ∈ escaped
  · revert c; decide
  · rw [escChar_plain hs]; exact Nat.le_refl 1

theorem cooked_esc (s : List Char) (tail acc : List Char) (f : Nat) (hf : s.length + 1 ≤ f) :
    Lex.cooked .str f (s.flatMap Print.escChar ++ '"' :: tail) acc = some (acc.reverse ++ s, tail) := by
  obtain ⟨f, rfl⟩ := Nat.exists_eq_succ_of_ne_zero (by omega : f ≠ 0)
  induction s generalizing acc f with
  | nil => simp [Lex.cooked]
  | cons c s ih =>
    obtain ⟨f, rfl⟩ := Nat.exists_eq_succ_of_ne_zero (by simp at hf; omega : f ≠ 0)
    rw [List.flatMap_cons, List.append_assoc, cooked_escChar, ih _ f (by simpa using hf)]
    simp

theorem length_esc_ge (s : List Char) : s.length ≤ (s.flatMap Print.escChar).length := by
  induction s with
  | nil => exact Nat.le_refl 0
  | cons c s ih =>
    have := escChar_length c
    simp only [List.flatMap_cons, List.length_append, List.length_cons]
    omega

/-- the token after a `joint` punct: a punct again, and not `#` (which could start a doc
    comment) -/
def nextPunct : List K → Bool
  | .punct c _ :: _ => okPunct c && c != '#'
  | _ => false

theorem nextPunct_inv {ks : List K} (h : nextPunct ks = true) :
    ∃ c j ks', ks = .punct c j :: ks' ∧ okPunct c = true ∧ c ≠ '#' := by
  unfold nextPunct at h
  split at h
  · next c j ks' => exact ⟨c, j, ks', rfl, by simpa using h⟩
  · cases h

/-- what the character-level proof needs of a token list: every identifier is plain, every
    punctuation character is one the printer uses, a `joint` punct is followed by a punct,
    there is no `lit`, and the delimiters are balanced against the stack -/
def chk : List Delim → List K → Option (List Delim)
  | st, [] => some st
  | st, k :: ks =>
    match k with
    | .op d => chk (d :: st) ks
    | .cl d =>
      match st with
      | d' :: st0 => if d' = d then chk st0 ks else none
      | [] => none
    | .punct c j => if okPunct c && (!j || nextPunct ks) then chk st ks else none
    | .ident s => if plainId s then chk st ks else none
    | .int _ => chk st ks
    | .str _ => chk st ks
    | .lit => none

def tokOk : K → Bool
  | .ident s => plainId s
  | .punct c _ => okPunct c
  | .lit => false
  | _ => true

def isLeaf : K → Bool
  | .op _ | .cl _ | .lit => false
  | _ => true

theorem chk_cons_inv {st : List Delim} {k : K} {ks : List K} {st' : List Delim}
    (h : chk st (k :: ks) = some st') :
    tokOk k = true ∧ (∀ c, k = .punct c true → nextPunct ks = true) ∧
    ∃ st1, chk st1 ks = some st' ∧ (isLeaf k = true → st1 = st) ∧
      (∀ d, k = .op d → st1 = d :: st) ∧ (∀ d, k = .cl d → st = d :: st1) := by
  cases k with
  | lit => cases h
  | ident s =>
    simp only [chk] at h
    split at h
    · next hp => exact ⟨hp, nofun, st, h, fun _ => rfl, nofun, nofun⟩
    · cases h
  | int v => exact ⟨rfl, nofun, st, h, fun _ => rfl, nofun, nofun⟩
  | str s => exact ⟨rfl, nofun, st, h, fun _ => rfl, nofun, nofun⟩
  | punct c j =>
    simp only [chk] at h
    split at h
    · next hp =>
      simp only [Bool.and_eq_true, Bool.or_eq_true, Bool.not_eq_true'] at hp
      refine ⟨hp.1, fun c' e => ?_, st, h, fun _ => rfl, nofun, nofun⟩
      cases e
      exact hp.2.resolve_left nofun
    · cases h
  | op d => exact ⟨rfl, nofun, d :: st, h, nofun, fun _ e => by cases e; rfl, nofun⟩
  | cl d =>
    cases st with
    | nil => cases h
    | cons d' st0 =>
      simp only [chk] at h
      split at h
      · next hd => exact ⟨rfl, nofun, st0, h, nofun, nofun, fun _ e => by cases e; rw [hd]⟩
      · cases h

theorem map_nil_append {α ε : Type} (x : Except ε (List α)) :
    x = Except.map (([] : List α) ++ ·) x := by
  cases x <;> rfl

theorem plainId_of_idOk {s : String} (h : idOk s = true) : plainId s = true := by
  simp [idOk] at h; exact h.2

theorem plainId_of_nameOk {s : String} (h : nameOk s = true) : plainId s = true := by
  simp only [nameOk, Bool.or_eq_true, beq_iff_eq] at h
  rcases h with h | h
  · subst h; decide
  · exact plainId_of_idOk h

def Passes (ks : List K) : Prop := ∀ (st : List Delim) (r : List K), chk st (ks ++ r) = chk st r

theorem passes_nil : Passes [] := fun _ _ => rfl

theorem passes_append {a b : List K} (ha : Passes a) (hb : Passes b) : Passes (a ++ b) := by
  intro st r
  rw [List.append_assoc, ha, hb]

theorem passes_ident {s : String} (h : plainId s = true) : Passes [.ident s] :=
  fun st r => by simp [chk, h]

theorem passes_punct {c : Char} (h : okPunct c = true) : Passes [.punct c false] :=
  fun st r => by simp [chk, h]

theorem passes_int (v : Nat) : Passes [.int v] := fun _ _ => rfl
theorem passes_str (s : String) : Passes [.str s] := fun _ _ => rfl

theorem passes_joint2 {c c' : Char} (h : okPunct c = true) (h' : okPunct c' = true)
    (h'' : c' ≠ '#') :
    Passes [.punct c true, .punct c' false] :=
  fun st r => by simp [chk, nextPunct, h, h', h'']

theorem passes_cons {k : K} {ks : List K} (hk : Passes [k]) (hks : Passes ks) : Passes (k :: ks) :=
  passes_append hk hks

theorem passes_group {ks : List K} (d : Delim) (h : Passes ks) : Passes (.op d :: ks ++ [.cl d]) := by
  intro st r
  simp only [List.cons_append, List.append_assoc, List.nil_append]
  rw [chk, h, chk, if_pos rfl]

theorem passes_pTerm {α : Type} (pr : α → List K) (sep : Char) (tr : Bool) (xs : List α)
    (hs : okPunct sep = true) (h : ∀ x ∈ xs, Passes (pr x)) : Passes (Print.pTerm pr sep tr xs) := by
  induction xs with
  | nil => exact passes_nil
  | cons x xs ih =>
    have hx := h x (by simp)
    have ih' := ih (fun y hy => h y (by simp [hy]))
    cases xs with
    | nil =>
      cases tr with
      | false => simpa [Print.pTerm] using hx
      | true => simpa [Print.pTerm] using passes_append hx (passes_punct hs)
    | cons y ys =>
      simp only [Print.pTerm]
      exact passes_append hx (passes_cons (passes_punct hs) ih')

theorem passes_pGroup {α : Type} (d : Delim) (pr : α → List K) (sep : Char) (tr : Bool)
    (xs : List α) (hs : okPunct sep = true) (h : ∀ x ∈ xs, Passes (pr x)) :
    Passes (Print.pGroup d pr sep tr xs) := by
  simp only [Print.pGroup]
  exact passes_group d (passes_pTerm pr sep tr xs hs h)

theorem passes_flatMap {α : Type} (pr : α → List K) (xs : List α) (h : ∀ x ∈ xs, Passes (pr x)) :
    Passes (xs.flatMap pr) := by
  induction xs with
  | nil => exact passes_nil
  | cons x xs ih =>
    simp only [List.flatMap_cons]
    exact passes_append (h x (by simp)) (ih (fun y hy => h y (by simp [hy])))

theorem kw (s : String) (h : plainId s = true := by decide) : Passes [.ident s] := passes_ident h
theorem pu (c : Char) (h : okPunct c = true := by decide) : Passes [.punct c false] := passes_punct h

theorem passes_pTy (t : G.Ty) (h : tyOk t = true) : Passes (Print.pTy t) := by
  induction t with
  | ident s =>
    simp only [tyOk, Bool.and_eq_true] at h
    exact passes_ident (plainId_of_idOk h.1)
  | unk n =>
    exact passes_cons (kw "unknown") (passes_cons (pu '<') (passes_cons (passes_int n) (pu '>')))
  | cptr t ih => exact passes_cons (pu '*') (passes_cons (kw "const") (ih h))
  | mptr t ih => exact passes_cons (pu '*') (passes_cons (kw "mut") (ih h))
  | arr t n ih =>
    simp only [tyOk, Bool.and_eq_true] at h
    have : Print.pTy (.arr t n) = .op .bracket :: (Print.pTy t ++ [.punct ';' false, .int n]) ++ [.cl .bracket] := by
      simp [Print.pTy]
    rw [this]
    exact passes_group _ (passes_append (ih h.1) (passes_cons (pu ';') (passes_int n)))

theorem passes_pExpr (e : G.Expr) (h : exprOk e = true) : Passes (Print.pExpr e) := by
  cases e with
  | ident s => exact passes_ident (plainId_of_idOk h)
  | str s => exact passes_str s
  | int z =>
    simp only [Print.pExpr]
    split
    · exact passes_cons (pu '-') (passes_int _)
    · exact passes_int _

theorem passes_pAttrPart (tr : Bool) (a : G.Attr) (h : attrOk a = true) :
    Passes (Print.pAttrPart tr a) := by
  cases a with
  | ident n => exact passes_ident (plainId_of_nameOk h)
  | assign n e =>
    simp only [attrOk, Bool.and_eq_true] at h
    exact passes_cons (passes_ident (plainId_of_nameOk h.1)) (passes_cons (pu '=') (passes_pExpr e h.2))
  | fn n args =>
    simp only [attrOk, Bool.and_eq_true, List.all_eq_true] at h
    exact passes_cons (passes_ident (plainId_of_nameOk h.1))
      (passes_pGroup _ _ _ _ _ (by decide) (fun x hx => passes_pExpr x (h.2 x hx)))

theorem passes_pAttr (inner tr : Bool) (a : G.Attr) (h : attrOk a = true) :
    Passes (Print.pAttr inner tr a) := by
  simp only [Print.pAttr]
  refine passes_cons (pu '#') (passes_append ?_ (passes_pGroup _ _ _ _ _ (by decide) ?_))
  · cases inner
    · exact passes_nil
    · exact pu '!'
  · intro x hx; simp at hx; subst hx; exact passes_pAttrPart tr x h

theorem passes_pAttrs (inner tr : Bool) (as : List G.Attr) (h : as.all attrOk = true) :
    Passes (Print.pAttrs inner tr as) := by
  simp only [List.all_eq_true] at h
  exact passes_flatMap _ _ (fun a ha => passes_pAttr inner tr a (h a ha))

theorem passes_pVis (v : G.Vis) : Passes (Print.pVis v) := by
  cases v
  · exact kw "pub"
  · exact passes_nil

theorem passes_pArg (a : G.Arg) (h : argOk a = true) : Passes (Print.pArg a) := by
  cases a with
  | constSelf => exact passes_cons (pu '&') (kw "self")
  | mutSelf => exact passes_cons (pu '&') (passes_cons (kw "mut") (kw "self"))
  | named n t =>
    simp only [argOk, Bool.and_eq_true] at h
    exact passes_cons (passes_ident (plainId_of_idOk h.1)) (passes_cons (pu ':') (passes_pTy t h.2))

theorem passes_pRet (r : Option G.Ty) (h : retOk r = true) : Passes (Print.pRet r) := by
  cases r with
  | none => exact passes_nil
  | some t =>
    have : Print.pRet (some t) = [.punct '-' true, .punct '>' false] ++ Print.pTy t := rfl
    rw [this]
    exact passes_append (passes_joint2 (by decide) (by decide) (by decide)) (passes_pTy t h)

theorem passes_pFunc (tr : Bool) (f : G.Func) (h : funcOk f = true) : Passes (Print.pFunc tr f) := by
  simp only [funcOk, Bool.and_eq_true, List.all_eq_true] at h
  obtain ⟨⟨⟨hn, ha⟩, hargs⟩, hret⟩ := h
  simp only [Print.pFunc]
  refine passes_append (passes_append (passes_pAttrs _ _ _ (by simpa [List.all_eq_true] using ha))
    (passes_pVis _)) (passes_cons (kw "fn") (passes_cons (passes_ident (plainId_of_nameOk hn)) ?_))
  exact passes_append (passes_pGroup _ _ _ _ _ (by decide) (fun x hx => passes_pArg x (hargs x hx)))
    (passes_pRet _ hret)

theorem passes_pFuncs (tr : Bool) (d : Delim) (fns : List G.Func) (h : fns.all funcOk = true) :
    Passes (Print.pGroup d (Print.pFunc tr) ';' tr fns) := by
  simp only [List.all_eq_true] at h
  exact passes_pGroup _ _ _ _ _ (by decide) (fun x hx => passes_pFunc tr x (h x hx))

theorem passes_pField (tr : Bool) (fl : G.Field) (h : fieldOk fl = true) :
    Passes (Print.pField tr fl) := by
  cases fl with
  | vftable fns => exact passes_cons (kw "vftable") (passes_pFuncs tr _ fns h)
  | field v n t =>
    simp only [fieldOk, Bool.and_eq_true] at h
    exact passes_append (passes_pVis v)
      (passes_cons (passes_ident (plainId_of_nameOk h.1.1)) (passes_cons (pu ':') (passes_pTy t h.2)))

theorem passes_pStmt (tr : Bool) (s : G.Stmt) (h : stmtOk s = true) : Passes (Print.pStmt tr s) := by
  simp only [stmtOk, Bool.and_eq_true] at h
  exact passes_append (passes_pAttrs _ _ _ h.1) (passes_pField tr _ h.2)

theorem passes_pOptExpr (e : Option G.Expr) (h : optExprOk e = true) : Passes (Print.pOptExpr e) := by
  cases e with
  | none => exact passes_nil
  | some e => exact passes_cons (pu '=') (passes_pExpr e h)

theorem passes_pEnumStmt (tr : Bool) (s : G.EnumStmt) (h : enumStmtOk s = true) :
    Passes (Print.pEnumStmt tr s) := by
  simp only [enumStmtOk, Bool.and_eq_true] at h
  exact passes_append (passes_pAttrs _ _ _ h.2)
    (passes_cons (passes_ident (plainId_of_nameOk h.1.1)) (passes_pOptExpr _ h.1.2))

theorem passes_pTypeBody (tr : Bool) (ss : List G.Stmt) (h : ∀ x ∈ ss, stmtOk x = true) :
    Passes (Print.pTypeBody tr ss) := by
  simp only [Print.pTypeBody]
  split
  · exact pu ';'
  · exact passes_pGroup _ _ _ _ _ (by decide) (fun x hx => passes_pStmt tr x (h x hx))

theorem passes_pItemDef (tr : Bool) (i : G.Item) (h : itemOk i = true) :
    Passes (Print.pItemDef tr i) := by
  obtain ⟨vis, name, inner⟩ := i
  simp only [itemOk, Bool.and_eq_true] at h
  cases inner with
  | type d =>
    simp only [innerOk, Bool.and_eq_true, List.all_eq_true] at h
    simp only [Print.pItemDef]
    exact passes_append (passes_append (passes_pAttrs _ _ _ (by simpa [List.all_eq_true] using h.2.1))
      (passes_pVis _)) (passes_cons (kw "type") (passes_cons (passes_ident (plainId_of_nameOk h.1))
        (passes_pTypeBody tr _ (fun x hx => h.2.2 x hx))))
  | enum d =>
    simp only [innerOk, Bool.and_eq_true, List.all_eq_true] at h
    simp only [Print.pItemDef]
    exact passes_append (passes_append (passes_pAttrs _ _ _ (by simpa [List.all_eq_true] using h.2.1.1))
      (passes_pVis _)) (passes_cons (kw "enum") (passes_cons (passes_ident (plainId_of_nameOk h.1))
        (passes_cons (pu ':') (passes_append (passes_pTy _ h.2.1.2)
          (passes_pGroup _ _ _ _ _ (by decide) (fun x hx => passes_pEnumStmt tr x (h.2.2 x hx)))))))

theorem passes_pImpl (tr : Bool) (i : G.Impl) (h : implOk i = true) : Passes (Print.pImpl tr i) := by
  simp only [implOk, Bool.and_eq_true] at h
  exact passes_append (passes_pAttrs _ _ _ h.1.2)
    (passes_cons (kw "impl") (passes_cons (passes_ident (plainId_of_nameOk h.1.1))
      (passes_pFuncs tr _ _ h.2)))

theorem passes_pXType (tr : Bool) (x : String × List G.Attr) (h : xtypeOk x = true) :
    Passes (Print.pXType tr x) := by
  simp only [xtypeOk, Bool.and_eq_true] at h
  exact passes_append (passes_pAttrs _ _ _ h.2)
    (passes_cons (kw "extern") (passes_cons (kw "type")
      (passes_cons (passes_ident (plainId_of_idOk h.1)) (pu ';'))))

theorem passes_pXVal (tr : Bool) (x : G.XVal) (h : xvalOk x = true) : Passes (Print.pXVal tr x) := by
  simp only [xvalOk, Bool.and_eq_true] at h
  simp only [Print.pXVal]
  exact passes_append (passes_append (passes_pAttrs _ _ _ h.2) (passes_pVis _))
    (passes_cons (kw "extern") (passes_cons (passes_ident (plainId_of_nameOk h.1.1))
      (passes_cons (pu ':') (passes_append (passes_pTy _ h.1.2) (pu ';')))))

theorem passes_pPath (p : Path) (h : pathOk p = true) : Passes (Print.pPath p) := by
  induction p with
  | nil => exact passes_nil
  | cons s p ih =>
    simp only [pathOk, List.all_cons, Bool.and_eq_true] at h
    cases p with
    | nil => exact passes_ident (plainId_of_idOk h.1)
    | cons t q =>
      have : Print.pPath (s :: t :: q) = .ident s :: ([.punct ':' true, .punct ':' false] ++ Print.pPath (t :: q)) := rfl
      rw [this]
      exact passes_cons (passes_ident (plainId_of_idOk h.1))
        (passes_append (passes_joint2 (by decide) (by decide) (by decide)) (ih (by simpa [pathOk] using h.2)))

theorem passes_pUse (p : Path) (h : pathOk p = true) : Passes (Print.pUse p) :=
  passes_cons (kw "use") (passes_append (passes_pPath p h) (pu ';'))

theorem passes_pBlock (kwd : String) (hk : plainId kwd = true) (o : Option String) :
    Passes (Print.pBlock kwd o) := by
  cases o with
  | none => exact passes_nil
  | some s => exact passes_cons (passes_ident hk) (passes_cons (passes_str s) (pu ';'))

theorem passes_pBackend (b : G.Backend) (h : backendOk b = true) : Passes (Print.pBackend b) := by
  simp only [backendOk, Bool.and_eq_true] at h
  have : Print.pBackend b = .ident "backend" :: .ident b.name ::
      (.op .brace :: (Print.pBlock "prologue" b.prologue ++ Print.pBlock "epilogue" b.epilogue) ++ [.cl .brace]) := by
    simp [Print.pBackend]
  rw [this]
  exact passes_cons (kw "backend") (passes_cons (passes_ident (plainId_of_nameOk h.1.1))
    (passes_group _ (passes_append (passes_pBlock _ (by decide) _) (passes_pBlock _ (by decide) _))))

theorem passes_printK (tr : Bool) (m : G.Module) (h : wfB m = true) : Passes (Print.printK tr m) := by
  simp only [wfB, Bool.and_eq_true, List.all_eq_true] at h
  obtain ⟨⟨⟨⟨⟨⟨h0, h1⟩, h2⟩, h3⟩, h4⟩, h5⟩, h6⟩ := h
  simp only [Print.printK]
  refine passes_append (passes_append (passes_append (passes_append (passes_append (passes_append
    (passes_pAttrs _ _ _ (by simpa [List.all_eq_true] using h0)) ?_) ?_) ?_) ?_) ?_) ?_
  · exact passes_flatMap _ _ (fun x hx => passes_pUse x (h1 x hx))
  · exact passes_flatMap _ _ (fun x hx => passes_pXType tr x (h2 x hx))
  · exact passes_flatMap _ _ (fun x hx => passes_pXVal tr x (h3 x hx))
  · exact passes_flatMap _ _ (fun x hx => passes_pItemDef tr x (h4 x hx))
  · exact passes_flatMap _ _ (fun x hx => passes_pImpl tr x (h5 x hx))
  · exact passes_flatMap _ _ (fun x hx => passes_pBackend x (h6 x hx))

theorem chk_printK (tr : Bool) (m : G.Module) (h : wfB m = true) :
    chk [] (Print.printK tr m) = some [] := by
  have := passes_printK tr m h [] []
  simpa [chk] using this

end C18
end PyxisVerif
