import PyxisVerif.Lemmas.C20
import PyxisVerif.Lemmas.C14
import PyxisVerif.Lemmas.Pipeline
/-!
# Outcomes related up to a relation on their values

`RelRes R x y`: the two outcomes are the same failure, or two successes whose values `R` relates; `RelO R` is
the same for the outcome of a build.  With them a statement about two runs of a stage is one statement
instead of one per kind of failure, and it is proved through `RelRes.bind`, `RelRes.foldlM`, `RelRes.mapM'`
without a case analysis of the failures.  Two principles about folds: a common prefix of two lists can be
cancelled (`RelRes.foldlM_prefix` – replacing one element of a list), and a successful fold can be repeated
over a permutation of the list if two steps commute (`foldlM_perm`).
-/
namespace PyxisVerif.C20

def RelRes {α} (R : α → α → Prop) (x y : Res α) : Prop :=
  (x = y ∧ ∀ a, x ≠ .ok a) ∨ ∃ a b, x = .ok a ∧ y = .ok b ∧ R a b

theorem RelRes.ok {α} {R : α → α → Prop} {a b : α} (h : R a b) : RelRes R (.ok a) (.ok b) :=
  Or.inr ⟨a, b, rfl, rfl, h⟩

theorem RelRes.fail {α} {R : α → α → Prop} {x : Res α} (h : ∀ a, x ≠ .ok a) : RelRes R x x :=
  Or.inl ⟨rfl, h⟩

theorem RelRes.defer {α} {R : α → α → Prop} : RelRes R (.defer : Res α) .defer := .fail (fun _ h => by cases h)
theorem RelRes.err {α} {R : α → α → Prop} (m : String) : RelRes R (.err m : Res α) (.err m) :=
  .fail (fun _ h => by cases h)
theorem RelRes.panic {α} {R : α → α → Prop} (m : String) : RelRes R (.panic m : Res α) (.panic m) :=
  .fail (fun _ h => by cases h)

theorem RelRes.ind {α} {R : α → α → Prop} {P : Res α → Res α → Prop} {x y : Res α} (h : RelRes R x y)
    (ok : ∀ a b, R a b → P (.ok a) (.ok b)) (defer : P .defer .defer) (err : ∀ m, P (.err m) (.err m))
    (panic : ∀ m, P (.panic m) (.panic m)) : P x y := by
  rcases h with ⟨rfl, hn⟩ | ⟨a, b, rfl, rfl, hr⟩
  · cases x with
    | ok a => exact (hn a rfl).elim
    | defer => exact defer
    | err m => exact err m
    | panic m => exact panic m
  · exact ok a b hr

theorem RelRes.of_eq {α} {R : α → α → Prop} (hR : ∀ a, R a a) (x : Res α) : RelRes R x x := by
  cases x with
  | ok a => exact .ok (hR a)
  | defer => exact .defer
  | err m => exact .err m
  | panic m => exact .panic m

theorem RelRes.mono {α} {R S : α → α → Prop} (hRS : ∀ a b, R a b → S a b) {x y : Res α} (h : RelRes R x y) :
    RelRes S x y :=
  h.ind (fun a b hr => .ok (hRS a b hr)) RelRes.defer RelRes.err RelRes.panic

theorem RelRes.bind {α β} {R : α → α → Prop} {S : β → β → Prop} {x y : Res α} {k k' : α → Res β}
    (h : RelRes R x y) (hk : ∀ a b, R a b → RelRes S (k a) (k' b)) : RelRes S (x.bind k) (y.bind k') :=
  h.ind (P := fun x y => RelRes S (x.bind k) (y.bind k')) hk RelRes.defer RelRes.err RelRes.panic

theorem RelRes.bind_same {α β} {S : β → β → Prop} {x : Res α} {k k' : α → Res β}
    (hk : ∀ a, x = .ok a → RelRes S (k a) (k' a)) : RelRes S (x.bind k) (x.bind k') := by
  cases x with
  | ok a => exact hk a rfl
  | defer => exact .defer
  | err m => exact .err m
  | panic m => exact .panic m

theorem bind_assoc {α β γ} (x : Res α) (f : α → Res β) (g : β → Res γ) :
    (x.bind f).bind g = x.bind fun a => (f a).bind g := by
  cases x <;> rfl

theorem RelRes.foldlM {α β} {R : β → β → Prop} {f f' : β → α → Res β}
    (hf : ∀ b b' a, R b b' → RelRes R (f b a) (f' b' a)) (l : List α) {b b' : β} (h : R b b') :
    RelRes R (Res.foldlM f b l) (Res.foldlM f' b' l) := by
  induction l generalizing b b' with
  | nil => exact .ok h
  | cons a l ih => exact (hf b b' a h).bind (fun c c' hc => ih hc)

theorem RelRes.of_ok {α} {R : α → α → Prop} {x y : Res α} (h : RelRes R x y) {a : α} (hx : x = .ok a) :
    ∃ b, y = .ok b ∧ R a b := by
  rcases h with ⟨_, hn⟩ | ⟨a', b, h1, h2, hr⟩
  · exact (hn a hx).elim
  · rw [h1] at hx; cases hx; exact ⟨b, h2, hr⟩

theorem RelRes.eq {α} {x y : Res α} (h : RelRes Eq x y) : x = y :=
  h.ind (P := fun x y => x = y) (fun _ _ e => by rw [e]) rfl (fun _ => rfl) (fun _ => rfl)

theorem RelRes.and_left {α} {R : α → α → Prop} {J : α → Prop} {x y : Res α} (h : RelRes R x y)
    (hJ : ∀ a, x = .ok a → J a) : RelRes (fun a b => J a ∧ R a b) x y := by
  rcases h with ⟨he, hn⟩ | ⟨a, b, h1, h2, hr⟩
  · exact Or.inl ⟨he, hn⟩
  · exact Or.inr ⟨a, b, h1, h2, hJ a h1, hr⟩

theorem RelRes.foldlM_prefix {α β} {R : β → β → Prop} (f : β → α → Res β) (b : β) (pre l l' : List α)
    (h : ∀ t, Res.foldlM f b pre = .ok t → RelRes R (Res.foldlM f t l) (Res.foldlM f t l')) :
    RelRes R (Res.foldlM f b (pre ++ l)) (Res.foldlM f b (pre ++ l')) := by
  rw [foldlM_append, foldlM_append]
  cases hp : Res.foldlM f b pre with
  | ok t => exact h t hp
  | defer => exact .defer
  | err m => exact .err m
  | panic m => exact .panic m

theorem foldlM_prefix_eq {α β} (f : β → α → Res β) (b : β) (pre l l' : List α)
    (h : ∀ t, Res.foldlM f b pre = .ok t → Res.foldlM f t l = Res.foldlM f t l') :
    Res.foldlM f b (pre ++ l) = Res.foldlM f b (pre ++ l') :=
  (RelRes.foldlM_prefix f b pre l l' (fun t ht => by rw [h t ht]; exact .of_eq (fun _ => rfl) _)).eq

theorem foldlM_cons_bind {α β} (f : β → α → Res β) (b : β) (a : α) (as : List α) :
    Res.foldlM f b (a :: as) = (f b a).bind fun b' => Res.foldlM f b' as := rfl

/-- **a fold over a permuted list**: if a successful step can be repeated from a related state, and two
    successful steps (on elements `D` relates – say, distinct ones) can be taken in the other order, up to
    `R`, then a successful fold can be repeated over any permutation of the list.  `J` is an invariant of the
    steps that `step` and `comm` may use. -/
theorem foldlM_perm {α β} {R : β → β → Prop} {J : β → Prop} {D : α → α → Prop} {f : β → α → Res β}
    (refl : ∀ b, R b b) (trans : ∀ {a b c}, R a b → R b c → R a c) (symmD : ∀ {x y}, D x y → D y x)
    (hJ : ∀ {b a c}, J b → f b a = .ok c → J c)
    (step : ∀ {b b' a c}, J b → R b b' → f b a = .ok c → ∃ c', f b' a = .ok c' ∧ R c c')
    (comm : ∀ {b x y c1 c}, J b → D x y → f b x = .ok c1 → f c1 y = .ok c →
      ∃ d1 d, f b y = .ok d1 ∧ f d1 x = .ok d ∧ R c d)
    {l l' : List α} (hp : l.Perm l') : l.Pairwise D → ∀ {b b' t}, J b → R b b' → Res.foldlM f b l = .ok t →
      ∃ t', Res.foldlM f b' l' = .ok t' ∧ R t t' := by
  have same : ∀ (l : List α) {b b' t}, J b → R b b' → Res.foldlM f b l = .ok t →
      ∃ t', Res.foldlM f b' l = .ok t' ∧ R t t' := by
    intro l
    induction l with
    | nil => intro b b' t _ h ht; cases ht; exact ⟨b', rfl, h⟩
    | cons x l ih =>
      intro b b' t hb h ht
      obtain ⟨c, h1, h2⟩ := Res.foldlM_cons_ok.mp ht
      obtain ⟨c', k1, k2⟩ := step hb h h1
      obtain ⟨t', e1, e2⟩ := ih (hJ hb h1) k2 h2
      exact ⟨t', by rw [foldlM_cons_bind, k1]; exact e1, e2⟩
  induction hp with
  | nil => intro _ b b' t _ h ht; cases ht; exact ⟨b', rfl, h⟩
  | @cons x l l' _ ih =>
    intro hd b b' t hb h ht
    obtain ⟨c, h1, h2⟩ := Res.foldlM_cons_ok.mp ht
    obtain ⟨c', k1, k2⟩ := step hb h h1
    obtain ⟨t', e1, e2⟩ := ih (List.pairwise_cons.mp hd).2 (hJ hb h1) k2 h2
    exact ⟨t', by rw [foldlM_cons_bind, k1]; exact e1, e2⟩
  | swap x y l =>
    -- the left list is `y :: x :: l`, the right one `x :: y :: l`
    intro hd b b' t hb h ht
    obtain ⟨c1, h1, h2⟩ := Res.foldlM_cons_ok.mp ht
    obtain ⟨c2, h3, h4⟩ := Res.foldlM_cons_ok.mp h2
    obtain ⟨d1, d, a1, a2, a3⟩ := comm hb ((List.pairwise_cons.mp hd).1 x List.mem_cons_self) h1 h3
    obtain ⟨d1', b1, b2⟩ := step hb h a1
    obtain ⟨d', c1', c2'⟩ := step (hJ hb a1) b2 a2
    obtain ⟨t', e1, e2⟩ := same l (hJ (hJ hb h1) h3) (trans a3 c2') h4
    exact ⟨t', by rw [foldlM_cons_bind, b1]; simp only [Res.bind]; rw [foldlM_cons_bind, c1']; exact e1, e2⟩
  | @trans l1 l2 l3 p12 _ ih1 ih2 =>
    intro hd b b' t hb h ht
    obtain ⟨t2, e1, e2⟩ := ih1 hd hb (refl b) ht
    obtain ⟨t3, f1, f2⟩ := ih2 ((p12.pairwise_iff symmD).mp hd) hb h e1
    exact ⟨t3, f1, trans e2 f2⟩

theorem mapM'_cons {α β} (f : α → Res β) (a : α) (as : List α) :
    Res.mapM' f (a :: as) = (f a).bind fun b => (Res.mapM' f as).bind fun bs => .ok (b :: bs) := by
  rw [Res.mapM']
  cases f a with
  | ok b => cases Res.mapM' f as <;> rfl
  | _ => rfl

theorem RelRes.mapM' {α β} (g : α → β) {f f' : α → Res α}
    (hf : ∀ a a', g a' = g a → RelRes (fun b b' => g b' = g b) (f a) (f' a')) :
    ∀ (l l' : List α), l'.map g = l.map g →
      RelRes (fun bs bs' => bs'.map g = bs.map g) (Res.mapM' f l) (Res.mapM' f' l')
  | [], [], _ => .ok rfl
  | [], _ :: _, h => by cases h
  | _ :: _, [], h => by cases h
  | a :: l, a' :: l', h => by
    simp only [List.map_cons, List.cons.injEq] at h
    rw [mapM'_cons, mapM'_cons]
    refine (hf a a' h.1).bind (fun b b' hb => (RelRes.mapM' g hf l l' h.2).bind (fun bs bs' hbs => .ok ?_))
    simp only [List.map_cons, hb, hbs]

def RelO (R : State → State → Prop) : BuildOutcome → BuildOutcome → Prop
  | .ok s, .ok s' => R s s'
  | .nonterm l, .nonterm l' => l' = l
  | .err m, .err m' => m' = m
  | .panic m, .panic m' => m' = m
  | .fuel, .fuel => True
  | _, _ => False

theorem RelO.same {R : State → State → Prop} {o : BuildOutcome} (h : ∀ s, o ≠ .ok s) : RelO R o o := by
  cases o with
  | ok s => exact (h s rfl).elim
  | nonterm l => exact rfl
  | err m => exact rfl
  | panic m => exact rfl
  | fuel => exact trivial

theorem RelO.ind {R : State → State → Prop} {P : BuildOutcome → BuildOutcome → Prop} {o o' : BuildOutcome}
    (h : RelO R o o') (ok : ∀ s s', R s s' → P (.ok s) (.ok s')) (same : ∀ o, (∀ s, o ≠ .ok s) → P o o) :
    P o o' := by
  cases o <;> cases o' <;> first
    | exact ok _ _ h
    | exact h.elim
    | (cases (show _ = _ from h); exact same _ (fun _ e => by cases e))
    | exact same _ (fun _ e => by cases e)

theorem RelO.mono {R S : State → State → Prop} (hRS : ∀ a b, R a b → S a b) {o o' : BuildOutcome}
    (h : RelO R o o') : RelO S o o' :=
  h.ind (fun s s' hr => hRS s s' hr) (fun _ ho => .same ho)

def mapO (f : State → State) : BuildOutcome → BuildOutcome
  | .ok s => .ok (f s)
  | .nonterm l => .nonterm l
  | .err m => .err m
  | .panic m => .panic m
  | .fuel => .fuel

theorem mapO_of_not_ok (f : State → State) {o : BuildOutcome} (h : ∀ s, o ≠ .ok s) : mapO f o = o := by
  cases o with
  | ok s => exact (h s rfl).elim
  | _ => rfl

theorem buildFinish_of_not_ok {o : BuildOutcome} (h : ∀ s, o ≠ .ok s) : buildFinish o = o := by
  cases o with
  | ok s => exact (h s rfl).elim
  | _ => rfl

/-- the end of `SemanticState::build`, from the outcome of the extern-value pass -/
def finishMods (s1 : State) : Res (List (Path × Mod)) → BuildOutcome
  | .ok ms => .ok { s1 with modules := ms }
  | .err m => .err m
  | .panic m => .panic m
  | .defer => .err "unreachable"

theorem buildFinish_ok (s1 : State) :
    buildFinish (.ok s1) = finishMods s1 (Res.mapM' (xvalPass s1.reg) s1.modules) := rfl

theorem RelO.of_fun {g : State → State} {o o' : BuildOutcome} (h : RelO (fun s s' => s' = g s) o o') :
    o' = mapO g o :=
  h.ind (P := fun o o' => o' = mapO g o) (fun _ _ hs => by rw [hs]; rfl) (fun _ ho => (mapO_of_not_ok g ho).symm)

end PyxisVerif.C20
