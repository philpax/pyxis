import PyxisVerif.Spec.C16
import PyxisVerif.Lemmas.Res
/-! a built argument is a receiver exactly when the declared one is -/
namespace PyxisVerif.C16
open Gen

def isRecv (a : G.Arg) : Bool := match a with | .named .. => false | _ => true

theorem hasReceiver_eq (f : G.Func) : hasReceiver f = f.args.any isRecv := rfl

theorem buildArg_isSelf (reg : Registry) (scope : List Path) (a : G.Arg) (b : SArg)
    (h : buildArg reg scope a = .ok b) :
    b.isSelf = isRecv a := by
  cases a with
  | constSelf => cases h; rfl
  | mutSelf => cases h; rfl
  | named n t =>
    simp only [buildArg] at h
    split at h <;> cases h
    rfl

theorem mapM_any_isSelf (reg : Registry) (scope : List Path) (as : List G.Arg) (bs : List SArg)
    (h : Res.mapM' (buildArg reg scope) as = .ok bs) :
    bs.any SArg.isSelf = as.any isRecv := by
  refine Res.mapM'_induct (P := fun as bs => bs.any SArg.isSelf = as.any isRecv) rfl ?_ h
  intro a b as bs hb _ ih
  rw [List.any_cons, List.any_cons, ih, buildArg_isSelf reg scope a b hb]

end PyxisVerif.C16
