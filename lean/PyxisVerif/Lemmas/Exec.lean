import PyxisVerif.Props.C01
import PyxisVerif.Props.C02
import PyxisVerif.Props.C04
import PyxisVerif.Props.C05
import PyxisVerif.Props.C06
import PyxisVerif.Props.C07
import PyxisVerif.Lemmas.C15
import PyxisVerif.Lemmas.Closed
/-!
# Run-time clauses of C04 / C05 / C07: a small operational semantics of the three emitted method bodies

`Emit.methodS` prints three body shapes:

* `call-slot fn args`   – `(self.vftable().<fn>)(args…)`: a call through the slot of the emitted
  `<T>Vftable` struct whose *field is named* `fn`;
* `call-addr A … args`  – a call of the function at absolute address `A`;
* `call-field b fn args` – `self.<b>.<fn>(args…)`: the method `fn` of the type of field `b`, run on that field;

and `Emit.typeItems` prints the accessor `vftable()` (`vftacc`) that reads the own field `vftable` or
delegates to `self.<base>.vftable()`.

## Specification part (definitions only)

*Modelled, not pyxis code*: what these Rust expressions do when they run, over the emitted items of a
registry.  Where a field sits is decided by the modelled compiler (`RustSem.offsets`) from the emitted
field list (`td.regions`), each field type having the layout of its emitted definition – the layouts
recorded in the registry (`C02.rtyLayout … (C02.regLayout reg)`, the instance `Props/C02.lean` uses;
`Props/C02Global.lean` shows that they are the ones the compiler computes recursively).
-/
namespace PyxisVerif.Exec
open Gen Layout

/-- byte-addressed memory of pointer-sized words, enough for vftable dispatch -/
abbrev Mem := Nat → Nat

/-- what a wrapper does to the outside world: exactly the calls it performs
    (`args`: the actual arguments in the order passed, the receiver where the signature has it) -/
structure CallEvent where
  target : Nat
  args : List Nat
deriving Repr, DecidableEq

/-- the resolved type definition behind a registry path (what `Emit.typeItems` prints for it) -/
def typeDefn? (reg : Registry) (p : Path) : Option TypeDefn :=
  match reg.get p with
  | none => none
  | some i =>
    match i.resolved? with
    | none => none
    | some r => match r.inner with | .type td => some td | .enum _ => none

/-- what the modelled compiler knows about a field: size and alignment of the field's type -/
def fldOf (reg : Registry) (r : Region) : Option RustSem.Fld :=
  (C02.rtyLayout reg.ps (C02.regLayout reg) r.ty).map fun sa => ⟨sa.1, sa.2⟩

def fldsOf (reg : Registry) : List Region → Option (List RustSem.Fld)
  | [] => some []
  | r :: rs =>
    match fldOf reg r, fldsOf reg rs with
    | some f, some fs => some (f :: fs)
    | _, _ => none

/-- byte offsets of the fields of the emitted struct, in declaration order (modelled rustc) -/
def fieldOffsets (reg : Registry) (td : TypeDefn) : Option (List Nat) :=
  (fldsOf reg td.regions).map (RustSem.offsets td.packed 0)

/-- position of the field named `name` in the emitted struct -/
def fieldIndex (td : TypeDefn) (name : String) : Option Nat :=
  td.regions.findIdx? fun r => r.name == some name

/-- `offset_of!(T, name)` -/
def fieldOffset (reg : Registry) (td : TypeDefn) (name : String) : Option Nat :=
  match fieldIndex td name, fieldOffsets reg td with
  | some k, some offs => offs[k]?
  | _, _ => none

/-- the (struct) type of the field named `name` -/
def fieldTypePath (td : TypeDefn) (name : String) : Option Path :=
  match td.regions.find? (fun r => r.name == some name) with
  | some r => match r.ty with | .data (.raw p) => some p | _ => none
  | none => none

/-- the methods `Emit.typeItems` prints in the `impl` block of a type, in order -/
def emittedMethods (td : TypeDefn) : List SFunc :=
  td.fns.filter (!·.isInternal) ++
    (match td.vft with | some v => v.fns.filter (!·.isInternal) | none => [])

/-- method lookup by name in the emitted `impl` block -/
def findMethod (td : TypeDefn) (name : String) : Option SFunc :=
  (emittedMethods td).find? (·.name == name)

/-- the actual arguments of an emitted call (`args (f.args.map callArgS)`): the declared parameters in
    declared order, a receiver standing for the object's address and every other parameter for the next
    argument value; `none` when the number of values is not the number of non-receiver parameters -/
def passArgs : List SArg → Nat → List Nat → Option (List Nat)
  | [], _, [] => some []
  | [], _, _ :: _ => none
  | a :: as, self, vals =>
    if a.isSelf then (passArgs as self vals).map (self :: ·)
    else match vals with
      | [] => none
      | v :: vs => (passArgs as self vs).map (v :: ·)

/-- **modelled**: the emitted accessor `vftable()` of the type at `ty`, run on an object at `self`:
    `self.vftable` (a read of the pointer-sized own field) or `self.<base>.vftable()` (the accessor of
    the base field's type on the sub-object); `fuel` bounds the depth of the hierarchy -/
def execVftable (reg : Registry) (mem : Mem) : Nat → Path → Nat → Option Nat
  | 0, _, _ => none
  | fuel + 1, ty, self =>
    match typeDefn? reg ty with
    | none => none
    | some td =>
      match td.vft with
      | none => none
      | some v =>
        match v.baseField with
        | none => (fieldOffset reg td vftableFieldName).map fun o => mem (self + o)
        | some b =>
          match fieldTypePath td b, fieldOffset reg td b with
          | some bp, some o => execVftable reg mem fuel bp (self + o)
          | _, _ => none

/-- **modelled**: running the emitted method `f` of the (resolved) type at registry path `ty` on an
    object at address `self` with argument values `args` (the non-receiver arguments, in order);
    the result is the list of calls performed.  `fuel` bounds the forwarding depth and the depth of the
    accessor chain.

    * body through the vftable: read the vftable pointer `vt` through the emitted accessor, then the slot
      that is the field *named* `fn` of the emitted vftable struct the accessor's return type points to
      (at the offset the modelled compiler gives that field), and call what is stored there;
    * body at address `A`: call `A`;
    * body forwarded to `(b, h)`: look up the type of field `b`, find its method `h`, and run it on the
      sub-object at `self + offset_of(b)` with the same argument values. -/
def execMethod (reg : Registry) (mem : Mem) : Nat → Path → SFunc → Nat → List Nat → Option (List CallEvent)
  | fuel, ty, f, self, args =>
    match f.body with
    | .addr a => (passArgs f.args self args).map fun as => [⟨a, as⟩]
    | .vft fn =>
      match typeDefn? reg ty with
      | none => none
      | some td =>
        match td.vft with
        | none => none
        | some v =>
          match v.ty with
          | .cptr (.raw vp) =>
            match typeDefn? reg vp, execVftable reg mem fuel ty self with
            | some vtd, some vt =>
              match fieldOffset reg vtd fn, passArgs f.args self args with
              | some o, some as => some [⟨mem (vt + o), as⟩]
              | _, _ => none
            | _, _ => none
          | _ => none
    | .field b h =>
      match fuel with
      | 0 => none
      | fuel' + 1 =>
        match typeDefn? reg ty with
        | none => none
        | some td =>
          match fieldTypePath td b, fieldOffset reg td b with
          | some bp, some o =>
            match typeDefn? reg bp with
            | none => none
            | some btd =>
              match findMethod btd h with
              | none => none
              | some g => execMethod reg mem fuel' bp g (self + o) args
          | _, _ => none

/-- C01's answer: `(offset, field)` for every emitted source field – the own vftable pointer at 0, every
    declared field at `C01.specOffsets` (the right-hand side of `C01.placed_at_spec`) -/
def declaredOffsets {β} (vptr : Option (PField β)) (fields : List (PField β)) : List (Nat × β) :=
  (match vptr with | some v => (if C01.emitted v then [(0, v.val)] else []) | none => []) ++
  ((fields.zip (C01.specOffsets (match vptr with | some v => (if C01.emitted v then C01.fsize v else 0) | none => 0)
      fields)).filter (fun p => C01.emitted p.1)).map (fun p => (p.2, p.1.val))


/-- what rustc demands of the emitted struct before anything runs: no two fields of the same name (E0124) -/
def DistinctFields (td : TypeDefn) : Prop := (td.regions.map (·.name)).Nodup

/-- … and of the emitted `impl` block: no two methods of the same name (E0592) -/
def DistinctMethods (td : TypeDefn) : Prop := ((emittedMethods td).map (·.name)).Nodup

def isRecv : G.Arg → Bool | .named .. => false | _ => true

/-! ## Lemma part -/

theorem execMethod_addr (reg : Registry) (mem : Mem) (fuel : Nat) (ty : Path) (f : SFunc) (self : Nat) (args : List Nat)
    (a : Nat) (h : f.body = .addr a) :
    execMethod reg mem fuel ty f self args = (passArgs f.args self args).map fun as => [⟨a, as⟩] := by
  unfold execMethod
  simp only [h]

theorem execMethod_field (reg : Registry) (mem : Mem) (fuel : Nat) (ty : Path) (f : SFunc) (self : Nat) (args : List Nat)
    (b h : String) (td btd : TypeDefn) (bp : Path) (o : Nat) (g : SFunc)
    (hb : f.body = .field b h) (hty : typeDefn? reg ty = some td)
    (hbp : fieldTypePath td b = some bp) (ho : fieldOffset reg td b = some o)
    (hB : typeDefn? reg bp = some btd) (hm : findMethod btd h = some g) :
    execMethod reg mem (fuel + 1) ty f self args = execMethod reg mem fuel bp g (self + o) args := by
  rw [execMethod]
  simp only [hb, hty, hbp, ho, hB, hm]

theorem execMethod_vft (reg : Registry) (mem : Mem) (fuel : Nat) (ty : Path) (f : SFunc) (self : Nat) (args : List Nat)
    (fn : String) (td vtd : TypeDefn) (v : Vft) (vp : Path) (vt o : Nat)
    (hb : f.body = .vft fn) (hty : typeDefn? reg ty = some td) (hv : td.vft = some v)
    (hvty : v.ty = .cptr (.raw vp)) (hvtd : typeDefn? reg vp = some vtd)
    (hacc : execVftable reg mem fuel ty self = some vt) (ho : fieldOffset reg vtd fn = some o) :
    execMethod reg mem fuel ty f self args = (passArgs f.args self args).map fun as => [⟨mem (vt + o), as⟩] := by
  rw [execMethod]
  simp only [hb, hty, hv, hvty, hvtd, hacc, ho]
  cases passArgs f.args self args <;> rfl

theorem passArgs_noSelf (as : List SArg) (self : Nat) (vals : List Nat)
    (h : ∀ a ∈ as, a.isSelf = false) (hl : vals.length = as.length) : passArgs as self vals = some vals := by
  induction as generalizing vals with
  | nil =>
    cases vals with
    | nil => rfl
    | cons v vs => simp at hl
  | cons a as ih =>
    cases vals with
    | nil => simp at hl
    | cons v vs =>
      have ha : a.isSelf = false := h a (by simp)
      simp only [passArgs, ha, Bool.false_eq_true, if_false]
      rw [ih vs (fun x hx => h x (by simp [hx])) (by simpa using hl)]
      rfl

theorem passArgs_recvFirst (a : SArg) (as : List SArg) (self : Nat) (vals : List Nat)
    (ha : a.isSelf = true) (h : ∀ x ∈ as, x.isSelf = false) (hl : vals.length = as.length) :
    passArgs (a :: as) self vals = some (self :: vals) := by
  simp only [passArgs, ha, if_true]
  rw [passArgs_noSelf as self vals h hl]
  rfl

/-- every region of a generated vftable struct is a function pointer: pointer-sized, pointer-aligned -/
theorem fldsOf_vftable (reg : Registry) (owner : Path) (fns : List SFunc) :
    fldsOf reg (fns.map (functionToRegion owner)) = some (List.replicate fns.length ⟨reg.ps, reg.ps⟩) := by
  induction fns with
  | nil => rfl
  | cons f fs ih =>
    simp only [List.map_cons, fldsOf, ih, List.length_cons, List.replicate_succ]
    rfl

theorem find_key {α β} [BEq β] [LawfulBEq β] (l : List α) (key : α → β) (k : Nat) (x : α) (hk : l[k]? = some x)
    (hnd : (l.map key).Nodup) :
    l.findIdx? (fun y => key y == key x) = some k ∧ l.find? (fun y => key y == key x) = some x := by
  induction l generalizing k with
  | nil => simp at hk
  | cons g gs ih =>
    rw [List.findIdx?_cons, List.find?_cons]
    cases k with
    | zero =>
      simp only [List.getElem?_cons_zero, Option.some.injEq] at hk
      subst hk
      simp
    | succ k =>
      simp only [List.getElem?_cons_succ] at hk
      simp only [List.map_cons, List.nodup_cons] at hnd
      have hne : (key g == key x) = false := beq_false_of_ne fun e =>
        hnd.1 (by rw [e]; exact List.mem_map.mpr ⟨x, List.mem_of_getElem? hk, rfl⟩)
      rw [hne]
      simp only [Bool.false_eq_true, if_false]
      obtain ⟨i1, i2⟩ := ih k hk hnd.2
      rw [i1, i2]
      exact ⟨rfl, rfl⟩

theorem findIdx?_names (fns : List SFunc) (owner : Path) (k : Nat) (f : SFunc) (hk : fns[k]? = some f)
    (hnd : (fns.map (·.name)).Nodup) :
    (fns.map (functionToRegion owner)).findIdx? (fun r => r.name == some f.name) = some k := by
  have hk' : (fns.map (functionToRegion owner))[k]? = some (functionToRegion owner f) := by
    rw [List.getElem?_map, hk]; rfl
  have hnd' : ((fns.map (functionToRegion owner)).map (·.name)).Nodup := by
    rw [List.map_map]
    exact List.pairwise_map.mpr ((List.pairwise_map.mp hnd).imp fun h e => h (Option.some.inj e))
  exact (find_key _ (·.name) k _ hk' hnd').1

/-- **slot offset in the emitted vftable struct**: the field named after the function in slot `k` sits at
    byte `k * ps` (field lookup by name, offsets by the modelled compiler) -/
theorem slot_field_offset (reg : Registry) (owner : Path) (fns : List SFunc) (vtd : TypeDefn)
    (hreg : vtd.regions = fns.map (functionToRegion owner)) (hpk : vtd.packed = false)
    (k : Nat) (f : SFunc) (hk : fns[k]? = some f)
    (hnd : (fns.map (·.name)).Nodup) (hps : 0 < reg.ps) :
    fieldOffset reg vtd f.name = some (k * reg.ps) := by
  unfold fieldOffset fieldIndex fieldOffsets
  rw [hreg, hpk, findIdx?_names fns owner k f hk hnd, fldsOf_vftable]
  simp only [Option.map_some]
  rw [C04.slot_offset reg.ps fns.length hps]
  have hlt : k < fns.length := (List.getElem?_eq_some_iff.mp hk).1
  simp [hlt]

theorem typeDefn?_of_get (reg : Registry) (p : Path) (i : ItemDef) (r : Resolved) (td : TypeDefn)
    (hg : reg.get p = some i) (hs : i.state = .res r) (hin : r.inner = .type td) : typeDefn? reg p = some td := by
  unfold typeDefn?
  simp only [hg, ItemDef.resolved?, hs, hin]

theorem typeDefn?_inv (reg : Registry) (p : Path) (td : TypeDefn) (h : typeDefn? reg p = some td) :
    ∃ i r, reg.get p = some i ∧ i.state = .res r ∧ r.inner = .type td := by
  unfold typeDefn? at h
  split at h
  · cases h
  · next i hg =>
    split at h
    · cases h
    · next r hr =>
      split at h
      · next td' hin => cases h; exact ⟨i, r, hg, C02.resolved?_eq hr, hin⟩
      · cases h

/-- registry-level form of the C04 run-time clause -/
theorem vfunc_calls_slot (reg : Registry) (mem : Mem) (fuel : Nat) (ty : Path) (f : SFunc) (self : Nat) (args : List Nat)
    (td vtd : TypeDefn) (v : Vft) (vp owner : Path) (k vt : Nat)
    (hty : typeDefn? reg ty = some td) (hv : td.vft = some v) (hvty : v.ty = .cptr (.raw vp))
    (hvtd : typeDefn? reg vp = some vtd) (hreg : vtd.regions = v.fns.map (functionToRegion owner))
    (hpk : vtd.packed = false) (hk : v.fns[k]? = some f) (hb : f.body = .vft f.name)
    (hnd : (v.fns.map (·.name)).Nodup) (hps : 0 < reg.ps)
    (hacc : execVftable reg mem fuel ty self = some vt) :
    execMethod reg mem fuel ty f self args =
      (passArgs f.args self args).map fun as => [⟨mem (vt + k * reg.ps), as⟩] :=
  execMethod_vft reg mem fuel ty f self args f.name td vtd v vp vt _ hb hty hv hvty hvtd hacc
    (slot_field_offset reg owner v.fns vtd hreg hpk k f hk hnd hps)

theorem vfunc_built (reg0 : Registry) (scope : List Path) (size : Option Nat) (gfns : List G.Func) (out : List SFunc)
    (hconv : convertVfuncs reg0 scope size gfns = .ok out)
    (pos : List Nat) (hpos : C04.specPositions 0 (gfns.map C04.declIndex) = some pos)
    (j : Nat) (gf : G.Func) (p : Nat) (hj : gfns[j]? = some gf) (hp : pos[j]? = some p) :
    ∃ sf, buildFunction reg0 scope true gf = .ok sf ∧ out[p]? = some sf ∧ sf.body = .vft sf.name ∧ sf.name = gf.name := by
  obtain ⟨pos', built, len, hpos', hbuilt, hlen, _, _, hz, _⟩ := C04.slots reg0 scope size gfns out hconv
  rw [hpos] at hpos'
  cases hpos'
  obtain ⟨hl, hpt⟩ := Res.mapM'_ok hbuilt
  obtain ⟨hjl, hje⟩ := List.getElem?_eq_some_iff.mp hj
  have hjb : j < built.length := by rw [hl]; exact hjl
  have hb := hpt j hjl hjb
  rw [hje] at hb
  obtain ⟨hbody, hname⟩ := C04.vfunc_body reg0 scope gf built[j] hb
  refine ⟨built[j], hb, ?_, by rw [hbody, hname], hname⟩
  exact hz (p, built[j])
    (List.mem_iff_getElem?.mpr ⟨j, List.getElem?_zip_eq_some.mpr ⟨hp, List.getElem?_eq_getElem hjb⟩⟩)

theorem regLayout_mono {r r' : Registry} (he : C02.Ext r r') (p : Path) (x : Nat × Nat)
    (h : C02.regLayout r p = some x) : C02.regLayout r' p = some x :=
  he.bind_resolved? h

theorem tyLayout_mono {r r' : Registry} (he : C02.Ext r r') (t : DTy) (x : Nat × Nat)
    (h : C02.tyLayout r.ps (C02.regLayout r) t = some x) : C02.tyLayout r'.ps (C02.regLayout r') t = some x := by
  induction t generalizing x with
  | raw p => exact regLayout_mono he p x h
  | cptr t _ => simp only [C02.tyLayout] at h ⊢; rw [he.ps]; exact h
  | mptr t _ => simp only [C02.tyLayout] at h ⊢; rw [he.ps]; exact h
  | arr t n ih =>
    simp only [C02.tyLayout, Option.map_eq_some_iff] at h ⊢
    obtain ⟨y, hy, e⟩ := h
    exact ⟨y, ih y hy, e⟩

theorem fldOf_mono {r r' : Registry} (he : C02.Ext r r') (rg : Region) (f : RustSem.Fld)
    (h : fldOf r rg = some f) : fldOf r' rg = some f := by
  unfold fldOf at h ⊢
  obtain ⟨y, hx, e⟩ := Option.map_eq_some_iff.mp h
  refine Option.map_eq_some_iff.mpr ⟨y, ?_, e⟩
  cases hty : rg.ty with
  | data t => rw [hty] at hx; exact tyLayout_mono he t y hx
  | fn cc a rt =>
    rw [hty] at hx
    simp only [C02.rtyLayout] at hx ⊢
    rw [he.ps]; exact hx

theorem fldsOf_of_forall (reg : Registry) (rs : List Region) (fs : List RustSem.Fld) (hl : rs.length = fs.length)
    (h : ∀ k (h1 : k < rs.length) (h2 : k < fs.length), fldOf reg rs[k] = some fs[k]) : fldsOf reg rs = some fs := by
  induction rs generalizing fs with
  | nil =>
    cases fs with
    | nil => rfl
    | cons f fs => simp at hl
  | cons r rs ih =>
    cases fs with
    | nil => simp at hl
    | cons f fs =>
      have h0 := h 0 (by simp) (by simp)
      simp only [List.getElem_cons_zero] at h0
      have := ih fs (by simpa using hl) (fun k h1 h2 => by
        have := h (k + 1) (by simpa using h1) (by simpa using h2)
        simpa using this)
      simp only [fldsOf, h0, this]

theorem fldsOf_getElem (reg : Registry) (rs : List Region) (fs : List RustSem.Fld) (h : fldsOf reg rs = some fs) :
    rs.length = fs.length ∧ ∀ k (h1 : k < rs.length) (h2 : k < fs.length), fldOf reg rs[k] = some fs[k] := by
  induction rs generalizing fs with
  | nil => cases h; exact ⟨rfl, fun k h1 => absurd h1 (Nat.not_lt_zero k)⟩
  | cons r rs ih =>
    simp only [fldsOf] at h
    split at h
    · next f fs' h1 h2 =>
      cases h
      obtain ⟨hl, hk⟩ := ih fs' h2
      refine ⟨by simp [hl], fun k h1' h2' => ?_⟩
      cases k with
      | zero => exact h1
      | succ k => simpa using hk k (by simpa using h1') (by simpa using h2')
    · cases h

theorem fldsOf_mono {r r' : Registry} (he : C02.Ext r r') (rs : List Region) (fs : List RustSem.Fld)
    (h : fldsOf r rs = some fs) : fldsOf r' rs = some fs := by
  obtain ⟨hl, hk⟩ := fldsOf_getElem r rs fs h
  exact fldsOf_of_forall r' rs fs hl fun k h1 h2 => fldOf_mono he _ _ (hk k h1 h2)

theorem fieldOffset_mono {r r' : Registry} (he : C02.Ext r r') (td : TypeDefn) (name : String) (o : Nat)
    (h : fieldOffset r td name = some o) : fieldOffset r' td name = some o := by
  unfold fieldOffset at h ⊢
  split at h
  · next k offs hk ho =>
    obtain ⟨fs, hf, e⟩ := Option.map_eq_some_iff.mp ho
    rw [hk, fieldOffsets, fldsOf_mono he _ fs hf, Option.map_some, e]
    exact h
  · cases h

theorem typeDefn?_mono {r r' : Registry} (he : C02.Ext r r') (p : Path) (td : TypeDefn)
    (h : typeDefn? r p = some td) : typeDefn? r' p = some td := by
  obtain ⟨i, res, hg, hs, hin⟩ := typeDefn?_inv r p td h
  exact typeDefn?_of_get r' p i res td (he.res hg hs) hs hin

theorem execVftable_mono {r r' : Registry} (he : C02.Ext r r') (mem : Mem) (fuel : Nat) (ty : Path) (self vt : Nat)
    (h : execVftable r mem fuel ty self = some vt) : execVftable r' mem fuel ty self = some vt := by
  induction fuel generalizing ty self with
  | zero => simp [execVftable] at h
  | succ n ih =>
    rw [execVftable] at h ⊢
    split at h
    · cases h
    · next td htd =>
      rw [typeDefn?_mono he ty td htd]
      simp only []
      split at h
      · cases h
      · next v hv =>
        split at h
        · next hb =>
          obtain ⟨o, ho, rfl⟩ := Option.map_eq_some_iff.mp h
          simp only [fieldOffset_mono he td _ o ho, Option.map_some]
        · next b hb =>
          split at h
          · next bp o hbp ho =>
            simp only [hbp, fieldOffset_mono he td _ o ho]
            exact ih bp (self + o) h
          · cases h

/-- the events of a method stay what they are when the registry grows (resolved items never change) -/
theorem execMethod_mono {r r' : Registry} (he : C02.Ext r r') (mem : Mem) (fuel : Nat) (ty : Path) (f : SFunc)
    (self : Nat) (args : List Nat) (evs : List CallEvent)
    (h : execMethod r mem fuel ty f self args = some evs) : execMethod r' mem fuel ty f self args = some evs := by
  induction fuel generalizing ty f self with
  | zero =>
    rw [execMethod] at h ⊢
    split at h
    · exact h
    · split at h
      · cases h
      · split at h
        · cases h
        · split at h
          · simp [execVftable] at h
          · cases h
    · cases h
  | succ n ih =>
    rw [execMethod] at h ⊢
    split at h
    · exact h
    · next fn hb =>
      split at h
      · cases h
      · next td htd =>
        split at h
        · cases h
        · next v hv =>
          split at h
          · next vp hvty =>
            split at h
            · next vtd vt hvtd hacc =>
              split at h
              · next o as ho hpa =>
                simp only [typeDefn?_mono he ty td htd, hv, hvty, typeDefn?_mono he vp vtd hvtd,
                  execVftable_mono he mem _ ty self vt hacc, fieldOffset_mono he vtd fn o ho, hpa]
                exact h
              · cases h
            · cases h
          · cases h
    · next b hn hb =>
      simp only [] at h ⊢
      split at h
      · cases h
      · next td htd =>
        split at h
        · next bp o hbp ho =>
          split at h
          · cases h
          · next btd hB =>
            split at h
            · cases h
            · next g hm =>
              simp only [typeDefn?_mono he ty td htd, hbp, fieldOffset_mono he td b o ho, typeDefn?_mono he bp btd hB, hm]
              exact ih bp g (self + o) h
        · cases h

theorem fldOf_source (reg : Registry) (rg : Region) (s a : Nat) (hs : rg.ty.size reg = .ok (some s))
    (ha : rg.ty.align reg = some a) : fldOf reg rg = some ⟨s, a⟩ := by
  unfold fldOf
  cases hty : rg.ty with
  | data t =>
    rw [hty] at hs ha
    simp only [C02.rtyLayout]
    rw [C02.embedding_uses_recorded reg t s a hs ha]
    rfl
  | fn cc args ret =>
    rw [hty] at hs ha
    simp only [RTy.size, RTy.align, Res.ok.injEq, Option.some.injEq] at hs ha
    subst hs; subst ha
    rfl

theorem fldOf_padding (reg : Registry) (hp : C02.PrimsOk reg) (rg : Region) (n : Nat)
    (h : rg.ty = .data (.arr (.raw ["u8"]) n)) : fldOf reg rg = some ⟨n, 1⟩ := by
  unfold fldOf
  rw [h]
  have : C02.regLayout reg ["u8"] = some (1, 1) := by
    unfold C02.regLayout
    rw [hp ("u8", 1) (by decide)]
    rfl
  simp only [C02.rtyLayout, C02.tyLayout, this, Option.map_some, Nat.one_mul]

/-- the fields of an accepted type, as handed to the modelled compiler: placed region `k` with the size
    and alignment pyxis placed it with -/
theorem fldsOf_placed (reg : Registry) (hp : C02.PrimsOk reg)
    (vptr : Option Region) (pending : List (Option Nat × Region))
    (target : Option Nat) (placed : List (Placed Region)) (size : Nat)
    (h : resolve (vptr.map (toPField reg none)) (pending.map fun p => toPField reg p.1 p.2) target = .ok (placed, size))
    (regions : List Region) (hn : nameRegions reg 0 placed = .ok regions) :
    fldsOf reg regions = some (placed.map C01.toFld) := by
  obtain ⟨hlen, hnamed⟩ := C01.nameRegions_types_lem reg 0 placed regions hn
  apply fldsOf_of_forall reg regions _ (by simp [hlen])
  intro k h1 h2
  have hk : k < placed.length := by rw [← hlen]; exact h1
  have hna := hnamed k hk h1
  have hkind := C02.placed_kinds reg vptr pending target placed size h placed[k] (List.getElem_mem hk)
  simp only [List.getElem_map, C01.toFld]
  unfold C01.NamedAs at hna
  rcases hkind with ⟨rg, hsrc, hsz, hal⟩ | ⟨hsrc, hal⟩
  · simp only [hsrc] at hna
    obtain ⟨a, ha⟩ : ∃ a, rg.ty.align reg = some a :=
      Option.isSome_iff_exists.mp (Mono.ralign_of_size reg rg.ty _ hsz)
    rw [← hal, ha]
    simp only [Option.getD_some]
    exact fldOf_source reg regions[k] _ a (by rw [hna.1]; exact hsz) (by rw [hna.1]; exact ha)
  · simp only [hsrc] at hna
    obtain ⟨t, ht, hty, _⟩ := hna
    rw [hal]
    simp only [Option.getD_some]
    exact fldOf_padding reg hp regions[k] _ (by rw [hty, (C09.paddingType_answer ht).1])

theorem fieldIndex_of_nodup (td : TypeDefn) (k : Nat) (rg : Region) (b : String) (hk : td.regions[k]? = some rg)
    (hb : rg.name = some b) (hnd : (td.regions.map (·.name)).Nodup) :
    fieldIndex td b = some k ∧ td.regions.find? (fun r => r.name == some b) = some rg := by
  have := find_key td.regions (·.name) k rg hk hnd
  simp only [hb] at this
  unfold fieldIndex
  exact this

theorem findMethod_of_nodup (td : TypeDefn) (f : SFunc) (hf : f ∈ emittedMethods td)
    (hnd : ((emittedMethods td).map (·.name)).Nodup) : findMethod td f.name = some f := by
  obtain ⟨k, hk⟩ := List.mem_iff_getElem?.mp hf
  exact (find_key (emittedMethods td) (·.name) k f hk hnd).2

theorem fieldOffset_at (reg : Registry) (td : TypeDefn) (k : Nat) (rg : Region) (b : String) (fs : List RustSem.Fld)
    (hk : td.regions[k]? = some rg) (hb : rg.name = some b) (hnd : (td.regions.map (·.name)).Nodup)
    (hf : fldsOf reg td.regions = some fs) :
    fieldOffset reg td b = (RustSem.offsets td.packed 0 fs)[k]? := by
  unfold fieldOffset fieldOffsets
  rw [(fieldIndex_of_nodup td k rg b hk hb hnd).1, hf]
  rfl

theorem alignUp_zero (a : Nat) : RustSem.alignUp 0 a = 0 := by
  by_cases ha : a = 0
  · rw [RustSem.alignUp, if_pos ha]
  · exact C01.alignUp_of_dvd 0 a ha (Nat.zero_mod a)

theorem offsets_head (packed : Bool) (f : RustSem.Fld) (fs : List RustSem.Fld) :
    (RustSem.offsets packed 0 (f :: fs))[0]? = some 0 := by
  simp only [RustSem.offsets, List.getElem?_cons_zero, Option.some.injEq]
  split
  · rfl
  · exact alignUp_zero _

theorem offsets_exact {β} (ps : Nat) (packed : Bool) (align? : Option Nat)
    (vptr : Option (PField β)) (fields : List (PField β)) (target : Option Nat)
    (placed : List (Placed β)) (size a : Nat)
    (h : resolve vptr fields target = .ok (placed, size))
    (ha : alignCheck ps packed align? placed size = .ok a) :
    ((RustSem.offsets packed 0 (placed.map C01.toFld)).zip placed).filterMap (fun p => p.2.src.map fun v => (p.1, v)) =
      declaredOffsets vptr fields := by
  have hex := C01.field_offsets_exact ps packed align? vptr fields target placed size a h ha
  cases vptr <;> exact hex

/-- the source regions paired with the offsets of their positions -/
theorem mem_zip_src {β : Type} (offs : List Nat) (placed : List (Placed β)) (o : Nat) (v : β) :
    (o, v) ∈ (offs.zip placed).filterMap (fun p => p.2.src.map fun v => (p.1, v)) ↔
      ∃ (k : Nat) (pl : Placed β), offs[k]? = some o ∧ placed[k]? = some pl ∧ pl.src = some v := by
  constructor
  · intro h
    obtain ⟨p, hp, hv⟩ := List.mem_filterMap.mp h
    obtain ⟨k, hk⟩ := List.mem_iff_getElem?.mp hp
    obtain ⟨hk1, hk2⟩ := List.getElem?_zip_eq_some.mp hk
    obtain ⟨w, hw, e⟩ := Option.map_eq_some_iff.mp hv
    cases e
    exact ⟨k, p.2, hk1, hk2, hw⟩
  · rintro ⟨k, pl, h1, h2, hw⟩
    exact List.mem_filterMap.mpr ⟨(o, pl), List.mem_iff_getElem?.mpr ⟨k, List.getElem?_zip_eq_some.mpr ⟨h1, h2⟩⟩,
      by rw [hw]; rfl⟩

/-- a named field to which the description gives the offset `o` is a field of the emitted struct, in the position of a
    placed region that the modelled compiler puts at `o` -/
theorem declared_region (reg : Registry)
    (vptr : Option Region) (pending : List (Option Nat × Region)) (target align? : Option Nat)
    (placed : List (Placed Region)) (size a : Nat) (td : TypeDefn)
    (h : resolve (vptr.map (toPField reg none)) (pending.map fun p => toPField reg p.1 p.2) target = .ok (placed, size))
    (ha : alignCheck reg.ps td.packed align? placed size = .ok a)
    (hn : nameRegions reg 0 placed = .ok td.regions)
    (o : Nat) (rg : Region) (b : String) (hb : rg.name = some b)
    (hmem : (o, rg) ∈ declaredOffsets (vptr.map (toPField reg none)) (pending.map fun p => toPField reg p.1 p.2)) :
    ∃ k : Nat, (RustSem.offsets td.packed 0 (placed.map C01.toFld))[k]? = some o ∧ td.regions[k]? = some rg := by
  rw [← offsets_exact reg.ps td.packed align? _ _ target placed size a h ha] at hmem
  obtain ⟨k, pl, hk1, hk2, hsrc⟩ := (mem_zip_src _ _ o rg).mp hmem
  obtain ⟨hlen, hnamed⟩ := C01.nameRegions_types_lem reg 0 placed td.regions hn
  obtain ⟨hkl, hke⟩ := List.getElem?_eq_some_iff.mp hk2
  have hkr : k < td.regions.length := by rw [hlen]; exact hkl
  have hna := hnamed k hkl hkr
  unfold C01.NamedAs at hna
  rw [hke, hsrc] at hna
  exact ⟨k, hk1, by rw [List.getElem?_eq_getElem hkr, hna.2 (by rw [hb]; rfl)]⟩

/-- **where C01 puts it**: for an accepted type (placement, alignment block and naming accepted), the
    field named `b` of the emitted struct is, for the modelled compiler, at the offset the description
    gives it (`C01.specOffsets`; the own vftable pointer at 0) -/
theorem fieldOffset_declared (reg : Registry) (hp : C02.PrimsOk reg)
    (vptr : Option Region) (pending : List (Option Nat × Region)) (target align? : Option Nat)
    (placed : List (Placed Region)) (size a : Nat) (td : TypeDefn)
    (h : resolve (vptr.map (toPField reg none)) (pending.map fun p => toPField reg p.1 p.2) target = .ok (placed, size))
    (ha : alignCheck reg.ps td.packed align? placed size = .ok a)
    (hn : nameRegions reg 0 placed = .ok td.regions)
    (hnd : (td.regions.map (·.name)).Nodup)
    (o : Nat) (rg : Region) (b : String) (hb : rg.name = some b)
    (hmem : (o, rg) ∈ declaredOffsets (vptr.map (toPField reg none)) (pending.map fun p => toPField reg p.1 p.2)) :
    fieldOffset reg td b = some o ∧ td.regions.find? (fun r => r.name == some b) = some rg := by
  obtain ⟨k, hk, hreg⟩ := declared_region reg vptr pending target align? placed size a td h ha hn o rg b hb hmem
  have hf := fldsOf_placed reg hp vptr pending target placed size h td.regions hn
  exact ⟨by rw [fieldOffset_at reg td k rg b _ hreg hb hnd hf, hk], (fieldIndex_of_nodup td k rg b hreg hb hnd).2⟩

theorem execVftable_own (reg : Registry) (mem : Mem) (fuel : Nat) (ty : Path) (self : Nat) (td : TypeDefn) (v : Vft) (o : Nat)
    (hty : typeDefn? reg ty = some td) (hv : td.vft = some v) (hb : v.baseField = none)
    (ho : fieldOffset reg td vftableFieldName = some o) :
    execVftable reg mem (fuel + 1) ty self = some (mem (self + o)) := by
  rw [execVftable]
  simp only [hty, hv, hb, ho, Option.map_some]

theorem execVftable_base (reg : Registry) (mem : Mem) (fuel : Nat) (ty : Path) (self : Nat) (td : TypeDefn) (v : Vft)
    (b : String) (bp : Path) (o : Nat)
    (hty : typeDefn? reg ty = some td) (hv : td.vft = some v) (hb : v.baseField = some b)
    (hbp : fieldTypePath td b = some bp) (ho : fieldOffset reg td b = some o) :
    execVftable reg mem (fuel + 1) ty self = execVftable reg mem fuel bp (self + o) := by
  rw [execVftable]
  simp only [hty, hv, hb, hbp, ho]

theorem own_pointer_offset (reg : Registry) (hp : C02.PrimsOk reg)
    (ptr : Region) (pending : List (Option Nat × Region)) (target : Option Nat)
    (placed : List (Placed Region)) (size : Nat) (td : TypeDefn)
    (hname : ptr.name = some vftableFieldName) (harr : ptr.ty.isArray = false)
    (h : resolve ((some ptr).map (toPField reg none)) (pending.map fun p => toPField reg p.1 p.2) target = .ok (placed, size))
    (hn : nameRegions reg 0 placed = .ok td.regions) :
    fieldOffset reg td vftableFieldName = some 0 ∧ td.regions.head? = some ptr := by
  obtain ⟨sz, rest, _, hor⟩ := C06.pointer_first _ _ target placed size h
  rcases hor with ⟨_, hisarr⟩ | hpl
  · simp only [toPField] at hisarr
    rw [harr] at hisarr
    cases hisarr
  · have hf := fldsOf_placed reg hp (some ptr) pending target placed size h td.regions hn
    obtain ⟨hlen, hnamed⟩ := C01.nameRegions_types_lem reg 0 placed td.regions hn
    rw [hpl] at hlen hnamed hf
    cases hr : td.regions with
    | nil => rw [hr] at hlen; simp at hlen
    | cons r0 rs =>
      have hna := hnamed 0 (by simp) (by rw [hr]; simp)
      unfold C01.NamedAs at hna
      simp only [List.getElem_cons_zero, toPField] at hna
      have hr0 : r0 = ptr := by
        have := hna.2 (by rw [hname]; rfl)
        simpa [hr] using this
      subst hr0
      refine ⟨?_, rfl⟩
      unfold fieldOffset fieldOffsets fieldIndex
      rw [hf, hr]
      simp only [List.findIdx?_cons, hname, beq_self_eq_true, if_true, Option.map_some, List.map_cons]
      exact offsets_head _ _ _

/-- `specArgs`, one parameter at a time: a receiver stays a receiver, a named parameter gets its written type resolved -/
theorem specArgs_cons (reg : Registry) (scope : List Path) (ga : G.Arg) (rest : List G.Arg) (sas : List SArg)
    (h : C05.specArgs reg scope (ga :: rest) = some sas) :
    ∃ sa sas', sas = sa :: sas' ∧ C05.specArgs reg scope rest = some sas' ∧ sa.isSelf = isRecv ga ∧
      ∀ n t, sa = .field n t → ∃ gty, ga = .named n gty ∧ reg.resolveTy scope gty = .ok t := by
  cases ga with
  | constSelf | mutSelf =>
    obtain ⟨sas', hs', rfl⟩ := Option.map_eq_some_iff.mp h
    exact ⟨_, sas', rfl, hs', rfl, fun n t e => by cases e⟩
  | named n' gt =>
    simp only [C05.specArgs] at h
    split at h
    · next t' ht' =>
      obtain ⟨sas', hs', rfl⟩ := Option.map_eq_some_iff.mp h
      exact ⟨_, sas', rfl, hs', rfl, fun n t e => by cases e; exact ⟨gt, rfl, ht'⟩⟩
    · cases h

theorem specArgs_isSelf (reg : Registry) (scope : List Path) (gas : List G.Arg) (sas : List SArg)
    (h : C05.specArgs reg scope gas = some sas) : sas.map SArg.isSelf = gas.map isRecv := by
  induction gas generalizing sas with
  | nil => cases h; rfl
  | cons a as ih =>
    obtain ⟨sa, sas', rfl, hs', hself, _⟩ := specArgs_cons reg scope a as sas h
    simp only [List.map_cons, hself, ih sas' hs']

/-- `passArgs` looks at the parameter list only to see which parameters are receivers -/
theorem passArgs_congr (as bs : List SArg) (h : as.map SArg.isSelf = bs.map SArg.isSelf) (self : Nat) (vals : List Nat) :
    passArgs as self vals = passArgs bs self vals := by
  induction as generalizing bs vals with
  | nil =>
    cases bs with
    | nil => rfl
    | cons b bs => simp at h
  | cons a as ih =>
    cases bs with
    | nil => simp at h
    | cons b bs =>
      simp only [List.map_cons, List.cons.injEq] at h
      simp only [passArgs, h.1]
      split
      · rw [ih bs h.2]
      · cases vals with
        | nil => rfl
        | cons v vs => simp only []; rw [ih bs h.2]

/-- parameters that mirror non-receivers are no receivers, and there are as many -/
theorem noSelf_of_decl (sas : List SArg) (gas : List G.Arg) (hm : sas.map SArg.isSelf = gas.map isRecv)
    (hn : ∀ x ∈ gas, isRecv x = false) : (∀ x ∈ sas, x.isSelf = false) ∧ sas.length = gas.length := by
  refine ⟨fun x hx => ?_, by simpa using congrArg List.length hm⟩
  have hx' : x.isSelf ∈ sas.map SArg.isSelf := List.mem_map.mpr ⟨x, hx, rfl⟩
  rw [hm] at hx'
  obtain ⟨y, hy, hxy⟩ := List.mem_map.mp hx'
  rw [← hxy]; exact hn y hy

/-- receiver first, then named parameters: the actual arguments are the object's address followed by the values -/
theorem passArgs_of_decl_recv (sas : List SArg) (gas : List G.Arg) (hm : sas.map SArg.isSelf = gas.map isRecv)
    (recv : G.Arg) (named : List G.Arg) (hg : gas = recv :: named) (hr : isRecv recv = true)
    (hn : ∀ x ∈ named, isRecv x = false) (self : Nat) (vals : List Nat) (hl : vals.length = named.length) :
    passArgs sas self vals = some (self :: vals) := by
  subst hg
  cases sas with
  | nil => simp at hm
  | cons a as =>
    simp only [List.map_cons, List.cons.injEq] at hm
    obtain ⟨hno, hlen⟩ := noSelf_of_decl as named hm.2 hn
    exact passArgs_recvFirst a as self vals (by rw [hm.1]; exact hr) hno (by rw [hl, hlen])

theorem passArgs_of_decl_static (sas : List SArg) (gas : List G.Arg) (hm : sas.map SArg.isSelf = gas.map isRecv)
    (hn : ∀ x ∈ gas, isRecv x = false) (self : Nat) (vals : List Nat) (hl : vals.length = gas.length) :
    passArgs sas self vals = some vals := by
  obtain ⟨hno, hlen⟩ := noSelf_of_decl sas gas hm hn
  exact passArgs_noSelf sas self vals hno (by rw [hl, hlen])

theorem mem_emitted (btd : TypeDefn) (fs : List SFunc) (hfs : fs = btd.fns ∨ ∃ v, btd.vft = some v ∧ fs = v.fns)
    (f : SFunc) (hf : f ∈ fs) (hi : f.isInternal = false) : f ∈ emittedMethods btd := by
  unfold emittedMethods
  rcases hfs with rfl | ⟨v, hv, rfl⟩
  · exact List.mem_append_left _ (List.mem_filter.mpr ⟨hf, by simp [hi]⟩)
  · rw [hv]
    exact List.mem_append_right _ (List.mem_filter.mpr ⟨hf, by simp [hi]⟩)

/-- a function whose body forwards to such a function `f` of base field `b` runs `f` on the sub-object at the offset of
    `b`; `hdm` lets the method be found by its name -/
theorem execMethod_forward (reg : Registry) (mem : Mem) (fuel : Nat) (D : Path) (td btd : TypeDefn) (b : String) (bp : Path)
    (o : Nat) (hD : typeDefn? reg D = some td) (hbp : fieldTypePath td b = some bp) (ho : fieldOffset reg td b = some o)
    (hB : typeDefn? reg bp = some btd) (hdm : DistinctMethods btd)
    (fs : List SFunc) (hfs : fs = btd.fns ∨ ∃ v, btd.vft = some v ∧ fs = v.fns)
    (f g : SFunc) (hf : f ∈ fs) (hint : f.isInternal = false) (hbody : g.body = .field b f.name) (self : Nat) (args : List Nat) :
    execMethod reg mem (fuel + 1) D g self args = execMethod reg mem fuel bp f (self + o) args :=
  execMethod_field reg mem fuel D g self args b f.name td btd bp o f hbody hD hbp ho hB
    (findMethod_of_nodup btd f (mem_emitted btd fs hfs f hf hint) hdm)

theorem declaredOffsets_eq {β} (vptr : Option (PField β)) (fields : List (PField β)) :
    declaredOffsets vptr fields = C01.vhead vptr ++ C01.specSrc (C01.vstart vptr) fields := rfl

theorem mem_specSrc {β} (e : Nat) (fields : List (PField β)) (f : PField β) (hf : f ∈ fields)
    (hem : C01.emitted f = true) : ∃ o, (o, f.val) ∈ C01.specSrc e fields := by
  induction fields generalizing e with
  | nil => cases hf
  | cons g gs ih =>
    rw [C01.specSrc_cons]
    rcases List.mem_cons.mp hf with rfl | hf
    · exact ⟨_, List.mem_append_left _ (by rw [if_pos hem]; exact List.mem_singleton.mpr rfl)⟩
    · obtain ⟨o, ho⟩ := ih _ hf
      exact ⟨o, List.mem_append_right _ ho⟩

theorem emitted_of_raw (reg : Registry) (addr : Option Nat) (rg : Region) (p : Path) (h : rg.ty = .data (.raw p)) :
    C01.emitted (toPField reg addr rg) = true := by
  unfold C01.emitted toPField
  simp [h, RTy.isArray, DTy.isArray]

theorem declared_of_pending {reg : Registry} (vptr : Option (PField Region)) (pending : List (Option Nat × Region))
    (rg : Region) (p : Path) (hrg : rg ∈ pending.map (·.2)) (hty : rg.ty = .data (.raw p)) :
    ∃ o, (o, rg) ∈ declaredOffsets vptr (pending.map fun q => toPField reg q.1 q.2) := by
  obtain ⟨q, hq, rfl⟩ := List.mem_map.mp hrg
  obtain ⟨o, ho⟩ := mem_specSrc (C01.vstart vptr) (pending.map fun q => toPField reg q.1 q.2) (toPField reg q.1 q.2)
    (List.mem_map.mpr ⟨q, hq, rfl⟩) (emitted_of_raw reg q.1 q.2 p hty)
  exact ⟨o, by rw [declaredOffsets_eq]; exact List.mem_append_right _ ho⟩

theorem declared_first {reg : Registry} (rg : Region) (rest : List (Option Nat × Region)) (p : Path)
    (hty : rg.ty = .data (.raw p)) :
    (0, rg) ∈ declaredOffsets none (((none, rg) :: rest).map fun q => toPField reg q.1 q.2) := by
  rw [declaredOffsets_eq, List.map_cons, C01.specSrc_cons]
  apply List.mem_append_right
  apply List.mem_append_left
  rw [if_pos (emitted_of_raw reg none rg p hty)]
  exact List.mem_singleton.mpr rfl

theorem regionNameAndTypeDef_inv (reg : Registry) (rg : Region) (b : String) (btd : TypeDefn)
    (hr : regionNameAndTypeDef reg rg = .ok (some (b, btd))) :
    ∃ p, rg.name = some b ∧ rg.ty = .data (.raw p) ∧ typeDefn? reg p = some btd := by
  obtain ⟨name, p, item, hname, hty, hg, ⟨hx, _⟩ | ⟨res, td, hres, hin, hx⟩⟩ := regionNameAndTypeDef_ok hr
  · cases hx
  · cases hx
    exact ⟨p, hname, hty, typeDefn?_of_get reg p item res _ hg (C02.resolved?_eq hres) hin⟩

theorem baseVftable_some_inv (reg : Registry) (fb : Option Region) (bn : String) (bv : Vft)
    (h : baseVftable reg fb = .ok (some (bn, bv))) :
    ∃ rg p btd, fb = some rg ∧ rg.name = some bn ∧ rg.ty = .data (.raw p) ∧ typeDefn? reg p = some btd ∧
      btd.vft = some bv := by
  cases fb with
  | none => cases h
  | some b =>
    simp only [baseVftable] at h
    split at h
    · next nm td hr =>
      obtain ⟨v, hv, hx⟩ := Option.map_eq_some_iff.mp (Res.ok.inj h)
      cases hx
      obtain ⟨p, hname, hty, htd⟩ := regionNameAndTypeDef_inv reg b _ td hr
      exact ⟨b, p, td, rfl, hname, hty, htd, hv⟩
    · cases h
    · exact absurd h (Res.cast_ne_ok _ _)

theorem fieldTypePath_of_find (td : TypeDefn) (b : String) (rg : Region) (bp : Path)
    (hfind : td.regions.find? (fun r => r.name == some b) = some rg) (hrty : rg.ty = .data (.raw bp)) :
    fieldTypePath td b = some bp := by
  unfold fieldTypePath
  simp only [hfind, hrty]

/-- an accepted `vftable::build` for a type with a vftable block: the generated struct is in the registry
    under its path, and the type's table is the block's with that struct as accessor return type -/
theorem buildVftable_some_inv (s s1 : State) (owner : Path) (vis : Vis) (fb : Option Region) (fns : List SFunc)
    (v : Option Vft) (ptr : Option Region)
    (h : buildVftable s owner vis fb (some fns) = (s1, .ok (v, ptr))) :
    (vftablePath owner = none ∧ v = none ∧ ptr = none ∧ s1 = s) ∨
    ∃ item, buildVftableItem s.reg owner vis fns = some item ∧ s1.reg.get item.path = some item ∧
      C02.Ext s.reg s1.reg ∧
      ∃ bf, v = some { fns := fns, baseField := bf, ty := .cptr (.raw item.path) } := by
  rcases buildVftable_ok h with ⟨hn, _⟩ | ⟨_, _, hp, hs, hptr, hv⟩ | ⟨fns', item, hf, hi, _, ha, hck⟩
  · cases hn
  · exact .inl ⟨hp, hv, hptr, hs⟩
  · cases hf
    have hreach := C02.buildVftable_reach2 s owner vis fb (some fns)
    rw [h] at hreach
    refine .inr ⟨item, hi, ?_, hreach.ext, ?_⟩
    · rw [C14.addItem_reg s s1 item ha]
      exact C02.get_add_same _ _
    · rcases hck with ⟨_, _, hv⟩ | ⟨bn, _, _, _, _, hv⟩
      · exact ⟨none, hv⟩
      · exact ⟨some bn, hv⟩

theorem buildVftable_none_state (s s1 : State) (owner : Path) (vis : Vis) (fb : Option Region)
    (x : Res (Option Vft × Option Region)) (h : buildVftable s owner vis fb none = (s1, x)) : s1 = s := by
  unfold buildVftable at h
  simp only [Prod.mk.injEq] at h
  exact h.1.symm

theorem primsOk_ext {r r' : Registry} (he : C02.Ext r r') (h : C02.PrimsOk r) : C02.PrimsOk r' :=
  fun nm hnm => he.res' (h nm hnm) (C02.predefItem_resolved nm)

/-- naming keeps base regions as they are: a region of the emitted struct that is marked `#[base]` is the
    source region placed at the same position -/
theorem nameRegions_base (reg : Registry) (off : Nat) (placed : List (Placed Region)) (regions : List Region)
    (h : nameRegions reg off placed = .ok regions) (k : Nat) (rg : Region) (hk : regions[k]? = some rg)
    (hb : rg.isBase = true) : ∃ pl, placed[k]? = some pl ∧ pl.src = some rg := by
  obtain ⟨hlen, hnamed⟩ := nameRegions_ok h
  obtain ⟨hkr, rfl⟩ := List.getElem?_eq_some_iff.mp hk
  obtain ⟨r, o, hsrc, hr⟩ := hnamed k (hlen ▸ hkr) hkr
  rw [hr] at hb ⊢
  -- renaming clears the mark, so a base kept its name and is the region it stands for; padding is never marked
  have hren : C17.renamed o r = r := by
    unfold C17.renamed at hb ⊢
    cases hn : r.name with
    | none => simp [hn] at hb
    | some n => rfl
  rw [hren] at hb ⊢
  rcases hsrc with hsrc | ⟨_, _, _, rfl⟩
  · exact ⟨placed[k], List.getElem?_eq_getElem _, hsrc⟩
  · cases hb

theorem rust_offsets_length (packed : Bool) (o : Nat) (fs : List RustSem.Fld) :
    (RustSem.offsets packed o fs).length = fs.length := by
  induction fs generalizing o with
  | nil => rfl
  | cons f fs ih => simp [RustSem.offsets, ih]

/-- a `#[base]` region of an accepted type has a declared offset, and that is where the modelled compiler
    puts the field -/
theorem base_region_declared (reg : Registry)
    (vptr : Option Region) (pending : List (Option Nat × Region)) (target align? : Option Nat)
    (placed : List (Placed Region)) (size a : Nat) (td : TypeDefn)
    (h : resolve (vptr.map (toPField reg none)) (pending.map fun p => toPField reg p.1 p.2) target = .ok (placed, size))
    (ha : alignCheck reg.ps td.packed align? placed size = .ok a)
    (hn : nameRegions reg 0 placed = .ok td.regions)
    (rg : Region) (hrg : rg ∈ td.regions) (hb : rg.isBase = true) :
    ∃ o, (o, rg) ∈ declaredOffsets (vptr.map (toPField reg none)) (pending.map fun p => toPField reg p.1 p.2) := by
  obtain ⟨k, hk⟩ := List.mem_iff_getElem?.mp hrg
  obtain ⟨pl, hpl, hsrc⟩ := nameRegions_base reg 0 placed td.regions hn k rg hk hb
  rw [← offsets_exact reg.ps td.packed align? _ _ target placed size a h ha]
  have hko : k < (RustSem.offsets td.packed 0 (placed.map C01.toFld)).length := by
    rw [rust_offsets_length, List.length_map]; exact (List.getElem?_eq_some_iff.mp hpl).1
  exact ⟨_, (mem_zip_src _ _ _ rg).mpr ⟨k, pl, List.getElem?_eq_getElem hko, hpl, hsrc⟩⟩

/-- the accessor of a type whose pointer is supplied by its first base (with or without a vftable block of its
    own): the base's accessor on the base sub-object, at the offset C01 assigns to the base field -/
theorem accessor_through_base (reg0 : Registry) (hprims : C02.PrimsOk reg0) (fb : Option Region) (bn : String) (bv : Vft)
    (hbv : baseVftable reg0 fb = .ok (some (bn, bv)))
    (pending : List (Option Nat × Region)) (hfb : fb = (pending.map (·.2)).find? (·.isBase))
    (target align? : Option Nat) (placed : List (Placed Region)) (size a : Nat) (td : TypeDefn)
    (hres : resolve ((none : Option Region).map (toPField reg0 none)) (pending.map fun p => toPField reg0 p.1 p.2) target
      = .ok (placed, size))
    (hal : alignCheck reg0.ps td.packed align? placed size = .ok a)
    (hn : nameRegions reg0 0 placed = .ok td.regions) (hdf : DistinctFields td)
    (v : Vft) (hvft : td.vft = some v) (hbf : v.baseField = some bn)
    (reg : Registry) (he : C02.Ext reg0 reg) (ty : Path) (hty : typeDefn? reg ty = some td) :
    ∃ rg bp btd o,
      fb = some rg ∧ rg.name = some bn ∧ rg.ty = .data (.raw bp) ∧
      typeDefn? reg bp = some btd ∧ btd.vft = some bv ∧
      (o, rg) ∈ declaredOffsets none (pending.map fun p => toPField reg0 p.1 p.2) ∧
      fieldOffset reg td bn = some o ∧
      ∀ (mem : Mem) (fuel self : Nat),
        execVftable reg mem (fuel + 1) ty self = execVftable reg mem fuel bp (self + o) := by
  obtain ⟨rg, bp, btd, hfb', hname, hrty, hbtd, hbvft⟩ := baseVftable_some_inv reg0 fb bn bv hbv
  have hmem : rg ∈ pending.map (·.2) := by
    rw [hfb'] at hfb
    exact List.mem_of_find?_eq_some hfb.symm
  obtain ⟨o, ho⟩ := declared_of_pending (reg := reg0) none pending rg bp hmem hrty
  obtain ⟨hoff, hfind⟩ := fieldOffset_declared reg0 hprims none pending target align? placed size a td hres hal hn
    hdf o rg bn hname ho
  have hbp : fieldTypePath td bn = some bp := fieldTypePath_of_find td bn rg bp hfind hrty
  have hoff' := fieldOffset_mono he td bn o hoff
  exact ⟨rg, bp, btd, o, hfb', hname, hrty, typeDefn?_mono he bp btd hbtd, hbvft, ho, hoff',
    fun mem fuel self => execVftable_base reg mem fuel ty self td _ bn bp o hty hvft hbf hbp hoff'⟩

/-- **storing the result**: when the attempt on an unresolved type succeeds, the registry after the attempt holds the
    built definition under the type's path and extends the registry the type was built in -/
theorem attempt_registers (s s1 : State) (p : Path) (i : ItemDef) (d : G.Item) (gtd : G.TypeDef) (r : Resolved)
    (td : TypeDefn) (hg : s.reg.get p = some i) (hu : i.state = .unres d) (hd : d.inner = .type gtd)
    (hb : buildType s p d.vis gtd = (s1, .ok r)) (hin : r.inner = .type td) :
    (attemptItem s p).1.reg = s1.reg.setState p (.res r) ∧
    typeDefn? (attemptItem s p).1.reg p = some td ∧
    C02.Ext s1.reg (attemptItem s p).1.reg ∧ C02.Ext s.reg s1.reg := by
  have hreach := C02.buildType_reach2 s p d.vis gtd
  rw [hb] at hreach
  simp only [] at hreach
  have hg1 := hreach.get hg
  have hreg : (attemptItem s p).1.reg = s1.reg.setState p (.res r) := by
    rw [attemptItem_of_unres hg hu, C20.attemptDef_type s p hd, hb]
    rfl
  refine ⟨hreg, ?_, ?_, hreach.ext⟩
  · rw [hreg]
    unfold typeDefn?
    rw [C12.get_setState, if_pos rfl, hg1]
    simp only [Option.map_some, ItemDef.resolved?, hin]
  · rw [hreg]
    exact C02.setState_ext s1.reg p r i d hg1 hu

/-! ### recorded layouts are the recursively compiled ones -/

section Compiled
open C02

theorem tyLayout_compiled (reg : Registry) (hit : ItemsSound reg) (t : DTy) (x : Nat × Nat)
    (h : tyLayout reg.ps (regLayout reg) t = some x) : Lay reg (.ty t) x.1 x.2 ∨ Tainted reg (.ty t) := by
  induction t generalizing x with
  | raw p =>
    simp only [tyLayout, regLayout, Option.bind_eq_some_iff, Option.map_eq_some_iff] at h
    obtain ⟨i, hg, r, hr, rfl⟩ := h
    rcases hit p i r hg (resolved?_eq hr) with h | h
    · exact Or.inl (Lay.raw p _ _ h)
    · exact Or.inr (Tainted.raw p h)
  | cptr t _ =>
    simp only [tyLayout, Option.some.injEq] at h
    subst h
    exact Or.inl (Lay.cptr t)
  | mptr t _ =>
    simp only [tyLayout, Option.some.injEq] at h
    subst h
    exact Or.inl (Lay.mptr t)
  | arr t n ih =>
    simp only [tyLayout, Option.map_eq_some_iff] at h
    obtain ⟨y, hx, rfl⟩ := h
    rcases ih y hx with h | h
    · exact Or.inl (Lay.arr t n y.1 y.2 h)
    · exact Or.inr (Tainted.arr t n h)

/-- the layout the semantics takes for a field's type is the one the modelled compiler computes *recursively* from the
    emitted definitions (`C02.Lay`), unless the type contains `void` by value -/
theorem fldOf_compiled (reg : Registry) (hit : ItemsSound reg) (rg : Region) (f : RustSem.Fld)
    (h : fldOf reg rg = some f) : Lay reg (.rty rg.ty) f.size f.align ∨ Tainted reg (.rty rg.ty) := by
  unfold fldOf at h
  obtain ⟨y, hx, rfl⟩ := Option.map_eq_some_iff.mp h
  cases hty : rg.ty with
  | data t =>
    rw [hty] at hx
    rcases tyLayout_compiled reg hit t y hx with h | h
    · exact Or.inl (Lay.data t _ _ h)
    · exact Or.inr (Tainted.data t h)
  | fn cc args ret =>
    rw [hty] at hx
    simp only [rtyLayout, Option.some.injEq] at hx
    subst hx
    exact Or.inl (Lay.fn cc args ret)

end Compiled

end PyxisVerif.Exec
