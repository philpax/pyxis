import PyxisVerif.Spec.C02
import PyxisVerif.Spec.C08
import PyxisVerif.Lemmas.C01
import PyxisVerif.Lemmas.Stages
namespace PyxisVerif

theorem ItemDef.resolved?_of_res {i : ItemDef} {r : Resolved} (h : i.state = .res r) : i.resolved? = some r := by
  simp only [ItemDef.resolved?, h]

theorem ItemDef.resolved?_of_unres {i : ItemDef} {d : G.Item} (h : i.state = .unres d) : i.resolved? = none := by
  simp only [ItemDef.resolved?, h]

theorem ItemDef.isResolved_of_unres {i : ItemDef} {d : G.Item} (h : i.state = .unres d) : i.isResolved = false := by
  simp only [ItemDef.isResolved, ItemDef.resolved?_of_unres h, Option.isSome_none]

theorem DTy.align_raw {r : Registry} {p : Path} {i : ItemDef} {res : Resolved} (hg : r.get p = some i)
    (hs : i.state = .res res) : (DTy.raw p).align r = some res.align := by
  simp only [DTy.align, hg, Option.bind_some, ItemDef.resolved?_of_res hs, Option.map_some]

theorem DTy.size_induct {r : Registry} {P : DTy → Nat → Prop}
    (raw : ∀ p i res, r.get p = some i → i.state = .res res → P (.raw p) res.size)
    (cptr : ∀ t, P (.cptr t) r.ps) (mptr : ∀ t, P (.mptr t) r.ps)
    (arr : ∀ t n s, t.size r = .ok (some s) → s * n ≤ usizeMax → P t s → P (.arr t n) (s * n))
    {t : DTy} {s : Nat} (h : t.size r = .ok (some s)) : P t s := by
  induction t generalizing s with
  | raw p =>
    simp only [DTy.size, Res.ok.injEq] at h
    cases hg : r.get p with
    | none => simp [hg] at h
    | some i =>
      cases hst : i.state with
      | unres d => simp [hg, ItemDef.resolved?_of_unres hst] at h
      | res res =>
        simp only [hg, Option.bind_some, ItemDef.resolved?_of_res hst, Option.map_some, Option.some.injEq] at h
        subst h
        exact raw p i res hg hst
  | cptr t _ => simp only [DTy.size, Res.ok.injEq, Option.some.injEq] at h; subst h; exact cptr t
  | mptr t _ => simp only [DTy.size, Res.ok.injEq, Option.some.injEq] at h; subst h; exact mptr t
  | arr t n ih =>
    unfold DTy.size at h
    split at h
    · next s' hs' =>
      split at h
      · next hle => cases h; exact arr t n s' hs' hle (ih hs')
      · cases h
    · next hne => exact absurd h (hne s)

/-- `Type::size` answers `Ok`: an unknown size is `Ok(None)` -/
theorem DTy.size_ok (r : Registry) (t : DTy) : ∃ o, t.size r = .ok o := by
  induction t with
  | raw p => exact ⟨_, rfl⟩
  | cptr t _ => exact ⟨_, rfl⟩
  | mptr t _ => exact ⟨_, rfl⟩
  | arr t n ih =>
    obtain ⟨o, ho⟩ := ih
    unfold DTy.size
    rw [ho]
    cases o with
    | none => exact ⟨_, rfl⟩
    | some s => simp only []; split <;> exact ⟨_, rfl⟩

theorem RTy.size_ok (r : Registry) (t : RTy) : ∃ o, t.size r = .ok o := by
  cases t with
  | data t => exact DTy.size_ok r t
  | fn cc args ret => exact ⟨_, rfl⟩

namespace C02
open Layout Gen

theorem isResolved_of_res {i : ItemDef} {r : Resolved} (h : i.state = .res r) : i.isResolved = true := by
  simp only [ItemDef.isResolved, ItemDef.resolved?_of_res h, Option.isSome_some]

theorem resolved?_eq {i : ItemDef} {r : Resolved} (h : i.resolved? = some r) : i.state = .res r := by
  unfold ItemDef.resolved? at h
  split at h
  · next r' hr => cases h; exact hr
  · cases h

theorem struct_sound_lem {β} (ps : Nat) (packed : Bool) (align? : Option Nat)
    (vptr : Option (PField β)) (fields : List (PField β)) (target : Option Nat)
    (placed : List (Placed β)) (size a : Nat)
    (h : resolve vptr fields target = .ok (placed, size))
    (ha : alignCheck ps packed align? placed size = .ok a) :
    RustSem.structSize packed (if packed then none else some a) (placed.map C01.toFld) = size
    ∧ RustSem.structAlign packed (if packed then none else some a) (placed.map C01.toFld) = a
    ∧ (∀ n, target = some n → size = n)
    ∧ (∀ n, align? = some n → a = n)
    ∧ (packed = true → a = 1) := by
  have hsz := (C01.resolve_spec vptr fields target placed size h).2
  obtain ⟨_, r2, r3⟩ := C01.rustc_offsets_lem ps packed align? placed size a hsz ha
  obtain ⟨_, _, _, _, _, _, _, _, htgt⟩ := C01.resolve_inv vptr fields target placed size h
  refine ⟨r2, r3, htgt, ?_, ?_⟩
  · intro n hn
    subst hn
    cases packed with
    | true =>
      have := (C01.alignCheck_packed_inv ps _ placed size a ha).2
      cases this
    | false =>
      have := (C01.alignCheck_unpacked_inv ps _ placed size a ha).1
      rw [this]; rfl
  · intro hp
    subst hp
    exact (C01.alignCheck_packed_inv ps _ placed size a ha).1

/-- a successful `push` leaves the accumulator alone (a zero-length array) or appends the region, the new end
    being a `usize` -/
theorem push_ok_cases {β} {st st' : St β} {sz : Res (Option Nat)} {al : Option Nat} {arr : Bool} {src : Option β}
    (h : push st sz al arr src = .ok st') :
    ∃ s, sz = .ok (some s) ∧ (st' = st ∨ (st.2 + s ≤ usizeMax ∧ st' = (st.1 ++ [⟨s, al, src⟩], st.2 + s))) := by
  unfold push at h
  split at h
  · cases h
  · next s =>
    refine ⟨s, rfl, ?_⟩
    split at h
    · cases h; exact .inl rfl
    · split at h
      · next hle => cases h; exact .inr ⟨hle, rfl⟩
      · cases h
  all_goals cases h

theorem place_induct {β} {I : St β → Prop} (pad : ∀ st st' n, I st → pushPad st n = .ok st' → I st')
    {fs : List (PField β)} (fld : ∀ st st' f, f ∈ fs → I st → pushField st f = .ok st' → I st')
    {st st' : St β} (h0 : I st) (h : place st fs = .ok st') : I st' := by
  induction fs generalizing st with
  | nil => simp only [place] at h; cases h; exact h0
  | cons f fs ih =>
    have hfs : ∀ st st' g, g ∈ fs → I st → pushField st g = .ok st' → I st' :=
      fun st st' g hg => fld st st' g (List.mem_cons_of_mem f hg)
    rcases C01.place_cons_inv st st' f fs h with ⟨_, st2, h2, h3⟩ | ⟨a, _, _, st1, st2, h1, h2, h3⟩
    · exact ih hfs (fld st st2 f List.mem_cons_self h0 h2) h3
    · exact ih hfs (fld st1 st2 f List.mem_cons_self (pad st st1 _ h0 h1) h2) h3

theorem resolve_induct {β} {I : St β → Prop} {vptr : Option (PField β)} {fields : List (PField β)}
    {target : Option Nat} {placed : List (Placed β)} {size : Nat} (h0 : I ([], 0))
    (pad : ∀ st n, I st → st.2 + n ≤ usizeMax → I (st.1 ++ [⟨n, some 1, none⟩], st.2 + n))
    (fld : ∀ st f s, vptr = some f ∨ f ∈ fields → f.size = .ok (some s) → I st → st.2 + s ≤ usizeMax →
      I (st.1 ++ [⟨s, f.align, some f.val⟩], st.2 + s))
    (h : resolve vptr fields target = .ok (placed, size)) : ∃ n, I (placed, n) := by
  have hpad : ∀ st st' n, I st → pushPad st n = .ok st' → I st' := by
    intro st st' n hi hp
    obtain ⟨s, hs, rfl | ⟨hle, rfl⟩⟩ := push_ok_cases hp
    · exact hi
    · cases hs; exact pad st n hi hle
  have hfld : ∀ st st' f, vptr = some f ∨ f ∈ fields → I st → pushField st f = .ok st' → I st' := by
    intro st st' f hf hi hp
    obtain ⟨s, hs, rfl | ⟨hle, rfl⟩⟩ := push_ok_cases hp
    · exact hi
    · exact fld st f s hf hs hi hle
  obtain ⟨st0, st1, st2, e0, e1, e2, rfl, _, _⟩ := C01.resolve_inv vptr fields target placed size h
  have i0 : I st0 := by
    cases vptr with
    | none => cases e0; exact h0
    | some v => exact hfld _ _ v (.inl rfl) h0 e0
  have i1 : I st1 := place_induct hpad (fun st st' f hf => hfld st st' f (.inr hf)) i0 e1
  refine ⟨st2.2, ?_⟩
  unfold padTail at e2
  split at e2
  · split at e2
    · exact hpad _ _ _ i1 e2
    · cases e2; exact i1
  · cases e2; exact i1

theorem resolve_all {β} (P : Placed β → Prop) (hpad : ∀ n, P ⟨n, some 1, none⟩)
    (vptr : Option (PField β)) (fields : List (PField β)) (target : Option Nat)
    (placed : List (Placed β)) (size : Nat) (h : resolve vptr fields target = .ok (placed, size))
    (hv : ∀ v, vptr = some v → ∀ s, v.size = .ok (some s) → P ⟨s, v.align, some v.val⟩)
    (hf : ∀ f ∈ fields, ∀ s, f.size = .ok (some s) → P ⟨s, f.align, some f.val⟩) :
    ∀ pl ∈ placed, P pl := by
  have hsnoc : ∀ (st : St β) x, (∀ pl ∈ st.1, P pl) → P x → ∀ pl ∈ st.1 ++ [x], P pl := by
    intro st x hi hx pl hpl
    rcases List.mem_append.mp hpl with hpl | hpl
    · exact hi pl hpl
    · rw [List.mem_singleton.mp hpl]; exact hx
  obtain ⟨_, hI⟩ := resolve_induct (I := fun st => ∀ pl ∈ st.1, P pl) (fun _ hpl => by cases hpl)
    (fun st n hi _ => hsnoc st _ hi (hpad n))
    (fun st f s hmem hs hi _ => hsnoc st _ hi (hmem.elim (fun e => hv f e s hs) (fun e => hf f e s hs))) h
  exact hI

def AllSrc {β} (R : β → Nat → Option Nat → Prop) (rs : List (Placed β)) : Prop :=
  ∀ pl ∈ rs, ∀ v, pl.src = some v → R v pl.size pl.align

def FieldOK {β} (R : β → Nat → Option Nat → Prop) (f : PField β) : Prop :=
  ∀ s, f.size = .ok (some s) → R f.val s f.align

theorem resolve_allSrc {β} (R : β → Nat → Option Nat → Prop) (vptr : Option (PField β))
    (fields : List (PField β)) (target : Option Nat) (placed : List (Placed β)) (size : Nat)
    (h : resolve vptr fields target = .ok (placed, size))
    (hv : ∀ v, vptr = some v → FieldOK R v) (hf : ∀ f ∈ fields, FieldOK R f) : AllSrc R placed :=
  resolve_all (fun pl => ∀ v, pl.src = some v → R v pl.size pl.align) (fun _ _ hv => by cases hv) _ _ _ _ _ h
    (fun v e s hs _ hv' => by cases hv'; exact hv v e s hs) (fun f e s hs _ hv' => by cases hv'; exact hf f e s hs)

theorem placed_layouts_lem (reg : Registry) (vptr : Option Region) (pending : List (Option Nat × Region))
    (target : Option Nat) (placed : List (Placed Region)) (size : Nat)
    (h : resolve (vptr.map (toPField reg none)) (pending.map fun p => toPField reg p.1 p.2) target = .ok (placed, size)) :
    ∀ pl ∈ placed, ∀ r, pl.src = some r → r.ty.size reg = .ok (some pl.size) ∧ r.ty.align reg = pl.align := by
  refine resolve_allSrc (fun r s al => r.ty.size reg = .ok (some s) ∧ r.ty.align reg = al) _ _ _ _ _ h ?_ ?_
  · intro v hv s hs
    cases vptr with
    | none => cases hv
    | some r =>
      simp only [Option.map_some, Option.some.injEq] at hv
      subst hv
      exact ⟨hs, rfl⟩
  · intro f hf s hs
    obtain ⟨p, _, rfl⟩ := List.mem_map.mp hf
    exact ⟨hs, rfl⟩

theorem endOf_replicate (ps n o : Nat) (hps : 0 < ps) (ho : o % ps = 0) :
    RustSem.endOf false o (List.replicate n ⟨ps, ps⟩) = o + n * ps := by
  induction n generalizing o with
  | zero => simp [RustSem.endOf]
  | succ n ih =>
    simp only [List.replicate_succ, RustSem.endOf, Bool.false_eq_true, if_false]
    rw [C01.alignUp_of_dvd o ps (by omega) ho, ih (o + ps) (by simp [ho])]
    rw [Nat.add_mul]; omega

theorem maxAlign_replicate (ps n : Nat) (hps : 0 < ps) :
    RustSem.maxAlign (List.replicate n ⟨ps, ps⟩) ≤ ps := by
  unfold RustSem.maxAlign
  apply C01.foldl_max_le _ _ _ hps
  intro f hf
  rw [(List.mem_replicate.mp hf).2]
  exact Nat.le_refl _

theorem vftable_sound_lem (ps n : Nat) (hps : 0 < ps) :
    RustSem.structSize false (some ps) (List.replicate n ⟨ps, ps⟩) = n * ps
    ∧ RustSem.structAlign false (some ps) (List.replicate n ⟨ps, ps⟩) = ps := by
  have hsa : RustSem.structAlign false (some ps) (List.replicate n ⟨ps, ps⟩) = ps := by
    have := maxAlign_replicate ps n hps
    simp only [RustSem.structAlign, Bool.false_eq_true, if_false, Option.getD_some]
    omega
  refine ⟨?_, hsa⟩
  unfold RustSem.structSize
  rw [hsa, endOf_replicate ps n 0 hps (by simp), Nat.zero_add]
  exact C01.alignUp_of_dvd _ ps (by omega) (by simp)

theorem get_add_same (r : Registry) (i : ItemDef) : (r.add i).get i.path = some i := by
  rw [C14.get_add, if_pos rfl]

theorem newStep_spec (s : State) (nm : String × Nat) (hm : (s.getModule []).isSome = true) :
    ((newStep s nm).getModule []).isSome = true ∧ (newStep s nm).reg = s.reg.add (predefItem nm) := by
  obtain ⟨m, hm'⟩ := Option.isSome_iff_exists.mp hm
  have hp : Path.parent? (predefItem nm).path = some [] := by
    simp [predefItem, Path.parent?]
  unfold newStep State.addItem
  simp only [hp, hm', and_true]
  unfold State.getModule at hm' ⊢
  simp only [C14.lookup_map_replace, hm', BEq.rfl, if_true, Option.map_some, Option.isSome_some]

theorem new_induct {P : Registry → Prop} {ps : Nat} (h0 : P { ps := ps })
    (add : ∀ r nm, nm ∈ predefinedTypes → P r → P (r.add (predefItem nm))) : P (State.new ps).reg :=
  State.new_induct (P := fun s => P s.reg) h0
    (fun s s' nm hnm hs ha => by rw [C14.addItem_reg s s' _ ha]; exact add _ nm hnm hs)

theorem fold_get_ne (l : List (String × Nat)) (s : State) (hm : (s.getModule []).isSome = true)
    (n : String) (hn : ∀ nm ∈ l, nm.1 ≠ n) :
    (l.foldl newStep s).reg.get [n] = s.reg.get [n] := by
  induction l generalizing s with
  | nil => rfl
  | cons x l ih =>
    obtain ⟨h1, h2⟩ := newStep_spec s x hm
    simp only [List.foldl_cons]
    rw [ih (newStep s x) h1 (fun nm hnm => hn nm (by simp [hnm])), h2, C14.get_add, if_neg]
    have := hn x (by simp)
    simp only [predefItem, List.cons.injEq, and_true]
    exact fun h => this h.symm

theorem fold_get (l : List (String × Nat)) (s : State) (hm : (s.getModule []).isSome = true)
    (nm : String × Nat) (hmem : nm ∈ l) (hnd : (l.map (·.1)).Nodup) :
    (l.foldl newStep s).reg.get [nm.1] = some (predefItem nm) := by
  induction l generalizing s with
  | nil => cases hmem
  | cons x l ih =>
    obtain ⟨h1, h2⟩ := newStep_spec s x hm
    simp only [List.map_cons, List.nodup_cons] at hnd
    simp only [List.foldl_cons]
    rcases List.mem_cons.mp hmem with rfl | hmem
    · rw [fold_get_ne l _ h1 nm.1 ?_, h2]
      · exact get_add_same s.reg (predefItem nm)
      · intro y hy hc
        exact hnd.1 (List.mem_map.mpr ⟨y, hy, hc⟩)
    · exact ih (newStep s x) h1 hmem hnd.2

theorem new_get (ps : Nat) (nm : String × Nat) (hmem : nm ∈ predefinedTypes) :
    (State.new ps).reg.get [nm.1] = some (predefItem nm) := by
  rw [new_eq]
  exact fold_get predefinedTypes _ rfl nm hmem (by decide)

theorem new_get_inv (ps : Nat) (p : Path) (i : ItemDef) (h : (State.new ps).reg.get p = some i) :
    ∃ nm ∈ predefinedTypes, p = [nm.1] ∧ i = predefItem nm := by
  refine new_induct (P := fun r => ∀ p i, r.get p = some i → ∃ nm ∈ predefinedTypes, p = [nm.1] ∧ i = predefItem nm)
    (fun p i h => by cases h) ?_ p i h
  intro r nm hnm hr p i hi
  rcases Registry.get_add_some hi with ⟨hp, rfl⟩ | ⟨_, hi⟩
  · exact ⟨nm, hnm, hp, rfl⟩
  · exact hr p i hi

theorem intTypeRange_inv (ty : DTy) (r : Int × Int) (h : intTypeRange ty = some r) :
    ∃ name, ty = .raw [name] ∧ name ∈ C08.intTypes.map (·.1) := by
  unfold intTypeRange at h
  split at h
  · rename_i name
    refine ⟨name, rfl, ?_⟩
    apply Decidable.byContradiction
    intro hn
    simp only [C08.intTypes, List.map_cons, List.map_nil, List.mem_cons, List.not_mem_nil, or_false,
      not_or] at hn
    simp [hn] at h
  · cases h

theorem int_layout : ∀ name ∈ C08.intTypes.map (·.1),
    ∃ nm ∈ predefinedTypes, nm.1 = name ∧ (name, nm.2, predefinedAlign nm.2) ∈ primLayout := by
  decide

theorem buildEnum_inv (s : State) (p : Path) (d : G.EnumDef) (r : Resolved)
    (h : buildEnum s p d = .ok r) :
    ∃ ed range, r.inner = .enum ed ∧ ed.ty.size s.reg = .ok (some r.size) ∧
      intTypeRange ed.ty = some range ∧ ed.ty.align s.reg = some r.align :=
  let ⟨ed, _, range, _, _, hin, E⟩ := CaseLift.buildEnum_ok_inv h
  ⟨ed, range, hin, E.size, E.range, E.align⟩

theorem enum_sound_lem (s : State) (p : Path) (d : G.EnumDef) (r : Resolved)
    (hreg : ∀ e ∈ C08.intTypes, s.reg.get [e.1] = (State.new s.reg.ps).reg.get [e.1])
    (h : buildEnum s p d = .ok r) :
    ∃ ed name, r.inner = .enum ed ∧ ed.ty = .raw [name] ∧ (name, r.size, r.align) ∈ primLayout := by
  obtain ⟨ed, range, hin, hsize, hrange, hal⟩ := buildEnum_inv s p d r h
  obtain ⟨name, hty, hname⟩ := intTypeRange_inv ed.ty range hrange
  obtain ⟨nm, hpre, rfl, hprim⟩ := int_layout name hname
  obtain ⟨e, he, hen⟩ := List.mem_map.mp hname
  have hget : s.reg.get [nm.1] = some (predefItem nm) := by
    rw [← hen, hreg e he, hen]
    exact new_get s.reg.ps nm hpre
  refine ⟨ed, nm.1, hin, hty, ?_⟩
  rw [hty] at hsize hal
  simp only [DTy.size, DTy.align, hget, Option.bind_some, ItemDef.resolved?, predefItem,
    Option.map_some, Res.ok.injEq, Option.some.injEq] at hsize hal
  rw [← hsize, ← hal]
  exact hprim

end C02
end PyxisVerif
