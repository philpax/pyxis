import PyxisVerif.Lemmas.LexRender
/-!
# C18 – lexing a text rendered with arbitrary trivia (`Print.render`)

`Runs cs st toks cs' st'`: from text `cs` in lexer state `st` the lexer produces `toks` and goes on with `cs'` in `st'`,
whatever fuel above the length of the text it is given; so the steps compose without counting fuel.  Each token of the
list runs to its spelling's end (`lexLeaf_*`, the follower does not continue it: `head_facts`), each gap is skipped
(`gapText_eq`: a gap is white space and comments, empty only where two tokens do not glue), and `runs_renderK` composes
token, gap and rest; the canonical text is the default lay-out.
-/
namespace PyxisVerif
namespace C18
open Lex (K Delim Tok Pos)
open Print (digitsLE digitChar Base Piece Trivia)

theorem untilNl_line (t : List Char) (h : '\n' ∉ t) (rest : List Char) :
    (Lex.untilNl (t ++ '\n' :: rest)).2 = '\n' :: rest := by
  induction t with
  | nil => rfl
  | cons c t ih =>
    have hc := List.ne_of_not_mem_cons h
    have ht := List.not_mem_of_not_mem_cons h
    cases t with
    | nil =>
      by_cases hr : c = '\r'
      · subst hr; rfl
      · rw [List.cons_append, Lex.untilNl.eq_4 c _ (Ne.symm hc) (fun _ e _ => hr e)]; rfl
    | cons x xs =>
      rw [List.cons_append, Lex.untilNl.eq_4 c (x :: xs ++ '\n' :: rest) (Ne.symm hc)
        (fun _ _ e => List.ne_of_not_mem_cons ht (List.cons.inj e).1.symm)]
      exact ih ht

theorem blockEnd_append (xs : List Char) : ∀ (d : Nat) (ys rest : List Char),
    Lex.blockEnd d xs = some ys → Lex.blockEnd d (xs ++ rest) = some (ys ++ rest) := by
  intro d ys rest h
  fun_induction Lex.blockEnd d xs with
  | case1 d => cases h
  | case2 d r ih => simpa [Lex.blockEnd] using ih h
  | case3 r => cases h; simp [Lex.blockEnd]
  | case4 d r ih => simpa [Lex.blockEnd] using ih h
  | case5 d c r h1 h2 h3 ih =>
    cases r with
    | nil => simp [Lex.blockEnd] at h
    | cons x r' =>
      -- which equation applies is decided by `c` and `x`; appending `rest` does not change them
      rw [List.cons_append, List.cons_append, Lex.blockEnd.eq_5 _ _ _
        (fun _ e1 e2 => h1 r' e1 (by rw [(List.cons.inj e2).1]))
        (fun _ e0 e1 e2 => h2 r' e0 e1 (by rw [(List.cons.inj e2).1]))
        (fun d' _ e0 e1 e2 => h3 d' r' e0 e1 (by rw [(List.cons.inj e2).1]))]
      exact ih h

/-! `lexL` starts `lexCore` with more fuel than there are characters, and every iteration consumes
at least one character.  "The fuel exceeds the remaining text" is therefore the invariant, and
no step has to be counted. -/

/-- from the text `cs` and the open delimiters `st` the lexer gets to `cs'` and `st'`, and emits
    `toks` on the way -/
def Runs (cs : List Char) (st : List (Delim × Lex.Mark)) (toks : List (K × Lex.Mark))
    (cs' : List Char) (st' : List (Delim × Lex.Mark)) : Prop :=
  ∀ f, cs.length < f → ∃ f', cs'.length < f' ∧
    Lex.lexCore f cs st = (Lex.lexCore f' cs' st').map (toks ++ ·)

theorem Runs.refl (cs : List Char) (st : List (Delim × Lex.Mark)) : Runs cs st [] cs st :=
  fun f hf => ⟨f, hf, map_nil_append _⟩

theorem Runs.trans {a b c : List Char} {st st₁ st₂ : List (Delim × Lex.Mark)}
    {t₁ t₂ : List (K × Lex.Mark)} (h₁ : Runs a st t₁ b st₁) (h₂ : Runs b st₁ t₂ c st₂) :
    Runs a st (t₁ ++ t₂) c st₂ := by
  intro f hf
  obtain ⟨f₁, hf₁, e₁⟩ := h₁ f hf
  obtain ⟨f₂, hf₂, e₂⟩ := h₂ f₁ hf₁
  refine ⟨f₂, hf₂, ?_⟩
  rw [e₁, e₂]
  cases Lex.lexCore f₂ c st₂ <;> simp [Except.map]

theorem Runs.step {c : Char} {r cs' : List Char} {st st' : List (Delim × Lex.Mark)}
    {toks : List (K × Lex.Mark)} (hl : cs'.length ≤ r.length)
    (h : ∀ f, Lex.lexCore (f + 1) (c :: r) st = (Lex.lexCore f cs' st').map (toks ++ ·)) :
    Runs (c :: r) st toks cs' st' := by
  intro f hf
  obtain ⟨f, rfl⟩ := Nat.exists_eq_succ_of_ne_zero (by omega : f ≠ 0)
  exact ⟨f, by simp only [List.length_cons] at hf; omega, h f⟩

theorem Runs.done {cs : List Char} {toks : List (K × Lex.Mark)} (h : Runs cs [] toks [] []) :
    Lex.lexCore (cs.length + 1) cs [] = .ok toks := by
  obtain ⟨f', hf', e⟩ := h _ (Nat.lt_succ_self _)
  obtain ⟨f', rfl⟩ := Nat.exists_eq_succ_of_ne_zero (by omega : f' ≠ 0)
  rw [e]
  simp [Lex.lexCore, Except.map]

theorem runs_ws {c : Char} (h : Lex.isWs c = true) (r : List Char) (st : List (Delim × Lex.Mark)) :
    Runs (c :: r) st [] r st :=
  .step (Nat.le_refl _) fun f => by
    rw [Lex.lexCore]; simp only [h, ↓reduceIte]; exact map_nil_append _

theorem runs_skip {c : Char} {r rest : List Char} (hws : Lex.isWs c = false)
    (h : Lex.scanSlash (c :: r) = .skip rest) (hl : rest.length ≤ r.length)
    (st : List (Delim × Lex.Mark)) : Runs (c :: r) st [] rest st :=
  .step hl fun f => by
    rw [Lex.lexCore]; simp only [hws, Bool.false_eq_true, ↓reduceIte, h]; exact map_nil_append _

theorem scanSlash_ll_plain (r : List Char) (h1 : ∀ r', r ≠ '!' :: r') (h2 : ∀ r', r ≠ '/' :: r') :
    Lex.scanSlash ('/' :: '/' :: r) = .skip (Lex.untilNl r).2 := by
  simp only [Lex.scanSlash]

theorem scanSlash_ll_outer (r' : List Char) (h : ∀ r'', r' ≠ '/' :: r'') :
    Lex.scanSlash ('/' :: '/' :: '/' :: r') = Lex.docLine false r' := by
  simp only [Lex.scanSlash]

theorem scanSlash_bl_plain (r : List Char) (h1 : ∀ r', r ≠ '!' :: r') (h2 : ∀ r', r ≠ '*' :: r') :
    Lex.scanSlash ('/' :: '*' :: r) = Lex.plainBlock r := by
  simp only [Lex.scanSlash]

theorem scanSlash_bl_outer (r' : List Char) (h1 : ∀ r'', r' ≠ '/' :: r'') (h2 : ∀ r'', r' ≠ '*' :: r'') :
    Lex.scanSlash ('/' :: '*' :: '*' :: r') = Lex.docBlock false ('*' :: r') := by
  simp only [Lex.scanSlash]

theorem scanSlash_line (t rest : List Char) (h1 : '\n' ∉ t)
    (h2 : ∀ c t', t = c :: t' → c ≠ '/' ∧ c ≠ '!') :
    Lex.scanSlash ('/' :: '/' :: (t ++ '\n' :: rest)) = .skip ('\n' :: rest) := by
  have hu := untilNl_line t h1 rest
  cases t with
  | nil => rfl
  | cons c t' =>
    obtain ⟨ha, hc⟩ := h2 c t' rfl
    rw [List.cons_append] at hu ⊢
    rw [scanSlash_ll_plain _ (fun r' e => hc (List.cons.inj e).1) (fun r' e => ha (List.cons.inj e).1),
      hu]

theorem scanSlash_block (b rest : List Char) (h1 : Lex.blockEnd 0 (b ++ ['*', '/']) = some [])
    (h2 : ∀ c b', b = c :: b' → c ≠ '*' ∧ c ≠ '!') :
    Lex.scanSlash ('/' :: '*' :: (b ++ '*' :: '/' :: rest)) = .skip rest := by
  have hb := blockEnd_append (b ++ ['*', '/']) 0 [] rest h1
  simp only [List.append_assoc, List.cons_append, List.nil_append] at hb
  cases b with
  | nil => rfl
  | cons c b' =>
    obtain ⟨ha, hc⟩ := h2 c b' rfl
    simp only [List.cons_append] at hb ⊢
    rw [scanSlash_bl_plain _ (fun r' e => by simp only [List.cons.injEq] at e; exact hc e.1)
      (fun r' e => by simp only [List.cons.injEq] at e; exact ha e.1)]
    simp [Lex.plainBlock, hb]

/-- what a piece is written as; an invalid one is written as a blank -/
theorem piece_text_cases (p : Piece) :
    (∃ c, p.text = [c] ∧ Lex.isWs c = true ∧ c.toNat < 128) ∨
    (∃ t, p.text = '/' :: '/' :: (t ++ ['\n']) ∧ '\n' ∉ t ∧
      ∀ c t', t = c :: t' → c ≠ '/' ∧ c ≠ '!') ∨
    (∃ b, p.text = '/' :: '*' :: (b ++ ['*', '/']) ∧ Lex.blockEnd 0 (b ++ ['*', '/']) = some [] ∧
      ∀ c b', b = c :: b' → c ≠ '*' ∧ c ≠ '!') := by
  by_cases hv : p.valid = true
  · have ht : p.text = _ := if_pos hv
    cases p with
    | ws c =>
      simp only [Piece.valid, Bool.and_eq_true, decide_eq_true_eq] at hv
      exact .inl ⟨c, ht, hv⟩
    | line t =>
      simp only [Piece.valid, Bool.and_eq_true, Bool.not_eq_true', List.contains_eq_mem,
        decide_eq_false_iff_not] at hv
      exact .inr (.inl ⟨t, ht, hv.1, by rintro c t' rfl; simpa using hv.2⟩)
    | block b =>
      simp only [Piece.valid, Bool.and_eq_true, beq_iff_eq] at hv
      exact .inr (.inr ⟨b, ht, hv.2, by rintro c b' rfl; simpa using hv.1⟩)
  · exact .inl ⟨' ', if_neg hv, by decide, by decide⟩

theorem runs_piece (p : Piece) (rest : List Char) (st : List (Delim × Lex.Mark)) :
    Runs (p.text ++ rest) st [] rest st := by
  rcases piece_text_cases p with ⟨c, e, hw, -⟩ | ⟨t, e, h1, h2⟩ | ⟨b, e, h1, h2⟩
  · rw [e]; exact runs_ws hw rest st
  · rw [e]
    simp only [List.cons_append, List.append_assoc, List.nil_append]
    exact (runs_skip (by decide) (scanSlash_line t rest h1 h2) (by simp; omega) st).trans
      (runs_ws (by decide) rest st)
  · rw [e]
    simp only [List.cons_append, List.append_assoc, List.nil_append]
    exact runs_skip (by decide) (scanSlash_block b rest h1 h2) (by simp; omega) st

theorem runs_pieces (ps : List Piece) (rest : List Char) (st : List (Delim × Lex.Mark)) :
    Runs (Print.piecesText ps ++ rest) st [] rest st := by
  induction ps with
  | nil => exact .refl rest st
  | cons p ps ih =>
    simp only [Print.piecesText, List.flatMap_cons, List.append_assoc] at ih ⊢
    exact (runs_piece p _ st).trans ih

/-- the text of a piece list is empty or starts with a white-space character or a comment -/
def TriviaHead : List Char → Prop
  | [] => True
  | c :: r => (Lex.isWs c = true ∧ c.toNat < 128) ∨ (c = '/' ∧ ∃ d r', r = d :: r' ∧ (d = '/' ∨ d = '*'))

theorem piece_text_head (p : Piece) : ∃ c r, p.text = c :: r ∧ ∀ rest, TriviaHead (c :: (r ++ rest)) := by
  rcases piece_text_cases p with ⟨c, e, hw⟩ | ⟨t, e, -⟩ | ⟨b, e, -⟩
  · exact ⟨c, [], e, fun _ => .inl hw⟩
  · exact ⟨'/', _, e, fun _ => .inr ⟨rfl, '/', _, rfl, .inl rfl⟩⟩
  · exact ⟨'/', _, e, fun _ => .inr ⟨rfl, '*', _, rfl, .inr rfl⟩⟩

theorem triviaHead_pieces (ps : List Piece) (rest : List Char) (h : Print.piecesText ps ≠ []) :
    ∃ c r, Print.piecesText ps ++ rest = c :: r ∧ TriviaHead (c :: r) := by
  cases ps with
  | nil => simp [Print.piecesText] at h
  | cons p ps =>
    obtain ⟨c, r, hcr, hh⟩ := piece_text_head p
    refine ⟨c, r ++ (Print.piecesText ps ++ rest), ?_, hh _⟩
    simp [Print.piecesText, hcr]

/-- the text after an identifier: nothing, or a character that neither continues the
    identifier nor turns a leading `r`/`b`/`c` into a literal prefix -/
def FollowId : List Char → Prop
  | [] => True
  | c :: _ => Lex.isIdCont c = false ∧ Safe c

theorem takeWhile_stop {p : Char → Bool} (w T : List Char) (hw : ∀ x ∈ w, p x = true)
    (hT : ∀ c r, T = c :: r → p c = false) :
    (w ++ T).takeWhile p = w ∧ (w ++ T).dropWhile p = T := by
  induction w with
  | nil =>
    cases T with
    | nil => simp
    | cons c r => simp [hT c r rfl]
  | cons x xs ih =>
    have hx := hw x (by simp)
    have := ih (fun y hy => hw y (by simp [hy]))
    simp [hx, this]

/-- in the rest of an identifier followed by `T` the first character is safe, and so is the one
    after it if the first continues the identifier -/
theorem safe_tail {w T : List Char} (hw : ∀ x ∈ w, Lex.isIdCont x = true) (hT : FollowId T)
    {b : Char} {r : List Char} (e : w ++ T = b :: r) :
    Safe b ∧ (Lex.isIdCont b = true → ∀ c r', r = c :: r' → Safe c) := by
  induction w generalizing b r with
  | nil =>
    cases (e : T = b :: r)
    exact ⟨hT.2, fun hb => by rw [hT.1] at hb; cases hb⟩
  | cons x xs ih =>
    obtain ⟨rfl, rfl⟩ := List.cons.inj e
    exact ⟨safe_idCont (hw _ (by simp)), fun _ c r' e' =>
      (ih (fun y hy => hw y (List.mem_cons_of_mem _ hy)) e').1⟩

theorem lexIdent_plain (c : Char) (w T : List Char) (hc : Lex.isIdStart c = true)
    (hw : ∀ x ∈ w, Lex.isIdCont x = true) (hT : FollowId T) :
    Lex.lexIdent (c :: w ++ T) = some (.ident (String.ofList (c :: w)), T) := by
  have tk := takeWhile_stop (p := Lex.isIdCont) (c :: w) T
    (fun x hx => by
      rcases List.mem_cons.mp hx with e | e
      · subst e; exact idStart_cont hc
      · exact hw x e)
    (fun d r e => by subst e; exact hT.1)
  unfold Lex.lexIdent
  split
  · rename_i r heq
    exact ((safe_tail hw hT (List.cons.inj heq).2).1.2.1 rfl).elim
  · simp only [tk.1, tk.2]

theorem safe_of_followId {c : Char} {r : List Char} (h : FollowId (c :: r)) : Safe c := h.2

theorem lexLeaf_ident (c : Char) (w T : List Char) (hc : Lex.isIdStart c = true)
    (hw : ∀ x ∈ w, Lex.isIdCont x = true) (hT : FollowId T) :
    Lex.lexLeaf (c :: w ++ T) = some (.ident (String.ofList (c :: w)), T) := by
  have hn := (isIdStart_iff c).1 hc
  have h1 : c ≠ '"' := by rintro rfl; exact absurd hn (by decide)
  have h2 : c ≠ '\'' := by rintro rfl; exact absurd hn (by decide)
  have h3 : c.isDigit = false := eq_false_of (isDigit_iff c) (by omega)
  have h4 : Lex.isPunctCh c = false := not_punct_of_idCont (idStart_cont hc)
  have hp : Lex.litPrefix (c :: (w ++ T)) = none :=
    litPrefix_none c _ fun b r' e =>
      ⟨(safe_tail hw hT e).1, fun eb => (safe_tail hw hT e).2 (by rw [eb]; decide)⟩
  have hl := lexIdent_plain c w T hc hw hT
  simp only [List.cons_append] at hl hp ⊢
  rw [Lex.lexLeaf, if_neg h1, if_neg h2]
  simp only [h3, h4, hc, Bool.false_eq_true, if_false, if_true, hp, hl]

/-- the text after a string literal: not the start of a suffix -/
def FollowStr : List Char → Prop
  | [] => True
  | c :: _ => Lex.isIdStart c = false

theorem dropSuffix_follow {T : List Char} (h : FollowStr T) : Lex.dropSuffix T = T := by
  cases T with
  | nil => rfl
  | cons c r => simp only [FollowStr] at h; simp [Lex.dropSuffix, h]

theorem lexLeaf_str (s : List Char) (T : List Char) (hT : FollowStr T) :
    Lex.lexLeaf (Print.spellStr s ++ T) = some (.str (String.ofList s), T) := by
  have hc := cooked_esc s T []
    ((s.flatMap Print.escChar ++ '"' :: T).length + 1)
    (by have := length_esc_ge s; simp only [List.length_append, List.length_cons]; omega)
  simp only [Print.spellStr, List.cons_append, List.append_assoc, List.nil_append]
  rw [Lex.lexLeaf]
  simp only [if_true, Lex.cookedAll]
  rw [hc]
  simp [Lex.strTok, dropSuffix_follow hT]

theorem untilNl_full (t : List Char) (h1 : '\n' ∉ t) (h2 : '\r' ∉ t) (rest : List Char) :
    Lex.untilNl (t ++ '\n' :: rest) = (t, '\n' :: rest) := by
  induction t with
  | nil => rfl
  | cons c t ih =>
    rw [List.cons_append, Lex.untilNl.eq_4 c _ (Ne.symm (List.ne_of_not_mem_cons h1))
      (fun _ e _ => List.ne_of_not_mem_cons h2 e.symm),
      ih (List.not_mem_of_not_mem_cons h1) (List.not_mem_of_not_mem_cons h2)]

theorem hasBareCR_none (t : List Char) (h : '\r' ∉ t) : Lex.hasBareCR t = false := by
  induction t with
  | nil => rfl
  | cons c t ih =>
    have hc := List.ne_of_not_mem_cons h
    have ht := List.not_mem_of_not_mem_cons h
    rw [Lex.hasBareCR.eq_4 c t (fun _ e _ => hc e.symm) (fun e => hc e.symm), ih ht]

theorem lineDocOk_inv (inner : Bool) (t : List Char) (h : Print.lineDocOk inner t = true) :
    '\n' ∉ t ∧ '\r' ∉ t ∧ (inner = false → ∀ c t', t = c :: t' → c ≠ '/') := by
  simp only [Print.lineDocOk, Bool.and_eq_true, Bool.not_eq_true', List.contains_eq_mem,
    decide_eq_false_iff_not, Bool.or_eq_true] at h
  refine ⟨h.1.1, h.1.2, fun hi c t' e => ?_⟩
  subst e hi
  simpa using h.2

theorem scanSlash_lineDoc (inner : Bool) (t rest : List Char) (h : Print.lineDocOk inner t = true) :
    Lex.scanSlash (Print.docText inner t false ++ rest) = .doc inner t ('\n' :: rest) := by
  obtain ⟨h1, h2, h3⟩ := lineDocOk_inv inner t h
  have hu := untilNl_full t h1 h2 rest
  have hb := hasBareCR_none t h2
  cases inner with
  | true =>
    simp only [Print.docText, Bool.false_eq_true, if_false, if_true, List.cons_append,
      List.append_assoc, List.nil_append]
    simp [Lex.scanSlash, Lex.docLine, hu, hb]
  | false =>
    simp only [Print.docText, Bool.false_eq_true, if_false, List.cons_append,
      List.append_assoc, List.nil_append]
    have h4 : ∀ r', t ++ '\n' :: rest ≠ '/' :: r' := by
      intro r' e
      cases t with
      | nil => simp at e
      | cons c t' =>
        simp only [List.cons_append, List.cons.injEq] at e
        exact h3 rfl c t' rfl e.1
    rw [scanSlash_ll_outer _ h4]
    simp [Lex.docLine, hu, hb]

theorem blockDocOk_inv (inner : Bool) (t : List Char) (h : Print.blockDocOk inner t = true) :
    Lex.hasBareCR t = false ∧
    (inner = false → ∃ c t', t = c :: t' ∧ c ≠ '*' ∧ c ≠ '/') ∧
    Lex.blockEnd 0 ((if inner then '!' else '*') :: t ++ ['*', '/']) = some [] := by
  simp only [Print.blockDocOk, Bool.and_eq_true, Bool.not_eq_true', Bool.or_eq_true,
    beq_iff_eq] at h
  refine ⟨h.1.1, fun hi => ?_, h.2⟩
  subst hi
  have := h.1.2
  cases t with
  | nil => simp at this
  | cons c t' => exact ⟨c, t', rfl, by simpa using this⟩

theorem docBlock_spec (inner : Bool) (x : Char) (t rest : List Char)
    (hb : Lex.blockEnd 0 (x :: t ++ '*' :: '/' :: rest) = some rest)
    (hcr : Lex.hasBareCR t = false) :
    Lex.docBlock inner (x :: t ++ '*' :: '/' :: rest) = .doc inner t rest := by
  have hbody : (x :: t ++ '*' :: '/' :: rest).take ((x :: t ++ '*' :: '/' :: rest).length - rest.length)
      = x :: t ++ ['*', '/'] := by
    have : (x :: t ++ '*' :: '/' :: rest).length - rest.length = (x :: t ++ ['*', '/']).length := by
      simp only [List.length_cons, List.length_append, List.length_nil]; omega
    rw [this]
    have e : x :: t ++ '*' :: '/' :: rest = (x :: t ++ ['*', '/']) ++ rest := by simp
    rw [e, List.take_left']
    rfl
  unfold Lex.docBlock
  rw [hb]
  simp only [hbody]
  have : ((x :: t ++ ['*', '/']).drop 1).take ((x :: t ++ ['*', '/']).length - 3) = t := by simp
  rw [this, hcr]
  rfl

theorem scanSlash_blockDoc (inner : Bool) (t rest : List Char) (h : Print.blockDocOk inner t = true) :
    Lex.scanSlash (Print.docText inner t true ++ rest) = .doc inner t rest := by
  obtain ⟨h1, h2, h3⟩ := blockDocOk_inv inner t h
  cases inner with
  | true =>
    have hb := blockEnd_append _ 0 [] rest h3
    simp only [if_true, List.cons_append, List.append_assoc, List.nil_append] at hb
    simp only [Print.docText, if_true, List.cons_append, List.append_assoc, List.nil_append]
    have := docBlock_spec true '!' t rest (by simpa using hb) h1
    simp only [List.cons_append] at this
    simp only [Lex.scanSlash, this]
  | false =>
    obtain ⟨c, t', rfl, hc1, hc2⟩ := h2 rfl
    have hb := blockEnd_append _ 0 [] rest h3
    simp only [Bool.false_eq_true, if_false, List.cons_append, List.append_assoc,
      List.nil_append] at hb
    simp only [Print.docText, Bool.false_eq_true, if_false, if_true, List.cons_append,
      List.append_assoc, List.nil_append]
    rw [scanSlash_bl_outer _ (fun r'' e => by simp only [List.cons.injEq] at e; exact hc2 e.1)
      (fun r'' e => by simp only [List.cons.injEq] at e; exact hc1 e.1)]
    have := docBlock_spec false '*' (c :: t') rest (by simpa using hb) h1
    simpa using this

theorem runs_docStep {r rest : List Char} {inner : Bool} {t : List Char}
    (h : Lex.scanSlash ('/' :: r) = .doc inner t rest) (hl : rest.length ≤ r.length)
    (st : List (Delim × Lex.Mark)) :
    Runs ('/' :: r) st (Lex.docToks inner t (Lex.here ('/' :: r)) (Lex.here rest)) rest st :=
  .step hl fun f => by
    rw [Lex.lexCore]
    simp only [show Lex.isWs '/' = false from by decide, Bool.false_eq_true, if_false, h]

/-- `token_stream` on a doc comment -/
theorem runs_doc (inner : Bool) (t : List Char) (block : Bool) (rest : List Char)
    (h : if block then Print.blockDocOk inner t = true else Print.lineDocOk inner t = true) :
    ∃ n m, ∀ st, Runs (Print.docText inner t block ++ rest) st (Lex.docToks inner t n m) rest st := by
  obtain ⟨r, hr⟩ : ∃ r, Print.docText inner t block ++ rest = '/' :: r := by
    cases block <;> exact ⟨_, rfl⟩
  have hl : rest.length + 1 ≤ r.length := by
    have := congrArg List.length hr
    cases block <;> simp [Print.docText] at this <;> omega
  rw [hr]
  cases block with
  | true => exact ⟨_, _, runs_docStep (hr ▸ scanSlash_blockDoc inner t rest h) (by omega)⟩
  | false =>
    -- the line feed that ends the comment is left for the lexer to skip
    refine ⟨Lex.here ('/' :: r), Lex.here ('\n' :: rest), fun st => ?_⟩
    have hs := scanSlash_lineDoc inner t rest h
    rw [hr] at hs
    have := (runs_docStep hs hl st).trans (runs_ws (by decide) rest st)
    rwa [List.append_nil] at this

theorem plainId_inv {s : String} (h : plainId s = true) :
    ∃ c w, s.toList = c :: w ∧ Lex.isIdStart c = true ∧ ∀ x ∈ w, Lex.isIdCont x = true := by
  unfold plainId at h
  cases hh : s.toList with
  | nil => rw [hh] at h; cases h
  | cons c w =>
    rw [hh] at h
    simp only [Bool.and_eq_true, List.all_eq_true] at h
    exact ⟨c, w, rfl, h⟩

inductive Head : K → Char → Prop where
  | ident (s : String) (c : Char) : Lex.isIdStart c = true → Head (.ident s) c
  | int (v : Nat) (c : Char) : c.isDigit = true → Head (.int v) c
  | str (s : String) : Head (.str s) '"'
  | punct (c : Char) (j : Bool) : okPunct c = true → Head (.punct c j) c
  | op (d : Delim) : Head (.op d) (Print.openCh d)
  | cl (d : Delim) : Head (.cl d) (Print.closeCh d)

theorem spellWith_head (τ : Trivia) (i : Nat) (k : K) (h : tokOk k = true) :
    ∃ c r, Print.spellWith τ i k = c :: r ∧ Head k c := by
  cases k with
  | lit => simp [tokOk] at h
  | ident s =>
    obtain ⟨c, w, hh, hc, -⟩ := plainId_inv h
    exact ⟨c, w, hh, .ident s c hc⟩
  | int v =>
    obtain ⟨cs, h1, h2, _⟩ := spellInt_spelling (τ.int i) v
    obtain ⟨c, r, hcr, hd⟩ := spelling_head_digit _ cs h2 []
    simp only [List.append_nil] at hcr
    exact ⟨c, r, by simp [Print.spellWith, h1, hcr], .int v c hd⟩
  | str s => exact ⟨'"', _, rfl, .str s⟩
  | punct c j => exact ⟨c, [], rfl, .punct c j h⟩
  | op d => exact ⟨_, [], rfl, .op d⟩
  | cl d => exact ⟨_, [], rfl, .cl d⟩

theorem docText_head (inner : Bool) (t : List Char) (block : Bool) :
    ∃ d r, Print.docText inner t block = '/' :: d :: r ∧ (d = '/' ∨ d = '*') := by
  cases block
  · exact ⟨'/', _, rfl, Or.inl rfl⟩
  · exact ⟨'*', _, rfl, Or.inr rfl⟩

theorem renderK_nil (τ : Trivia) (f i : Nat) : Print.renderK τ f i [] = [] := by
  cases f <;> rfl

/-- how the text of a token list begins: with a doc comment or with the first token -/
theorem renderK_cases (τ : Trivia) (f i : Nat) (ks : List K)
    (hks : ∀ b ∈ ks.head?, tokOk b = true) (hf : ks.length ≤ f) :
    Print.renderK τ f i ks = [] ∨
    (∃ inner t block rest, Print.renderK τ f i ks = Print.docText inner t block ++ rest) ∨
    (∃ b c r, ks.head? = some b ∧ Print.renderK τ f i ks = c :: r ∧ Head b c) := by
  cases ks with
  | nil => exact .inl (renderK_nil τ f i)
  | cons k ks =>
    obtain ⟨f, rfl⟩ : ∃ g, f = g + 1 := ⟨f - 1, by simp at hf; omega⟩
    simp only [Print.renderK]
    cases hd : Print.docChoice τ i (k :: ks) with
    | some p =>
      obtain ⟨inner, t, block, n, rest⟩ := p
      exact .inr (.inl ⟨inner, t, block, _, List.append_assoc ..⟩)
    | none =>
      obtain ⟨c, r, hcr, hh⟩ := spellWith_head τ i k (hks k rfl)
      exact .inr (.inr ⟨k, c, r ++ (Print.gapText k ks.head? (τ.gap i) ++ Print.renderK τ f (i + 1) ks),
        rfl, by simp only [hcr, List.cons_append, List.append_assoc], hh⟩)

/-- the text after token `k` and its gap: nothing, trivia (white space, a comment – also a doc
    comment), or directly the first character of a token `b` that does not glue to `k` -/
inductive After (k : K) : List Char → Prop where
  | nil : After k []
  | trivia (c : Char) (r : List Char) : TriviaHead (c :: r) → After k (c :: r)
  | tok (b : K) (c : Char) (r : List Char) : Print.glues k b = false → Head b c → After k (c :: r)

theorem piece_text_ne_nil (p : Piece) : p.text ≠ [] := by
  obtain ⟨c, r, h, _⟩ := piece_text_head p
  rw [h]; simp

theorem piecesText_eq_nil {ps : List Piece} (h : Print.piecesText ps = []) : ps = [] := by
  cases ps with
  | nil => rfl
  | cons p ps =>
    simp only [Print.piecesText, List.flatMap_cons, List.append_eq_nil_iff] at h
    exact absurd h.1 (piece_text_ne_nil p)

theorem errStr : "/*ERROR*/".toList = ['/', '*', 'E', 'R', 'R', 'O', 'R', '*', '/'] := by decide

/-- the gap is always the text of a piece list `qs`; after a token that is not a `joint` punct
    it is empty only before a token that does not glue, and it is `/*ERROR*/` only where that
    does not complete `(/*ERROR*/)`, which the lexer reads as one literal -/
theorem gapText_eq (k : K) (b? : Option K) (ps : List Piece) :
    ∃ qs, Print.gapText k b? ps = Print.piecesText qs ∧ ((∀ c, k ≠ .punct c true) →
      (qs = [] → ∀ b ∈ b?, Print.glues k b = false) ∧
      (Print.piecesText qs = "/*ERROR*/".toList → k = .op .paren → b? ≠ some (.cl .paren))) := by
  have hsp : Print.piecesText (.ws ' ' :: ps) = ' ' :: Print.piecesText ps := rfl
  unfold Print.gapText
  split
  · next c => exact ⟨[], rfl, fun hk => absurd rfl (hk c)⟩
  · cases b? with
    | none => exact ⟨ps, rfl, fun _ => ⟨(fun _ _ hb => nomatch hb), fun _ _ => nofun⟩⟩
    | some b =>
      simp only []
      split
      · exact ⟨[.ws ' '], rfl, fun _ => ⟨nofun, fun e => absurd e (by decide)⟩⟩
      · next h1 =>
        split
        · exact ⟨.ws ' ' :: ps, hsp.symm, fun _ => ⟨nofun, fun e =>
            absurd (List.cons.inj (hsp.symm.trans (e.trans errStr))).1 (by decide)⟩⟩
        · next h2 =>
          refine ⟨ps, rfl, fun _ => ⟨fun e b' hb' => ?_, fun e hk hb => h2 ?_⟩⟩
          · cases hb'; subst e; simpa [Print.piecesText] using h1
          · cases hb; subst hk; rw [e]; decide

theorem after_gap (τ : Trivia) (f i : Nat) (k : K) (ks : List K)
    (hk : ∀ c, k ≠ .punct c true) (hks : ∀ b ∈ ks.head?, tokOk b = true) (hf : ks.length ≤ f) :
    After k (Print.gapText k ks.head? (τ.gap i) ++ Print.renderK τ f (i + 1) ks) := by
  obtain ⟨qs, e, hq⟩ := gapText_eq k ks.head? (τ.gap i)
  rw [e]
  by_cases ht : Print.piecesText qs = []
  · rw [ht, List.nil_append]
    rcases renderK_cases τ f (i + 1) ks hks hf with e | ⟨inner, t, block, rest, e⟩ | ⟨b, c, r, hb, e, hh⟩
    · rw [e]; exact .nil
    · obtain ⟨d, r, hd, hdd⟩ := docText_head inner t block
      rw [e, hd]
      exact .trivia '/' _ (.inr ⟨rfl, d, _, rfl, hdd⟩)
    · rw [e]
      exact .tok b c r ((hq hk).1 (piecesText_eq_nil ht) b hb) hh
  · obtain ⟨c, r, h1, h2⟩ := triviaHead_pieces qs _ ht
    rw [h1]
    exact .trivia c r h2

theorem triviaHead_facts {c : Char} {r : List Char} (h : TriviaHead (c :: r)) :
    Lex.isIdCont c = false ∧ Safe c ∧ c ≠ '.' ∧ Lex.punctNext (c :: r) = false := by
  rcases h with ⟨h1, h2⟩ | ⟨rfl, d, r', rfl, hd⟩
  · have hn := ws_ascii h1 h2
    have ne : ∀ k : Char, (¬ ((9 ≤ k.toNat ∧ k.toNat ≤ 13) ∨ k.toNat = 32)) → c ≠ k := by
      rintro k hk rfl; exact hk hn
    refine ⟨eq_false_of (isIdCont_iff c) (by omega),
      ⟨ne _ (by decide), ne _ (by decide), ne _ (by decide)⟩, ne _ (by decide), ?_⟩
    rw [punctNext_cons (ne _ (by decide))]
    exact not_punct_of_ws h1
  · refine ⟨by decide, ⟨by decide, by decide, by decide⟩, by decide, ?_⟩
    rcases hd with rfl | rfl <;> rfl

theorem head_facts {b : K} {c : Char} (h : Head b c) :
    c ≠ '/' ∧ c.toNat < 128 ∧ (Print.isPunctK b = false → Lex.isPunctCh c = false) ∧
    (Print.isWordy b = false → Lex.isIdCont c = false ∧ c ≠ '.' ∧ c ≠ '"' ∧ c ≠ '\'') := by
  cases h with
  | ident _ _ hi =>
    have hn := (isIdStart_iff c).1 hi
    exact ⟨by rintro rfl; exact absurd hn (by decide), by omega,
      fun _ => not_punct_of_idCont (idStart_cont hi), nofun⟩
  | int _ _ hi =>
    have hn := (isDigit_iff c).1 hi
    exact ⟨by rintro rfl; exact absurd hn (by decide), by omega,
      fun _ => not_punct_of_idCont ((isIdCont_iff c).2 (Or.inl hn)), nofun⟩
  | str _ => exact ⟨by decide, by decide, fun _ => by decide, nofun⟩
  | punct _ _ hp =>
    obtain ⟨h1, h2, -, -, h5, h6, h7, h8⟩ := okPunct_facts hp
    exact ⟨h5, by have := h6.2.1; omega, nofun, fun _ => ⟨h7, h8, h1, h2⟩⟩
  | op d => cases d <;> decide
  | cl d => cases d <;> decide

theorem glues_wordy {k b : K} (hk : Print.isWordy k = true) (h : Print.glues k b = false) :
    Print.isWordy b = false := by
  simp only [Print.glues, hk, Bool.true_and, Bool.or_eq_false_iff] at h
  exact h.1.1

theorem glues_ident {s : String} {b : K} (h : Print.glues (.ident s) b = false) :
    Print.isPunctK b = false := by
  cases b <;> first | rfl | simp [Print.glues, Print.isWordy, Print.isPunctK] at h

theorem glues_punct {c : Char} {j : Bool} {b : K} (h : Print.glues (.punct c j) b = false) :
    Print.isPunctK b = false := by
  cases b <;> first | rfl | simp [Print.glues, Print.isWordy, Print.isPunctK] at h

theorem followId_after {s : String} {T : List Char} (h : After (.ident s) T) : FollowId T := by
  cases h with
  | nil => trivial
  | trivia c r ht => have := triviaHead_facts ht; exact ⟨this.1, this.2.1⟩
  | tok b c r hg hh =>
    obtain ⟨-, -, hp, hw⟩ := head_facts hh
    obtain ⟨h1, -, h3, h4⟩ := hw (glues_wordy rfl hg)
    -- `#` is a punctuation character, the next token is no punctuation
    exact ⟨h1, h3, by rintro rfl; exact absurd (hp (glues_ident hg)) (by decide), h4⟩

theorem intTail_after {v : Nat} {T : List Char} (h : After (.int v) T) : IntTail T := by
  cases h with
  | nil => trivial
  | trivia c r ht => have := triviaHead_facts ht; exact ⟨this.1, this.2.2.1⟩
  | tok b c r hg hh =>
    obtain ⟨h1, h2, -, -⟩ := (head_facts hh).2.2.2 (glues_wordy rfl hg)
    exact ⟨h1, h2⟩

theorem followStr_after {s : String} {T : List Char} (h : After (.str s) T) : FollowStr T := by
  cases h with
  | nil => trivial
  | trivia c r ht => exact (not_idCont (triviaHead_facts ht).1).2.1
  | tok b c r hg hh => exact (not_idCont ((head_facts hh).2.2.2 (glues_wordy rfl hg)).1).2.1

theorem punctNext_after {c0 : Char} {T : List Char} (h : After (.punct c0 false) T) :
    Lex.punctNext T = false := by
  cases h with
  | nil => rfl
  | trivia c r ht => exact (triviaHead_facts ht).2.2.2
  | tok b c r hg hh =>
    obtain ⟨hs, -, hp, -⟩ := head_facts hh
    rw [punctNext_cons hs]
    exact hp (glues_punct hg)

def errTail : List Char := ['/', '*', 'E', 'R', 'R', 'O', 'R', '*', '/', ')']

theorem isERROR_cons (T : List Char) : Lex.isERROR ('(' :: T) = errTail.isPrefixOf T := by
  simp [Lex.isERROR, errTail, List.isPrefixOf]

theorem errTail_head {c : Char} {r : List Char} (h : c ≠ '/') : errTail.isPrefixOf (c :: r) = false := by
  simp [errTail, List.isPrefixOf, Ne.symm h]

theorem head_rparen {b : K} {c : Char} (h : Head b c) (hc : c = ')') : b = .cl .paren := by
  cases h with
  | ident _ _ hi => subst hc; exact absurd hi (by decide)
  | int _ _ hi => subst hc; exact absurd hi (by decide)
  | str _ => exact absurd hc (by decide)
  | punct _ _ hp => subst hc; exact absurd hp (by decide)
  | op d => cases d <;> exact absurd hc (by decide)
  | cl d =>
    cases d
    · rfl
    · exact absurd hc (by decide)
    · exact absurd hc (by decide)

theorem errTail_docText (inner : Bool) (t : List Char) (block : Bool) (rest : List Char) :
    errTail.isPrefixOf (Print.docText inner t block ++ rest) = false := by
  cases block <;> cases inner <;> simp [Print.docText, errTail, List.isPrefixOf]

theorem blockEnd_error (u : List Char) :
    Lex.blockEnd 0 ('E' :: 'R' :: 'R' :: 'O' :: 'R' :: '*' :: '/' :: u) = some u := by
  simp [Lex.blockEnd]

theorem errTail_pieces (ps : List Piece) (R : List Char)
    (h : errTail.isPrefixOf (Print.piecesText ps ++ R) = true) (hne : Print.piecesText ps ≠ []) :
    Print.piecesText ps = ['/', '*', 'E', 'R', 'R', 'O', 'R', '*', '/'] ∧ ∃ u, R = ')' :: u := by
  cases ps with
  | nil => exact absurd rfl hne
  | cons p ps' =>
    simp only [Print.piecesText, List.flatMap_cons, List.append_assoc] at h ⊢
    rcases piece_text_cases p with ⟨c, e, hw, ha⟩ | ⟨t, e, -⟩ | ⟨b0, e, hb0, -⟩
    · have : c ≠ '/' := by rintro rfl; exact absurd (ws_ascii hw ha) (by decide)
      rw [e, List.cons_append, errTail_head this] at h
      cases h
    · rw [e] at h
      simp [errTail, List.isPrefixOf] at h
    · rw [e] at h ⊢
      simp only [List.cons_append, List.append_assoc, List.nil_append] at h ⊢
      -- the comment body followed by `*/` and the rest starts with `ERROR*/)`
      have hpre : ['E', 'R', 'R', 'O', 'R', '*', '/', ')'].isPrefixOf
          (b0 ++ '*' :: '/' :: (List.flatMap Piece.text ps' ++ R)) = true := by
        simpa [errTail, List.isPrefixOf] using h
      obtain ⟨u, hu⟩ := List.isPrefixOf_iff_prefix.mp hpre
      have hb := blockEnd_append (b0 ++ ['*', '/']) 0 [] (List.flatMap Piece.text ps' ++ R) hb0
      simp only [List.append_assoc, List.cons_append, List.nil_append] at hb
      rw [← hu] at hb
      simp only [List.cons_append, List.nil_append] at hb
      rw [blockEnd_error] at hb
      simp only [Option.some.injEq] at hb
      -- so the rest is `)` …: no further pieces
      have hps' : ps' = [] := by
        by_cases he : Print.piecesText ps' = []
        · exact piecesText_eq_nil he
        · obtain ⟨c, r, h1, h2⟩ := triviaHead_pieces ps' R he
          simp only [Print.piecesText] at h1
          rw [h1] at hb
          simp only [List.cons.injEq] at hb
          rw [← hb.1] at h2
          rcases h2 with ⟨hw, _⟩ | ⟨hs, _⟩
          · exact absurd hw (by decide)
          · exact absurd hs (by decide)
      subst hps'
      simp only [List.flatMap_nil, List.nil_append] at hb hu ⊢
      rw [← hb] at hu
      have h3 : b0 ++ ('*' :: '/' :: ')' :: u) = ['E', 'R', 'R', 'O', 'R'] ++ ('*' :: '/' :: ')' :: u) :=
        hu.symm
      cases List.append_cancel_right h3
      exact ⟨rfl, u, hb.symm⟩

theorem isERROR_gap (τ : Trivia) (f i : Nat) (ks : List K)
    (hks : ∀ b ∈ ks.head?, tokOk b = true) (hf : ks.length ≤ f) :
    Lex.isERROR ('(' :: (Print.gapText (.op .paren) ks.head? (τ.gap i) ++
      Print.renderK τ f (i + 1) ks)) = false := by
  obtain ⟨qs, e, hq⟩ := gapText_eq (.op .paren) ks.head? (τ.gap i)
  rw [isERROR_cons, e]
  cases hp : errTail.isPrefixOf (Print.piecesText qs ++ Print.renderK τ f (i + 1) ks) with
  | false => rfl
  | true =>
    exfalso
    by_cases ht : Print.piecesText qs = []
    · rw [ht, List.nil_append] at hp
      rcases renderK_cases τ f (i + 1) ks hks hf with e | ⟨inner, t, block, rest, e⟩ | ⟨b, c, r, -, e, hh⟩
      · rw [e] at hp; cases hp
      · rw [e, errTail_docText] at hp; cases hp
      · rw [e, errTail_head (head_facts hh).1] at hp; cases hp
    · -- the gap is `/*ERROR*/` and `)` follows: the next token is `)`, which `gapText` excludes
      obtain ⟨h3, u, hu⟩ := errTail_pieces qs _ hp ht
      rcases renderK_cases τ f (i + 1) ks hks hf with e | ⟨inner, t, block, rest, e⟩ | ⟨b, c, r, hb, e, hh⟩
      · rw [e] at hu; cases hu
      · obtain ⟨d, r, hd, -⟩ := docText_head inner t block
        rw [e, hd] at hu
        exact absurd (List.cons.inj hu).1 (by decide)
      · rw [e] at hu
        rw [head_rparen hh (List.cons.inj hu).1] at hb
        exact (hq nofun).2 (h3.trans errStr.symm) rfl hb

theorem runs_gap (k : K) (b? : Option K) (ps : List Piece) (R : List Char)
    (st : List (Delim × Lex.Mark)) : Runs (Print.gapText k b? ps ++ R) st [] R st := by
  obtain ⟨qs, e, -⟩ := gapText_eq k b? ps
  rw [e]
  exact runs_pieces qs R st

def AfterLeaf (k : K) (T : List Char) : Prop :=
  match k with
  | .punct _ true => Lex.punctNext T = true
  | _ => After k T

theorem leaf_step (τ : Trivia) (i : Nat) (k : K) (hl : isLeaf k = true) (hk : tokOk k = true)
    (T : List Char) (hT : AfterLeaf k T) (m : Nat) (st : List (Delim × Lex.Mark)) :
    Lex.lexCore (m + 1) (Print.spellWith τ i k ++ T) st =
      (Lex.lexCore m T st).map ((k, Lex.here (Print.spellWith τ i k ++ T)) :: ·) := by
  cases k with
  | lit => simp [isLeaf] at hl
  | op _ => simp [isLeaf] at hl
  | cl _ => simp [isLeaf] at hl
  | ident s =>
    obtain ⟨c, w, hh, hc, hw⟩ := plainId_inv hk
    have hstr : String.ofList (c :: w) = s := by rw [← hh]; exact String.ofList_toList
    have := lexLeaf_ident c w T hc hw (followId_after (s := s) hT)
    simp only [List.cons_append] at this
    simp only [Print.spellWith, Print.spell, hh, List.cons_append]
    rw [lexCore_leaf c _ (leafStart_idStart hc), this, hstr]
  | int v =>
    obtain ⟨cs, h1, h2, h3⟩ := spellInt_spelling (τ.int i) v
    have hl' := lexLeaf_int _ cs h2 T (intTail_after (v := v) hT)
    obtain ⟨c, r, hcr, hd⟩ := spelling_head_digit _ cs h2 T
    simp only [Print.spellWith, h1]
    rw [hcr, lexCore_leaf c r (leafStart_digit hd), ← hcr, hl', h3]
  | str s =>
    have hl' := lexLeaf_str s.toList T (followStr_after (s := s) hT)
    obtain ⟨r, hr⟩ : ∃ r, Print.spellStr s.toList ++ T = '"' :: r := ⟨_, rfl⟩
    simp only [Print.spellWith, Print.spell]
    rw [hr] at hl' ⊢
    rw [lexCore_leaf '"' r (by simp [LeafStart]), hl']
    simp only [String.ofList_toList]
  | punct c j =>
    simp only [tokOk] at hk
    simp only [Print.spellWith, Print.spell, List.cons_append, List.nil_append]
    rw [lexCore_leaf c _ (okPunct_facts hk).2.2.2.2.2.1, lexLeaf_punct c hk]
    cases j with
    | false => rw [punctNext_after (c0 := c) hT]
    | true => simp only [AfterLeaf] at hT; rw [hT]

theorem runs_leaf (τ : Trivia) (i : Nat) (k : K) (hl : isLeaf k = true) (hk : tokOk k = true)
    (T : List Char) (hT : AfterLeaf k T) (st : List (Delim × Lex.Mark)) :
    Runs (Print.spellWith τ i k ++ T) st [(k, Lex.here (Print.spellWith τ i k ++ T))] T st := by
  have hs := leaf_step τ i k hl hk T hT
  obtain ⟨c, r, hcr, _⟩ := spellWith_head τ i k hk
  rw [hcr] at hs ⊢
  exact .step (by simp) fun f => hs f st

def docKs (inner : Bool) (s : String) : List K :=
  K.punct '#' false :: (if inner then [K.punct '!' false] else []) ++
  [K.op .bracket, K.ident "doc", K.punct '=' false, K.str s, K.cl .bracket]

theorem docAttr_some (ks : List K) (inner : Bool) (s : String) (n : Nat) (rest : List K)
    (h : Print.docAttr? ks = some (inner, s, n, rest)) : ks = docKs inner s ++ rest := by
  unfold Print.docAttr? at h
  split at h
  · simp only [Option.some.injEq, Prod.mk.injEq] at h
    obtain ⟨rfl, rfl, _, rfl⟩ := h
    rfl
  · simp only [Option.some.injEq, Prod.mk.injEq] at h
    obtain ⟨rfl, rfl, _, rfl⟩ := h
    rfl
  · cases h

theorem docChoice_some (τ : Trivia) (i : Nat) (ks : List K) (inner : Bool) (t : List Char)
    (block : Bool) (n : Nat) (rest : List K)
    (h : Print.docChoice τ i ks = some (inner, t, block, n, rest)) :
    ∃ s : String, t = s.toList ∧ ks = docKs inner s ++ rest ∧
      (if block then Print.blockDocOk inner t = true else Print.lineDocOk inner t = true) := by
  unfold Print.docChoice at h
  split at h
  · rename_i inner' s n' rest' hd
    have hks := docAttr_some ks inner' s n' rest' hd
    split at h
    · split at h
      · simp only [Option.some.injEq, Prod.mk.injEq] at h
        obtain ⟨rfl, rfl, rfl, _, rfl⟩ := h
        exact ⟨s, rfl, hks, by simpa using ‹Print.lineDocOk inner' s.toList = true›⟩
      · cases h
    · split at h
      · simp only [Option.some.injEq, Prod.mk.injEq] at h
        obtain ⟨rfl, rfl, rfl, _, rfl⟩ := h
        exact ⟨s, rfl, hks, by simpa using ‹Print.blockDocOk inner' s.toList = true›⟩
      · cases h
    · cases h
  · cases h

theorem chk_docKs (st : List Delim) (inner : Bool) (s : String) (rest : List K) :
    chk st (docKs inner s ++ rest) = chk st rest := by
  have hb : Passes [K.op .bracket, K.ident "doc", K.punct '=' false, K.str s, K.cl .bracket] :=
    passes_group .bracket (passes_cons (kw "doc") (passes_cons (pu '=') (passes_str s)))
  cases inner
  · exact passes_cons (pu '#') hb st rest
  · exact passes_cons (pu '#') (passes_cons (pu '!') hb) st rest

theorem docToks_fst (inner : Bool) (s : String) (n m : Lex.Mark) :
    (Lex.docToks inner s.toList n m).map (·.1) = docKs inner s := by
  cases inner <;> simp [Lex.docToks, docKs, String.ofList_toList]

theorem docKs_length (inner : Bool) (s : String) : 6 ≤ (docKs inner s).length := by
  cases inner <;> simp [docKs]

theorem lexCore_open (d : Delim) (f : Nat) (T : List Char) (st : List (Delim × Lex.Mark))
    (h : d = .paren → Lex.isERROR ('(' :: T) = false) :
    Lex.lexCore (f + 1) (Print.openCh d :: T) st =
      (Lex.lexCore f T ((d, Lex.here (Print.openCh d :: T)) :: st)).map
        ((K.op d, Lex.here (Print.openCh d :: T)) :: ·) := by
  rw [Lex.lexCore]
  cases d with
  | paren =>
    simp [Print.openCh, show Lex.isWs '(' = false from by decide, Lex.scanSlash, Lex.delimOpen,
      h rfl]
  | bracket =>
    simp [Print.openCh, show Lex.isWs '[' = false from by decide, Lex.scanSlash, Lex.delimOpen]
  | brace =>
    simp [Print.openCh, show Lex.isWs '{' = false from by decide, Lex.scanSlash, Lex.delimOpen]

theorem lexCore_close (d : Delim) (f : Nat) (r : List Char) (n : Lex.Mark) (st : List (Delim × Lex.Mark)) :
    Lex.lexCore (f + 1) (Print.closeCh d :: r) ((d, n) :: st) =
      (Lex.lexCore f r st).map ((K.cl d, Lex.here (Print.closeCh d :: r)) :: ·) := by
  rw [Lex.lexCore]
  cases d <;>
    simp [Print.closeCh, show Lex.isWs ')' = false from by decide,
      show Lex.isWs ']' = false from by decide, show Lex.isWs '}' = false from by decide,
      Lex.scanSlash, Lex.delimOpen, Lex.delimClose]

theorem runs_open (d : Delim) (T : List Char) (st : List (Delim × Lex.Mark))
    (h : d = .paren → Lex.isERROR ('(' :: T) = false) :
    Runs (Print.openCh d :: T) st [(K.op d, Lex.here (Print.openCh d :: T))] T
      ((d, Lex.here (Print.openCh d :: T)) :: st) :=
  .step (Nat.le_refl _) fun f => lexCore_open d f T st h

theorem runs_close (d : Delim) (r : List Char) (n : Lex.Mark) (st : List (Delim × Lex.Mark)) :
    Runs (Print.closeCh d :: r) ((d, n) :: st) [(K.cl d, Lex.here (Print.closeCh d :: r))] r st :=
  .step (Nat.le_refl _) fun f => lexCore_close d f r n st

theorem tokOk_head_of_chk (st : List Delim) (ks : List K) (st' : List Delim)
    (h : chk st ks = some st') : ∀ b ∈ ks.head?, tokOk b = true := by
  intro b hb
  cases ks with
  | nil => simp at hb
  | cons k ks' =>
    simp only [List.head?_cons, Option.mem_def, Option.some.injEq] at hb
    subst hb
    exact (chk_cons_inv h).1

theorem afterLeaf_render (τ : Trivia) (f i : Nat) (k : K) (ks : List K)
    (hj : ∀ c, k = .punct c true → nextPunct ks = true) (hks : ∀ b ∈ ks.head?, tokOk b = true)
    (hf : ks.length ≤ f) :
    AfterLeaf k (Print.gapText k ks.head? (τ.gap i) ++ Print.renderK τ f (i + 1) ks) := by
  by_cases hjj : ∃ c, k = .punct c true
  · -- nothing stands after a `joint` punct, and the next token is a punct other than `#`
    obtain ⟨c, rfl⟩ := hjj
    obtain ⟨c', j', ks', rfl, hp, hne⟩ := nextPunct_inv (hj c rfl)
    obtain ⟨f, rfl⟩ := Nat.exists_eq_succ_of_ne_zero (by simp at hf; omega : f ≠ 0)
    have hnd : Print.docChoice τ (i + 1) (K.punct c' j' :: ks') = none := by
      cases hd : Print.docChoice τ (i + 1) (K.punct c' j' :: ks') with
      | none => rfl
      | some p =>
        obtain ⟨inner, t, block, n, rest⟩ := p
        obtain ⟨s, -, hks, -⟩ := docChoice_some τ _ _ inner t block n rest hd
        exact absurd (K.punct.inj (List.cons.inj hks).1).1 hne
    simp only [AfterLeaf, Print.gapText, List.nil_append, Print.renderK, hnd, Print.spellWith,
      Print.spell, List.cons_append]
    exact punctNext_okPunct hp _
  · have hk' : ∀ c, k ≠ .punct c true := fun c e => hjj ⟨c, e⟩
    have := after_gap τ f i k ks hk' hks hf
    cases k with
    | punct c j =>
      cases j with
      | true => exact absurd rfl (hk' c)
      | false => exact this
    | _ => exact this

theorem runs_renderK (τ : Trivia) : ∀ (f i : Nat) (ks : List K) (st : List (Delim × Lex.Mark))
    (st' : List Delim), ks.length ≤ f → chk (st.map (·.1)) ks = some st' →
    ∃ (toks : List (K × Lex.Mark)) (st2 : List (Delim × Lex.Mark)),
      toks.map (·.1) = ks ∧ st2.map (·.1) = st' ∧ Runs (Print.renderK τ f i ks) st toks [] st2 := by
  intro f
  induction f with
  | zero =>
    intro i ks st st' hf h
    cases List.eq_nil_of_length_eq_zero (Nat.le_zero.1 hf)
    exact ⟨[], st, rfl, Option.some.inj h, .refl [] st⟩
  | succ f ih =>
    intro i ks st st' hf h
    cases ks with
    | nil => exact ⟨[], st, rfl, Option.some.inj h, .refl [] st⟩
    | cons k ks =>
      have hf' : ks.length ≤ f := by simp at hf; omega
      simp only [Print.renderK]
      cases hd : Print.docChoice τ i (k :: ks) with
      | some p =>
        -- a doc attribute written as a comment
        obtain ⟨inner, t, block, n, rest⟩ := p
        obtain ⟨s, rfl, hks, hok⟩ := docChoice_some τ i (k :: ks) inner t block n rest hd
        have hlen : rest.length ≤ f := by
          have := congrArg List.length hks
          have := docKs_length inner s
          simp only [List.length_cons, List.length_append] at *
          omega
        rw [hks, chk_docKs] at h
        obtain ⟨toks, st2, h1, h2, hr⟩ := ih (i + n) rest st st' hlen h
        obtain ⟨N, M, hdoc⟩ := runs_doc inner s.toList block
          (Print.gapText (.cl .bracket) rest.head? (τ.gap (i + n - 1)) ++ Print.renderK τ f (i + n) rest)
          hok
        refine ⟨Lex.docToks inner s.toList N M ++ toks, st2, ?_, h2, ?_⟩
        · rw [List.map_append, docToks_fst, h1, hks]
        · simp only [List.append_assoc]
          exact (hdoc st).trans ((runs_gap _ _ _ _ st).trans hr)
      | none =>
        simp only [List.append_assoc]
        obtain ⟨hk, hj, st1, hc, hleaf, hop, hcl⟩ := chk_cons_inv h
        have hks := tokOk_head_of_chk _ ks st' hc
        generalize hT : Print.gapText k ks.head? (τ.gap i) ++ Print.renderK τ f (i + 1) ks = T
        -- the token itself, which leaves the delimiter stack `st1`
        have hstep : ∃ m st1', st1'.map (·.1) = st1 ∧
            Runs (Print.spellWith τ i k ++ T) st [(k, m)] T st1' := by
          by_cases hl : isLeaf k = true
          · exact ⟨_, st, (hleaf hl).symm, runs_leaf τ i k hl hk T
              (hT ▸ afterLeaf_render τ f i k ks hj hks hf') st⟩
          · cases k with
            | op d =>
              refine ⟨_, _, by rw [List.map_cons, hop d rfl], runs_open d T st fun e => ?_⟩
              subst e hT
              exact isERROR_gap τ f i ks hks hf'
            | cl d =>
              cases st with
              | nil => cases hcl d rfl
              | cons p st0 =>
                obtain ⟨d', n0⟩ := p
                cases hcl d rfl
                exact ⟨_, st0, rfl, runs_close d' T n0 st0⟩
            | lit => cases hk
            | _ => exact absurd rfl hl
        obtain ⟨m, st1', hst1, hstep⟩ := hstep
        obtain ⟨toks, st2, h1, h2, hr⟩ := ih (i + 1) ks st1' st' hf' (hst1 ▸ hc)
        subst hT
        exact ⟨(k, m) :: toks, st2, by rw [List.map_cons, h1], h2,
          hstep.trans ((runs_gap _ _ _ _ st1').trans hr)⟩

theorem lexL_renderT (τ : Trivia) (ks : List K) (h : chk [] ks = some []) :
    ∃ ts, Lex.lexL (Print.piecesText τ.lead ++ Print.renderK τ ks.length 0 ks) = .ok ts ∧
      ts.map (·.k) = ks := by
  obtain ⟨toks, st2, h1, h2, hr⟩ := runs_renderK τ ks.length 0 ks [] [] (Nat.le_refl _) h
  cases List.map_eq_nil_iff.1 h2
  -- no byte order mark at the start
  have hbom : Lex.stripBom (Print.piecesText τ.lead ++ Print.renderK τ ks.length 0 ks)
      = Print.piecesText τ.lead ++ Print.renderK τ ks.length 0 ks := by
    by_cases hl : Print.piecesText τ.lead = []
    · rw [hl, List.nil_append]
      rcases renderK_cases τ ks.length 0 ks (tokOk_head_of_chk _ _ _ h) (Nat.le_refl _) with
        e | ⟨inner, t, block, rest, e⟩ | ⟨b, c, r, -, e, hh⟩
      · rw [e]; rfl
      · obtain ⟨d, r, hd, -⟩ := docText_head inner t block
        rw [e, hd]
        exact stripBom_of_lt (by decide) _
      · rw [e]
        exact stripBom_of_lt (head_facts hh).2.1 r
    · obtain ⟨c, r, hcr, hh⟩ := triviaHead_pieces τ.lead (Print.renderK τ ks.length 0 ks) hl
      rw [hcr]
      rcases hh with ⟨_, h2⟩ | ⟨rfl, _⟩
      · exact stripBom_of_lt h2 r
      · exact stripBom_of_lt (by decide) r
  have hrun := ((runs_pieces τ.lead _ []).trans hr).done
  refine ⟨toks.map fun p => ⟨p.1, Lex.posOfRem (Print.piecesText τ.lead ++ Print.renderK τ ks.length 0 ks) p.2.rem⟩, ?_, ?_⟩
  · simp only [Lex.lexL, hbom, hrun, List.nil_append]
  · simp only [List.map_map]
    rw [← h1]
    apply List.map_congr_left
    intro p _
    rfl

theorem weave_nil (ds : List Char) : Print.weave ds [] = ds := by
  induction ds with
  | nil => rfl
  | cons d ds ih => rw [Print.weave, ih]

theorem gapText_default (k : K) (b? : Option K) :
    Print.gapText k b? [.ws ' '] = Print.sepAfter k := by
  have ht : Print.piecesText [.ws ' '] = [' '] := by decide
  unfold Print.gapText Print.sepAfter
  split
  · rfl
  · cases b? with
    | none => simp only [ht]
    | some b => simp [ht]

theorem renderK_default (ks : List K) : ∀ f i, ks.length ≤ f →
    Print.renderK {} f i ks = Print.renderCanon ks := by
  induction ks with
  | nil => intro f i _; exact renderK_nil {} f i
  | cons k ks ih =>
    intro f i hf
    obtain ⟨f, rfl⟩ : ∃ g, f = g + 1 := ⟨f - 1, by simp at hf; omega⟩
    -- the default lay-out writes every doc attribute as an attribute
    have hd : Print.docChoice {} i (k :: ks) = none := by
      unfold Print.docChoice
      cases Print.docAttr? (k :: ks) <;> rfl
    have hs : Print.spellWith {} i k = Print.spell k := by
      cases k with
      | int v => simp [Print.spellWith, Print.spell, Print.spellInt, Print.decChars, Base.pre, Base.radix, weave_nil]
      | _ => rfl
    simp only [Print.renderK, hd, hs, Print.renderCanon]
    rw [ih f (i + 1) (by simpa using hf)]
    exact congrArg (Print.spell k ++ · ++ Print.renderCanon ks) (gapText_default k ks.head?)

theorem lexL_render (ks : List K) (h : chk [] ks = some []) :
    ∃ ts, Lex.lexL (Print.renderCanon ks) = .ok ts ∧ ts.map (·.k) = ks := by
  have := lexL_renderT {} ks h
  rwa [renderK_default ks _ 0 (Nat.le_refl _)] at this

end C18
end PyxisVerif
