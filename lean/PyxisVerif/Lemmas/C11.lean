import PyxisVerif.Spec.C11
namespace PyxisVerif.C11

theorem find_rev_eq_getLast_filter {α} (l : List α) (p : α → Bool) :
    l.reverse.find? p = (l.filter p).getLast? := by
  induction l with
  | nil => rfl
  | cons a l ih =>
    simp only [List.reverse_cons, List.find?_append, ih, List.filter_cons]
    by_cases h : p a = true
    · simp only [h, if_true, List.find?_cons_of_pos]
      cases hl : (l.filter p).getLast? with
      | none =>
        have : l.filter p = [] := by simpa [List.getLast?_eq_none_iff] using hl
        simp [this]
      | some x =>
        simp [List.getLast?_cons, hl]
    · simp only [h, Bool.false_eq_true, if_false]
      simp [List.find?_cons_of_neg, h]

/-- the counterexample registry: a type `a::b` and a type `a::b::b` -/
def cexReg : Registry :=
  let mk (p : Path) : ItemDef := { vis := .pub, path := p, state := .res { size := 1, align := 1, inner := .type {} }, cat := .defined }
  (({ ps := 4 } : Registry).add (mk ["a", "b"])).add (mk ["a", "b", "b"])

theorem find?_contains {α} (p : α → Bool) (l : List α) (x : α) (h : l.find? p = some x) : p x = true :=
  List.find?_some h

end PyxisVerif.C11
