import PyxisVerif.Model.Obs
import PyxisVerif.Lemmas.Res
/-!
# The stages of `pyxis::build`: equations and induction principles

`Case.run` = `Case.initialState` (a fold of `State.addModule` over `State.new`) followed by `State.build`
= `resolveLoop` (rounds of `runRound`, each a sequence of `attemptItem`) followed by the typing of the extern
values (`C20.buildFinish`).  Every whole-run argument carries something along these stages; the shape of the
stages is stated here once, about an arbitrary predicate, so that such an argument only has to say what one
`add_module` and one attempt do.  The loop is taken apart by the way a round ends (`resolveLoop_rounds`).
-/
namespace PyxisVerif

/-- the entries that are not resolved yet (the generated vftable items are never among them) -/
def State.nUnres (s : State) : Nat := (s.reg.types.filter fun e => !e.2.isResolved).length

namespace C20

/-- the step of the extern-value pass of `SemanticState::build` -/
def xvalPass (reg : Registry) (e : Path × Mod) : Res (Path × Mod) :=
  match resolveXVals reg e.2 with
  | .ok m => Res.ok (e.1, m)
  | x => x.cast

/-- `SemanticState::build` after the resolution loop -/
def buildFinish (o : BuildOutcome) : BuildOutcome :=
  match o with
  | .ok s1 =>
    match Res.mapM' (xvalPass s1.reg) s1.modules with
    | .ok ms => .ok { s1 with modules := ms }
    | .err m => .err m
    | .panic m => .panic m
    | .defer => .err "unreachable"
  | other => other

end C20
open C20 (xvalPass buildFinish)

theorem State.build_eq (s : State) (prio : List Path) :
    s.build prio = buildFinish (resolveLoop prio (2 * s.nUnres + 2) s) := by
  unfold State.build buildFinish State.nUnres
  simp only []
  generalize resolveLoop prio _ s = o
  cases o <;> rfl

theorem State.build_ok_inv {s : State} {prio : List Path} {s' : State} (h : s.build prio = .ok s') :
    ∃ s1 ms, resolveLoop prio (2 * s.nUnres + 2) s = .ok s1 ∧
      Res.mapM' (xvalPass s1.reg) s1.modules = .ok ms ∧ s' = { s1 with modules := ms } := by
  rw [State.build_eq] at h
  generalize resolveLoop prio _ s = o at h
  cases o with
  | ok s1 =>
    simp only [buildFinish] at h
    split at h
    · next ms hms => cases h; exact ⟨s1, ms, rfl, hms, rfl⟩
    all_goals cases h
  | _ => cases h

namespace C10

def keys (r : Registry) : List Path := r.types.map (·.1)

def ulist (r : Registry) : List Path :=
  (r.types.filter fun e => !e.2.isPredefined && !e.2.isResolved).map (·.1)

theorem unresolved_eq (r : Registry) (prio : List Path) :
    r.unresolved prio = (ulist r).mergeSort (prioLe prio) := rfl

end C10

theorem runRound_cons (s : State) (p : Path) (ps : List Path) :
    runRound s (p :: ps) = (match attemptItem s p with
      | (s1, .ok ()) => runRound s1 ps
      | (s1, e) => (s1, e)) := rfl

theorem runRound_induct {P : State → Prop} (step : ∀ s p, P s → P (attemptItem s p).1)
    (s : State) (l : List Path) (h : P s) : P (runRound s l).1 := by
  induction l generalizing s with
  | nil => exact h
  | cons p ps ih =>
    have h2 := step s p h
    rw [runRound_cons]
    split
    · next s1 ha => rw [ha] at h2; exact ih s1 h2
    · next s1 e _ ha => rw [ha] at h2; exact h2

theorem resolveLoop_rounds {prio : List Path} {P : Nat → State → BuildOutcome → Prop}
    (fuel : ∀ s, P 0 s .fuel)
    (done : ∀ n s, s.reg.unresolved prio = [] → P (n + 1) s (.ok s))
    (stuck : ∀ n s s1, s.reg.unresolved prio ≠ [] → runRound s (s.reg.unresolved prio) = (s1, .ok ()) →
      s.reg.unresolved prio = s1.reg.unresolved prio → s.reg.types.length = s1.reg.types.length →
      P (n + 1) s (.nonterm (s.reg.unresolved prio)))
    (next : ∀ n s s1 o, s.reg.unresolved prio ≠ [] → runRound s (s.reg.unresolved prio) = (s1, .ok ()) →
      ¬ (s.reg.unresolved prio = s1.reg.unresolved prio ∧ s.reg.types.length = s1.reg.types.length) →
      P n s1 o → P (n + 1) s o)
    (err : ∀ n s s1 m, runRound s (s.reg.unresolved prio) = (s1, .err m) → P (n + 1) s (.err m))
    (panic : ∀ n s s1 m, runRound s (s.reg.unresolved prio) = (s1, .panic m) → P (n + 1) s (.panic m))
    (defer : ∀ n s s1, runRound s (s.reg.unresolved prio) = (s1, .defer) → P (n + 1) s (.err "unreachable"))
    (n : Nat) (s : State) : P n s (resolveLoop prio n s) := by
  induction n generalizing s with
  | zero => exact fuel s
  | succ n ih =>
    unfold resolveLoop
    simp only []
    split
    · next he => exact done n s (List.isEmpty_iff.mp he)
    · next hne =>
      have hne' : s.reg.unresolved prio ≠ [] := fun e => hne (by rw [e]; rfl)
      split
      · next s1 hr =>
        split
        · next hc =>
          simp only [Bool.and_eq_true, beq_iff_eq] at hc
          exact stuck n s s1 hne' hr hc.1 hc.2
        · next hc =>
          refine next n s s1 _ hne' hr (fun h => hc ?_) (ih s1)
          simp only [Bool.and_eq_true, beq_iff_eq]
          exact h
      · next s1 m hr => exact err n s s1 m hr
      · next s1 m hr => exact panic n s s1 m hr
      · next s1 hr => exact defer n s s1 hr

theorem resolveLoop_induct {P : State → Prop} (round : ∀ s l, P s → P (runRound s l).1)
    {prio : List Path} {fuel : Nat} {s s' : State} (h : P s) (hl : resolveLoop prio fuel s = .ok s') : P s' := by
  refine resolveLoop_rounds (P := fun _ s o => P s → o = .ok s' → P s') (fun _ _ => nofun) ?_ (fun _ _ _ _ _ _ _ _ => nofun)
    ?_ (fun _ _ _ _ _ _ => nofun) (fun _ _ _ _ _ _ => nofun) (fun _ _ _ _ _ => nofun) fuel s h hl
  · intro _ s _ hs e
    cases e
    exact hs
  · intro _ s s1 o _ hr _ ih hs
    have h1 := round s (s.reg.unresolved prio) hs
    rw [hr] at h1
    exact ih h1

namespace C20

def caseStep (s : State) (me : ModEnt) : Res State :=
  match me with
  | .ast path _ m => s.addModule m path
  | .text _ _ => .err "tmodule: text modules are handled by the parser model"

theorem initialState_eq (c : Case) : c.initialState = Res.foldlM caseStep (State.new c.ps) c.modules := rfl

end C20

theorem Case.run_of_init {c : Case} {s : State} (h : c.initialState = .ok s) : c.run = s.build c.prio := by
  unfold Case.run
  rw [h]

theorem Case.run_ok_inv {c : Case} {s : State} (h : c.run = .ok s) :
    ∃ s0, c.initialState = .ok s0 ∧ s0.build c.prio = .ok s := by
  unfold Case.run at h
  split at h
  · next s0 h0 => exact ⟨s0, h0, h⟩
  all_goals cases h

theorem Case.initialState_induct {c : Case} {P : State → Prop} (new : P (State.new c.ps))
    (add : ∀ s s' path file m, .ast path file m ∈ c.modules → P s → s.addModule m path = .ok s' → P s')
    {s : State} (h : c.initialState = .ok s) : P s := by
  refine Res.foldlM_induct new ?_ h
  intro b me b' hme hb hstep
  cases me with
  | ast path file m => exact add b b' path file m hme hb hstep
  | text f t => cases hstep

/-- the induction principle of a whole run: a predicate established by `SemanticState::new`, kept by every
    `add_module` and by every attempt, holds of the state in which the resolution loop of an accepted case
    ends; the accepted state is that state with the extern values typed -/
theorem Case.run_induct {c : Case} {P : State → Prop} (new : P (State.new c.ps))
    (add : ∀ s s' path file m, .ast path file m ∈ c.modules → P s → s.addModule m path = .ok s' → P s')
    (step : ∀ s p, P s → P (attemptItem s p).1) {s : State} (h : c.run = .ok s) :
    ∃ s1 ms, P s1 ∧ Res.mapM' (xvalPass s1.reg) s1.modules = .ok ms ∧ s = { s1 with modules := ms } := by
  obtain ⟨s0, h0, hb⟩ := Case.run_ok_inv h
  obtain ⟨s1, ms, hl, hms, rfl⟩ := State.build_ok_inv hb
  exact ⟨s1, ms, resolveLoop_induct (runRound_induct step) (Case.initialState_induct new add h0) hl, hms, rfl⟩

end PyxisVerif
