import PyxisVerif.Props.C09Vft
/-!
# The order in which the modules of a case are added (helper lemmas for `Props/C09ModOrder.lean`)

`Case.initialState` folds `add_module` over `c.modules` in list order.  A permutation of that list (module paths pairwise
distinct) changes neither the verdict of `Case.run` nor the observations O2 / O3.

* **`add_module`, framed** (`addModule_transfer`): what a successful `add_module` does is to store a module `M` under its
  path and to put entries `E`, all directly under that path, in front of the registry; it does the same from any state
  with no more items under that path.
* **`MPerm`**: the same registry entries and stored modules in another order.  `add_module` respects it, two
  `add_module`s for different paths commute up to it, and `fold_perm` lifts this to any permutation of the module list
  (`C20.foldlM_perm`).
* **the build**: `MPerm` between states whose modules have distinct keys (`MPermD`) is a `C20.BuildRel` – the builder
  looks a module up by key –, so the resolution loop keeps it; the extern-value pass visits the modules in stored order,
  so which of its failures is reported may differ (`finish_mperm`, `VRel`).
* **stable sorting**: `List.mergeSort` is insertion sort (`mergeSort_cons_ins`), so exchanging adjacent elements, or
  adjacent blocks, that are not tied does not change the sorted list.
* **observations**: `sortS` is the state with its stored modules sorted (stably) by key; O2 and O3 of a state are those
  of the sorted state (the extern values are sorted by module path and name with a stable sort; for O3, when no two
  stored modules are written to the same file), and two `MPermD` states have the same sorted modules.
-/

namespace PyxisVerif.ModOrder
open C20

section sort
variable {α : Type} (le : α → α → Bool)

def ins (a : α) : List α → List α
  | [] => [a]
  | b :: bs => if le a b then a :: b :: bs else b :: ins a bs

theorem ins_split (a : α) (l₁ l₂ : List α) (h1 : ∀ b ∈ l₁, le a b = false)
    (h2 : ∀ b ∈ l₂.head?, le a b = true) : ins le a (l₁ ++ l₂) = l₁ ++ a :: l₂ := by
  induction l₁ with
  | nil =>
    cases l₂ with
    | nil => rfl
    | cons c l₂ =>
      simp only [List.nil_append, ins]
      rw [if_pos (h2 c (by simp))]
  | cons b l₁ ih =>
    simp only [List.cons_append, ins]
    rw [h1 b List.mem_cons_self]
    simp only [Bool.false_eq_true, if_false]
    rw [ih (fun c hc => h1 c (List.mem_cons_of_mem _ hc))]

variable (trans : ∀ (a b c : α), le a b = true → le b c = true → le a c = true)
variable (total : ∀ (a b : α), (le a b || le b a) = true)

include trans total in
theorem mergeSort_cons_ins (a : α) (l : List α) : (a :: l).mergeSort le = ins le a (l.mergeSort le) := by
  obtain ⟨l₁, l₂, h1, h2, h3⟩ := List.mergeSort_cons (le := le) (by simpa using trans) (by simpa using total) a l
  rw [h1, h2]
  symm
  apply ins_split
  · exact fun b hb => by simpa using h3 b hb
  · intro b hb
    have hs := List.pairwise_mergeSort (le := le) (by simpa using trans) (by simpa using total) (a :: l)
    rw [h1] at hs
    exact (List.pairwise_cons.mp (List.pairwise_append.mp hs).2.1).1 b (List.mem_of_mem_head? hb)

include trans in
theorem ins_comm (a b : α) (hab : le a b = true) (hba : le b a = false) (l : List α) :
    ins le a (ins le b l) = ins le b (ins le a l) := by
  induction l with
  | nil => simp [ins, hab, hba]
  | cons c l ih =>
    by_cases hbc : le b c = true
    · have hac := trans a b c hab hbc
      simp [ins, hbc, hac, hab, hba]
    · have hbc' : le b c = false := by simpa using hbc
      by_cases hac : le a c = true
      · simp [ins, hbc', hac, hba]
      · have hac' : le a c = false := by simpa using hac
        simp [ins, hbc', hac', ih]

include trans total in
theorem sort_swap (a b : α) (h : ¬ (le a b = true ∧ le b a = true)) (l : List α) :
    (a :: b :: l).mergeSort le = (b :: a :: l).mergeSort le := by
  rw [mergeSort_cons_ins le trans total a, mergeSort_cons_ins le trans total b l,
      mergeSort_cons_ins le trans total b, mergeSort_cons_ins le trans total a l]
  by_cases hab : le a b = true
  · exact ins_comm le trans a b hab (Bool.eq_false_iff.mpr fun hh => h ⟨hab, hh⟩) _
  · have hab' : le a b = false := by simpa using hab
    have hba : le b a = true := by simpa [hab'] using total a b
    exact (ins_comm le trans b a hba hab' _).symm

include trans total in
theorem sort_cons_congr (a : α) (l l' : List α) (h : l.mergeSort le = l'.mergeSort le) :
    (a :: l).mergeSort le = (a :: l').mergeSort le := by
  rw [mergeSort_cons_ins le trans total, mergeSort_cons_ins le trans total, h]

include trans total in
theorem sort_append_congr (x l l' : List α) (h : l.mergeSort le = l'.mergeSort le) :
    (x ++ l).mergeSort le = (x ++ l').mergeSort le := by
  induction x with
  | nil => exact h
  | cons a x ih => exact sort_cons_congr le trans total a _ _ ih

def Untied (a b : α) : Prop := ¬ (le a b = true ∧ le b a = true)

include trans total in
theorem sort_past (a : α) (y l : List α) (h : ∀ b ∈ y, Untied le a b) :
    (a :: (y ++ l)).mergeSort le = (y ++ a :: l).mergeSort le := by
  induction y with
  | nil => rfl
  | cons b y ih =>
    simp only [List.cons_append]
    rw [sort_swap le trans total a b (h b List.mem_cons_self)]
    exact sort_cons_congr le trans total b _ _ (ih (fun c hc => h c (List.mem_cons_of_mem _ hc)))

include trans total in
theorem sort_blocks (x y l : List α) (h : ∀ a ∈ x, ∀ b ∈ y, Untied le a b) :
    (x ++ (y ++ l)).mergeSort le = (y ++ (x ++ l)).mergeSort le := by
  induction x with
  | nil => rfl
  | cons a x ih =>
    simp only [List.cons_append]
    rw [sort_cons_congr le trans total a _ _ (ih (fun c hc => h c (List.mem_cons_of_mem _ hc)))]
    exact sort_past le trans total a y (x ++ l) (h a List.mem_cons_self)

end sort

def keyLe (a b : Path × Mod) : Bool := Path.le a.1 b.1

theorem keyLe_trans (a b c : Path × Mod) (h1 : keyLe a b = true) (h2 : keyLe b c = true) : keyLe a c = true :=
  ple_trans _ _ _ h1 h2

theorem keyLe_total (a b : Path × Mod) : (keyLe a b || keyLe b a) = true := ple_total _ _

def sortMods (ms : List (Path × Mod)) : List (Path × Mod) := ms.mergeSort keyLe

def sortS (s : State) : State := { s with modules := sortMods s.modules }

theorem sortMods_cons (e : Path × Mod) (ms : List (Path × Mod)) :
    sortMods (e :: ms) = ins keyLe e (sortMods ms) :=
  mergeSort_cons_ins keyLe keyLe_trans keyLe_total e ms

theorem sortMods_perm (ms : List (Path × Mod)) : (sortMods ms).Perm ms := List.mergeSort_perm ms keyLe

theorem sortS_setReg (s : State) (r : Registry) : sortS { s with reg := r } = { sortS s with reg := r } := rfl

def mkState (s : State) (path : Path) (E : List (Path × ItemDef)) (M : Mod) : State :=
  { modules := (path, M) :: s.modules.filter (fun e => e.1 != path),
    reg := { types := E ++ s.reg.types, ps := s.reg.ps } }

theorem putModule_eq_mkState (s : State) (path : Path) (M : Mod) : s.putModule path M = mkState s path [] M := rfl

theorem mkState_get (s : State) (path : Path) (E : List (Path × ItemDef)) (M : Mod) (q : Path) :
    (mkState s path E M).reg.get q = (List.lookup q E).or (s.reg.get q) := by
  simp only [mkState, Registry.get, List.lookup_append]

theorem filter_ne_of_lookup_none {β} (l : List (Path × β)) (k : Path) (h : List.lookup k l = none) :
    l.filter (fun e => e.1 != k) = l := by
  rw [List.filter_eq_self]
  intro e he
  exact bne_iff_ne.mpr (bne_iff_ne.mp (List.lookup_eq_none_iff.mp h e he)).symm

theorem gAdd_mkState (s : State) (path : Path) (E : List (Path × ItemDef)) (M : Mod) (i : ItemDef) (n : String)
    (hi : i.path = path ++ [n]) :
    gAdd (mkState s path E M) i =
      if (mkState s path E M).reg.contains i.path then .err "item is defined more than once"
      else .ok (mkState s path ((i.path, i) :: E) { M with defPaths := insPath i.path M.defPaths }) := by
  unfold gAdd
  by_cases hc : (mkState s path E M).reg.contains i.path = true
  · rw [if_pos hc, if_pos hc]
  · rw [if_neg hc, if_neg hc]
    have hm : (mkState s path E M).getModule path = some M := by
      simp [mkState, State.getModule]
    rw [addItem_closed (mkState s path E M) i path n M hi hm]
    have hnone : List.lookup i.path (E ++ s.reg.types) = none := by
      have : (mkState s path E M).reg.contains i.path = false := by simpa using hc
      simpa [Registry.contains, Registry.get, mkState] using this
    congr 1
    simp only [mkState, Registry.add, State.mk.injEq, Registry.mk.injEq, and_true]
    refine ⟨?_, ?_⟩
    · simp only [List.map_cons, updMod, beq_self_eq_true, if_true, List.cons.injEq, true_and]
      refine (List.map_congr_left fun e he => ?_).trans (List.map_id _)
      have : (e.1 == path) = false := by simpa using (List.mem_filter.mp he).2
      simp only [updMod, this, Bool.false_eq_true, if_false, id]
    · rw [filter_ne_of_lookup_none _ _ hnone]
      rfl

def NoMoreUnder (path : Path) (s s' : State) : Prop :=
  ∀ q, Path.parent? q = some path → s.reg.get q = none → s'.reg.get q = none

theorem fold_transfer {α} (path : Path) (f : State → α → Res State) (hf : IsG path f) (s s' : State)
    (hfr : NoMoreUnder path s s') (l : List α) (E : List (Path × ItemDef)) (M : Mod) (t : State)
    (hE : ∀ e ∈ E, Path.parent? e.1 = some path)
    (h : Res.foldlM f (mkState s path E M) l = .ok t) :
    ∃ E' M', t = mkState s path E' M' ∧ Res.foldlM f (mkState s' path E M) l = .ok (mkState s' path E' M') ∧
      (∀ e ∈ E', Path.parent? e.1 = some path) := by
  induction l generalizing E M with
  | nil =>
    simp only [Res.foldlM, Res.ok.injEq] at h
    exact ⟨E, M, h.symm, rfl, hE⟩
  | cons a l ih =>
    obtain ⟨u1, h1, h2⟩ := Res.foldlM_cons_ok.mp h
    rcases hf a with ⟨i, n, hi, hfa⟩ | ⟨e, hne, hfa⟩
    · rw [hfa, gAdd_mkState s path E M i n hi] at h1
      cases hc : (mkState s path E M).reg.contains i.path with
      | true => rw [hc, if_pos rfl] at h1; cases h1
      | false =>
        rw [hc] at h1
        simp only [Bool.false_eq_true, if_false, Res.ok.injEq] at h1
        subst h1
        have hpar : Path.parent? i.path = some path := hi ▸ Path.parent?_concat path n
        have hc' : (mkState s' path E M).reg.contains i.path = false := by
          simp only [Registry.contains, mkState_get, Option.isSome_eq_false_iff, Option.isNone_iff_eq_none,
            Option.or_eq_none_iff] at hc ⊢
          exact ⟨hc.1, hfr i.path hpar hc.2⟩
        obtain ⟨E', M', e1, e2, e3⟩ := ih _ _ (List.forall_mem_cons.mpr ⟨hpar, hE⟩) h2
        refine ⟨E', M', e1, Res.foldlM_cons_ok.mpr ⟨_, ?_, e2⟩, e3⟩
        rw [hfa, gAdd_mkState s' path E M i n hi, hc']
        rfl
    · rw [hfa] at h1
      exact (hne u1 h1).elim

theorem addModule_transfer (s s' : State) (m : G.Module) (path : Path) (t : State)
    (h : s.addModule m path = .ok t) (hfr : NoMoreUnder path s s') :
    ∃ E M, t = mkState s path E M ∧ s'.addModule m path = .ok (mkState s' path E M) ∧
      (∀ e ∈ E, Path.parent? e.1 = some path) := by
  rw [addModule_eq] at h ⊢
  obtain ⟨xvals, hx, h⟩ := Res.bind_eq_ok.mp h
  obtain ⟨doc, hd, h⟩ := Res.bind_eq_ok.mp h
  rw [hx]
  cases hdoc : G.docOf m.attrs with
  | none => rw [hdoc] at hd; cases hd
  | some doc' =>
    rw [hdoc] at hd
    cases hd
    cases hc : implCheck m with
    | true => rw [hc, if_pos rfl] at h; cases h
    | false =>
      rw [hc] at h
      simp only [Res.bind, Bool.false_eq_true, if_false] at h ⊢
      unfold addCore at h ⊢
      rw [putModule_eq_mkState] at h ⊢
      obtain ⟨s2, h1, h2⟩ := Res.bind_eq_ok.mp h
      obtain ⟨E1, M1, rfl, e2, e3⟩ := fold_transfer path _ (defStep_isG path) s s' hfr m.defs [] _ s2
        (fun e he => by cases he) h1
      obtain ⟨E2, M2, f1, f2, f3⟩ := fold_transfer path _ (xtypeStep_isG path) s s' hfr m.xtypes E1 M1 t e3 h2
      refine ⟨E2, M2, f1, ?_, f3⟩
      rw [e2]
      exact f2

structure MPerm (s s' : State) : Prop where
  ps : s'.reg.ps = s.reg.ps
  get : ∀ q, s'.reg.get q = s.reg.get q
  perm : s'.reg.types.Perm s.reg.types
  mods : s'.modules.Perm s.modules

theorem MPerm.refl (s : State) : MPerm s s := ⟨rfl, fun _ => rfl, List.Perm.refl _, List.Perm.refl _⟩

theorem MPerm.trans {s1 s2 s3 : State} (h1 : MPerm s1 s2) (h2 : MPerm s2 s3) : MPerm s1 s3 :=
  ⟨h2.ps.trans h1.ps, fun q => (h2.get q).trans (h1.get q), h2.perm.trans h1.perm, h2.mods.trans h1.mods⟩

theorem MPerm.symm {s1 s2 : State} (h : MPerm s1 s2) : MPerm s2 s1 :=
  ⟨h.ps.symm, fun q => (h.get q).symm, h.perm.symm, h.mods.symm⟩

theorem MPerm.mkState {s s' : State} (h : MPerm s s') (path : Path) (E : List (Path × ItemDef)) (M : Mod) :
    MPerm (mkState s path E M) (mkState s' path E M) := by
  refine ⟨h.ps, ?_, ?_, ?_⟩
  · intro q
    rw [mkState_get, mkState_get, h.get]
  · exact List.Perm.append_left E h.perm
  · exact List.Perm.cons _ (h.mods.filter _)

theorem parent_of_lookup (E : List (Path × ItemDef)) (path : Path) (hE : ∀ e ∈ E, Path.parent? e.1 = some path)
    (q : Path) (v : ItemDef) (h : List.lookup q E = some v) : Path.parent? q = some path :=
  hE (q, v) (C14.mem_of_lookup E q v h)

theorem mkState_comm (s : State) (p1 p2 : Path) (hne : p1 ≠ p2) (E1 E2 : List (Path × ItemDef)) (M1 M2 : Mod)
    (h1 : ∀ e ∈ E1, Path.parent? e.1 = some p1) (h2 : ∀ e ∈ E2, Path.parent? e.1 = some p2) :
    MPerm (mkState (mkState s p1 E1 M1) p2 E2 M2) (mkState (mkState s p2 E2 M2) p1 E1 M1) := by
  refine ⟨rfl, ?_, ?_, ?_⟩
  · intro q
    simp only [mkState_get]
    cases hl1 : List.lookup q E1 with
    | none =>
      cases hl2 : List.lookup q E2 <;> rfl
    | some v1 =>
      cases hl2 : List.lookup q E2 with
      | none => rfl
      | some v2 =>
        have a := parent_of_lookup E1 p1 h1 q v1 hl1
        have b := parent_of_lookup E2 p2 h2 q v2 hl2
        rw [a] at b
        exact (hne (Option.some.inj b)).elim
  · exact List.perm_append_comm_assoc E1 E2 s.reg.types
  · have k1 : ((p1, M1).1 != p2) = true := by simpa using hne
    have k2 : ((p2, M2).1 != p1) = true := by simpa using fun e : p2 = p1 => hne e.symm
    simp only [mkState, List.filter_cons, k1, k2, if_true, List.filter_filter]
    have : (fun a : Path × Mod => a.1 != p1 && a.1 != p2) = (fun a : Path × Mod => a.1 != p2 && a.1 != p1) := by
      funext a; exact Bool.and_comm _ _
    rw [this]
    exact List.Perm.swap _ _ _

theorem addModule_mperm {s s' : State} (h : MPerm s s') (m : G.Module) (path : Path) (t : State)
    (ht : s.addModule m path = .ok t) : ∃ t', s'.addModule m path = .ok t' ∧ MPerm t t' := by
  obtain ⟨E, M, e1, e2, _⟩ := addModule_transfer s s' m path t ht (fun q _ hq => by rw [h.get]; exact hq)
  exact ⟨_, e2, e1 ▸ h.mkState path E M⟩

theorem addModule_comm (s t1 t12 : State) (m1 m2 : G.Module) (p1 p2 : Path) (hne : p1 ≠ p2)
    (h1 : s.addModule m1 p1 = .ok t1) (h2 : t1.addModule m2 p2 = .ok t12) :
    ∃ t2 t21, s.addModule m2 p2 = .ok t2 ∧ t2.addModule m1 p1 = .ok t21 ∧ MPerm t12 t21 := by
  obtain ⟨E1, M1, a1, _, a3⟩ := addModule_transfer s s m1 p1 t1 h1 (fun q _ hq => hq)
  have hfr2 : NoMoreUnder p2 t1 s := by
    intro q _ hq
    rw [a1, mkState_get, Option.or_eq_none_iff] at hq
    exact hq.2
  obtain ⟨E2, M2, b1, b2, b3⟩ := addModule_transfer t1 s m2 p2 t12 h2 hfr2
  have hfr1 : NoMoreUnder p1 s (mkState s p2 E2 M2) := by
    intro q hpar hq
    rw [mkState_get, hq]
    cases hl : List.lookup q E2 with
    | none => rfl
    | some v =>
      have := parent_of_lookup E2 p2 b3 q v hl
      rw [hpar] at this
      exact (hne (Option.some.inj this)).elim
  obtain ⟨E1', M1', c1, c2, c3⟩ := addModule_transfer s (mkState s p2 E2 M2) m1 p1 t1 h1 hfr1
  refine ⟨_, _, b2, c2, ?_⟩
  rw [b1, c1]
  exact mkState_comm s p1 p2 hne E1' E2 M1' M2 c3 b3

theorem caseStep_mperm {s s' : State} (h : MPerm s s') (me : ModEnt) (t : State) (ht : caseStep s me = .ok t) :
    ∃ t', caseStep s' me = .ok t' ∧ MPerm t t' := by
  cases me with
  | ast path file m => exact addModule_mperm h m path t ht
  | text f x => cases ht

open CaseLift2 in
/-- **the modules of a case can be added in any order** (paths pairwise distinct): if one order is accepted so is the
    other, and the two states differ in the order of the registry entries and of the stored modules only -/
theorem fold_perm (l l' : List ModEnt) (hp : l.Perm l') (hnd : (astPaths l).Nodup) (s s' t : State)
    (h : MPerm s s') (ht : Res.foldlM caseStep s l = .ok t) :
    ∃ t', Res.foldlM caseStep s' l' = .ok t' ∧ MPerm t t' := by
  refine foldlM_perm (f := caseStep) (J := fun _ => True) MPerm.refl MPerm.trans
    (fun hd p hp q hq e => hd q hq p hp e.symm) (fun _ _ => trivial)
    (fun _ hr hf => caseStep_mperm hr _ _ hf) ?_ hp (List.pairwise_filterMap.mp hnd) trivial h ht
  intro b x y c1 c _ hd h1 h2
  cases x with
  | text f z => cases h1
  | ast p1 f1 m1 =>
    cases y with
    | text f z => cases h2
    | ast p2 f2 m2 => exact addModule_comm b c1 c m1 m2 p1 p2 (hd p1 rfl p2 rfl) h1 h2

theorem lookup_perm {β} {l l' : List (Path × β)} (hp : l'.Perm l) (hn : (l.map (·.1)).Nodup) (q : Path) :
    List.lookup q l' = List.lookup q l := by
  have hn' : (l'.map (·.1)).Nodup := (hp.map _).symm.nodup hn
  cases h : List.lookup q l with
  | some v =>
    exact CaseLift2.lookup_of_mem_nodup l' hn' q v (hp.mem_iff.mpr (C14.mem_of_lookup l q v h))
  | none =>
    cases h' : List.lookup q l' with
    | none => rfl
    | some v =>
      rw [CaseLift2.lookup_of_mem_nodup l hn q v (hp.mem_iff.mp (C14.mem_of_lookup l' q v h'))] at h
      cases h

theorem inj_of_nodup_map {α β} (f : α → β) (l : List α) (h : (l.map f).Nodup) :
    ∀ a ∈ l, ∀ b ∈ l, f a = f b → a = b := by
  induction l with
  | nil => intro a ha; cases ha
  | cons x l ih =>
    simp only [List.map_cons, List.nodup_cons] at h
    intro a ha b hb hab
    rcases List.mem_cons.mp ha with rfl | ha' <;> rcases List.mem_cons.mp hb with rfl | hb'
    · rfl
    · exact (h.1 (hab ▸ List.mem_map_of_mem hb')).elim
    · exact (h.1 (hab ▸ List.mem_map_of_mem ha')).elim
    · exact ih h.2 a ha' b hb' hab

def MPermD (s s' : State) : Prop := MPerm s s' ∧ (s.modules.map (·.1)).Nodup

theorem MPermD.getModule {s s' : State} (h : MPermD s s') (q : Path) : s'.getModule q = s.getModule q :=
  lookup_perm h.1.mods h.2 q

theorem mpermD_buildRel : BuildRel MPermD where
  sim h := ⟨h.1.ps, h.1.perm.length_eq, fun q => by rw [h.1.get]⟩
  moduleFor h q := by
    unfold State.moduleFor
    cases Path.parent? q with
    | none => rfl
    | some parent => simp only [h.getModule parent]
  addItem := by
    intro s s' i _ h _
    unfold State.addItem
    cases Path.parent? i.path with
    | none => exact .err _
    | some parent =>
      simp only [h.getModule]
      cases s.getModule parent with
      | none => exact .err _
      | some m =>
        refine .ok ⟨⟨h.1.ps, fun q => by simp only [C14.get_add, h.1.get],
          List.Perm.cons _ (h.1.perm.filter _), h.1.mods.map _⟩, ?_⟩
        have : ∀ ms : List (Path × Mod), (ms.map fun e => if e.1 == parent then
            (e.1, { m with defPaths := if m.defPaths.contains i.path then m.defPaths else i.path :: m.defPaths })
            else e).map (·.1) = ms.map (·.1) := by
          intro ms
          rw [List.map_map]
          apply List.map_congr_left
          intro e _
          simp only [Function.comp]
          split <;> rfl
        rw [this]
        exact h.2
  setState q x h := ⟨⟨h.1.ps, fun k => by simp only [C12.get_setState, h.1.get],
    by simp only [Registry.setState]; exact h.1.perm.map _, h.1.mods⟩, h.2⟩

theorem mpermD_loopRel : LoopRel MPermD :=
  mpermD_buildRel.loopRel (fun h => h.1.get) (fun h prio => unresolved_order_lem _ _ prio h.1.perm)
    (fun h => (h.1.perm.filter _).length_eq)

def okOr {α} (g : α → Res α) (a : α) : α := match g a with | .ok b => b | _ => a

theorem mapM'_eq_map {α} (g : α → Res α) (l l2 : List α) (h : Res.mapM' g l = .ok l2) :
    l2 = l.map (okOr g) ∧ ∀ a ∈ l, ∃ b, g a = .ok b := by
  refine Res.mapM'_induct (P := fun l l2 => l2 = l.map (okOr g) ∧ ∀ a ∈ l, ∃ b, g a = .ok b)
    ⟨rfl, fun a ha => by cases ha⟩ ?_ h
  intro a b as bs hb _ ⟨e1, e2⟩
  refine ⟨by simp only [List.map_cons, okOr, hb, ← e1], fun x hx => ?_⟩
  rcases List.mem_cons.mp hx with rfl | hx
  · exact ⟨b, hb⟩
  · exact e2 x hx

theorem mapM'_of_all {α} (g : α → Res α) (l : List α) (h : ∀ a ∈ l, ∃ b, g a = .ok b) :
    Res.mapM' g l = .ok (l.map (okOr g)) := by
  induction l with
  | nil => rfl
  | cons a l ih =>
    obtain ⟨b, hb⟩ := h a List.mem_cons_self
    unfold Res.mapM'
    rw [hb, ih (fun x hx => h x (List.mem_cons_of_mem _ hx))]
    simp only [List.map_cons, okOr, hb]

theorem okOr_xvalPass_key (reg : Registry) (e : Path × Mod) : (okOr (xvalPass reg) e).1 = e.1 := by
  unfold okOr xvalPass
  cases resolveXVals reg e.2 <;> rfl

def bothFailed : BuildOutcome → BuildOutcome → Prop
  | .err _, .err _ => True
  | .err _, .panic _ => True
  | .panic _, .err _ => True
  | .panic _, .panic _ => True
  | _, _ => False

def SortRel (o o' : BuildOutcome) : Prop :=
  (∃ a, o = .ok a ∧ o' = .ok (sortS a)) ∨ (∃ l, o = .nonterm l ∧ o' = .nonterm l) ∨ (o = .fuel ∧ o' = .fuel) ∨
    bothFailed o o'

theorem SortRel.of_mapO (o : BuildOutcome) (h : ∀ a, o ≠ .ok a) : SortRel (buildFinish o) (buildFinish (mapO sortS o)) := by
  cases o with
  | ok a => exact (h a rfl).elim
  | nonterm l => exact Or.inr (Or.inl ⟨l, rfl, rfl⟩)
  | err m => exact Or.inr (Or.inr (Or.inr trivial))
  | panic m => exact Or.inr (Or.inr (Or.inr trivial))
  | fuel => exact Or.inr (Or.inr (Or.inl ⟨rfl, rfl⟩))

/-- the verdicts of a case and of the same case with its modules in another order -/
def VRel : BuildOutcome → BuildOutcome → Prop
  | .ok a, .ok b => MPermD a b
  | .nonterm l, .nonterm l' => l' = l
  | .fuel, .fuel => True
  | .err _, .err _ => True
  | .err _, .panic _ => True
  | .panic _, .err _ => True
  | .panic _, .panic _ => True
  | _, _ => False

theorem VRel.of_ok {a : State} {o' : BuildOutcome} (h : VRel (.ok a) o') : ∃ b, o' = .ok b ∧ MPermD a b := by
  cases o' with
  | ok b => exact ⟨b, rfl, h⟩
  | _ => exact h.elim

theorem vrel_of_failed {o1 o4 : BuildOutcome} (h1 : ∃ m, o1 = .err m ∨ o1 = .panic m)
    (h4 : ∃ m, o4 = .err m ∨ o4 = .panic m) : VRel o1 o4 := by
  obtain ⟨m, h1⟩ := h1
  obtain ⟨m', h4⟩ := h4
  rcases h1 with rfl | rfl <;> rcases h4 with rfl | rfl <;> trivial

theorem finishMods_failed (s1 : State) (x : Res (List (Path × Mod))) (h : ∀ ms, x ≠ .ok ms) :
    ∃ m, finishMods s1 x = .err m ∨ finishMods s1 x = .panic m := by
  cases x with
  | ok ms => exact (h ms rfl).elim
  | defer => exact ⟨_, Or.inl rfl⟩
  | err m => exact ⟨m, Or.inl rfl⟩
  | panic m => exact ⟨m, Or.inr rfl⟩

/-- the extern-value pass visits the stored modules in order: on the same modules in another order it succeeds too,
    with the same modules, or fails too – perhaps at another module -/
theorem finish_mperm {s1 s1' : State} (h : MPermD s1 s1') :
    VRel (buildFinish (.ok s1)) (buildFinish (.ok s1')) := by
  have hsim : RegSim s1.reg s1'.reg := mpermD_buildRel.sim h
  rw [buildFinish_ok, buildFinish_ok, xvalPass_sim hsim]
  have hiff : ∀ {l : List (Path × Mod)}, (∃ ms, Res.mapM' (xvalPass s1.reg) l = .ok ms) ↔
      ∀ a ∈ l, ∃ b, xvalPass s1.reg a = .ok b :=
    ⟨fun ⟨ms, hm⟩ => (mapM'_eq_map _ _ ms hm).2, fun hall => ⟨_, mapM'_of_all _ _ hall⟩⟩
  by_cases hok : ∃ ms, Res.mapM' (xvalPass s1.reg) s1.modules = .ok ms
  · obtain ⟨ms, hm⟩ := hok
    obtain ⟨e1, e2⟩ := mapM'_eq_map _ _ ms hm
    rw [hm, mapM'_of_all _ _ (fun a ha => e2 a (h.1.mods.mem_iff.mp ha)), e1]
    refine ⟨⟨h.1.ps, h.1.get, h.1.perm, h.1.mods.map _⟩, ?_⟩
    show ((s1.modules.map (okOr (xvalPass s1.reg))).map (·.1)).Nodup
    rw [List.map_map]
    have : ((fun e : Path × Mod => e.1) ∘ okOr (xvalPass s1.reg)) = fun e => e.1 :=
      funext (okOr_xvalPass_key s1.reg)
    rw [this]
    exact h.2
  · refine vrel_of_failed (finishMods_failed s1 _ (fun ms e => hok ⟨ms, e⟩))
      (finishMods_failed s1' _ (fun ms' e => hok ?_))
    exact hiff.mpr (fun a ha => hiff.mp ⟨ms', e⟩ a (h.1.mods.mem_iff.mpr ha))

/-- the order of `Obs.resolvedS` on extern values: module path, then name -/
abbrev xvLe : Path × XValue → Path × XValue → Bool := fun a b =>
  if Path.lt a.1 b.1 then true else if Path.lt b.1 a.1 then false else a.2.name ≤ b.2.name

theorem plt_irrefl (a : Path) : Path.lt a a = false := by
  cases h : Path.lt a a with
  | false => rfl
  | true => have := plt_asymm a a h; rw [h] at this; cases this

theorem plt_trans (a b c : Path) (h1 : Path.lt a b = true) (h2 : Path.lt b c = true) : Path.lt a c = true := by
  rcases plt_negtrans a c b h1 with h | h
  · exact h
  · have := plt_asymm b c h2; rw [h] at this; cases this

theorem xvLe_total (a b : Path × XValue) : (xvLe a b || xvLe b a) = true := by
  unfold xvLe
  cases h1 : Path.lt a.1 b.1 with
  | true => simp
  | false =>
    cases h2 : Path.lt b.1 a.1 with
    | true => simp
    | false =>
      simp only [Bool.false_eq_true, if_false, Bool.or_eq_true, decide_eq_true_eq]
      exact String.le_total _ _

theorem xvLe_trans (a b c : Path × XValue) (hab : xvLe a b = true) (hbc : xvLe b c = true) : xvLe a c = true := by
  unfold xvLe at *
  cases h1 : Path.lt a.1 b.1 with
  | true =>
    cases h2 : Path.lt b.1 c.1 with
    | true => simp [plt_trans _ _ _ h1 h2]
    | false =>
      cases h3 : Path.lt c.1 b.1 with
      | true => simp [h2, h3] at hbc
      | false =>
        have e := plt_antisymm _ _ h2 h3
        rw [← e]
        simp [h1]
  | false =>
    cases h1' : Path.lt b.1 a.1 with
    | true => simp [h1, h1'] at hab
    | false =>
      have e := plt_antisymm _ _ h1 h1'
      simp only [h1, h1', Bool.false_eq_true, if_false, decide_eq_true_eq] at hab
      rw [e]
      cases h2 : Path.lt b.1 c.1 with
      | true => simp
      | false =>
        cases h3 : Path.lt c.1 b.1 with
        | true => simp [h2, h3] at hbc
        | false =>
          simp only [h2, h3, Bool.false_eq_true, if_false, decide_eq_true_eq] at hbc ⊢
          exact String.le_trans hab hbc

abbrev xvOf : Path × Mod → List (Path × XValue) := fun e => e.2.xvals.map fun x => (e.1, x)

theorem xv_untied (e b : Path × Mod) (h : keyLe e b = false) : ∀ x ∈ xvOf b, ∀ y ∈ xvOf e, Untied xvLe x y := by
  intro x hx y hy hxy
  obtain ⟨x0, _, rfl⟩ := List.mem_map.mp hx
  obtain ⟨y0, _, rfl⟩ := List.mem_map.mp hy
  have hlt : Path.lt b.1 e.1 = true := by
    unfold keyLe Path.le at h
    simpa using h
  have := hxy.2
  simp only [xvLe, plt_asymm _ _ hlt, hlt, Bool.false_eq_true, if_false, if_true] at this

theorem sort_flatMap_ins (e : Path × Mod) (l : List (Path × Mod)) :
    ((ins keyLe e l).flatMap xvOf).mergeSort xvLe = (xvOf e ++ l.flatMap xvOf).mergeSort xvLe := by
  induction l with
  | nil => rfl
  | cons b l ih =>
    simp only [ins]
    by_cases hle : keyLe e b = true
    · rw [if_pos hle]; rfl
    · rw [if_neg hle]
      have hle' : keyLe e b = false := by simpa using hle
      simp only [List.flatMap_cons]
      rw [sort_append_congr xvLe xvLe_trans xvLe_total (xvOf b) _ _ ih]
      exact sort_blocks xvLe xvLe_trans xvLe_total (xvOf b) (xvOf e) (l.flatMap xvOf) (xv_untied e b hle')

theorem sort_flatMap_sortMods (ms : List (Path × Mod)) :
    ((sortMods ms).flatMap xvOf).mergeSort xvLe = (ms.flatMap xvOf).mergeSort xvLe := by
  induction ms with
  | nil => simp [sortMods]
  | cons e ms ih =>
    rw [sortMods_cons, sort_flatMap_ins, List.flatMap_cons]
    exact sort_append_congr xvLe xvLe_trans xvLe_total (xvOf e) _ _ ih

/-- **O2 does not see the order of the stored modules** -/
theorem resolvedS_sortS (s : State) (hk : WK s.reg) : Obs.resolvedS (sortS s) = Obs.resolvedS s := by
  have hx : Emit.sortBy xvLe ((sortS s).modules.flatMap xvOf) = Emit.sortBy xvLe (s.modules.flatMap xvOf) :=
    sort_flatMap_sortMods s.modules
  have hperm : ((sortS s).modules.flatMap fun e => e.2.defPaths.filterMap (sortS s).reg.get).Perm
      (s.modules.flatMap fun e => e.2.defPaths.filterMap s.reg.get) :=
    (sortMods_perm s.modules).flatMap_right _
  have hsort := sortBy_path_perm (hperm.filter (!·.isPredefined)) s.reg.get (fun x hx => by
    obtain ⟨e, _, hxe⟩ := List.mem_flatMap.mp (List.mem_filter.mp hx).1
    obtain ⟨q, _, hq⟩ := List.mem_filterMap.mp hxe
    have hq' : s.reg.get q = some x := hq
    rw [hk q x hq']
    exact hq')
  unfold Obs.resolvedS
  simp only []
  rw [hsort, hx]

def FilesInj (ms : List (Path × Mod)) : Prop :=
  ∀ a ∈ ms, ∀ b ∈ ms, a.1 ≠ [] → b.1 ≠ [] → Emit.relFile a.1 = Emit.relFile b.1 → a.1 = b.1

theorem fileLe_trans (a b c : Path × Mod) (h1 : fileLe a b = true) (h2 : fileLe b c = true) : fileLe a c = true := by
  simp only [fileLe, decide_eq_true_eq] at *
  exact String.le_trans h1 h2

theorem fileLe_total (a b : Path × Mod) : (fileLe a b || fileLe b a) = true := by
  simp only [fileLe, Bool.or_eq_true, decide_eq_true_eq]
  exact String.le_total _ _

/-- **O3 does not see the order of the stored modules**, when no two of them are written to the same file -/
theorem files_sortS (s : State) (hkeys : (s.modules.map (·.1)).Nodup) (hinj : FilesInj s.modules) :
    Emit.files (sortS s) = Emit.files s := by
  unfold Emit.files
  simp only []
  have hsort : Emit.sortBy fileLe ((sortS s).modules.filter fun e => !e.1.isEmpty)
      = Emit.sortBy fileLe (s.modules.filter fun e => !e.1.isEmpty) := by
    unfold Emit.sortBy
    apply mergeSort_perm_eq
    · exact fileLe_trans
    · exact fileLe_total
    · exact (sortMods_perm s.modules).filter _
    · intro a b ha hb h1 h2
      have ha' := List.mem_filter.mp ha
      have hb' := List.mem_filter.mp hb
      have ma : a ∈ s.modules := (sortMods_perm s.modules).mem_iff.mp ha'.1
      have mb : b ∈ s.modules := (sortMods_perm s.modules).mem_iff.mp hb'.1
      have na : a.1 ≠ [] := fun e => by simpa [e] using ha'.2
      have nb : b.1 ≠ [] := fun e => by simpa [e] using hb'.2
      simp only [fileLe, decide_eq_true_eq] at h1 h2
      exact inj_of_nodup_map (·.1) _ hkeys a ma b mb (hinj a ma b mb na nb (String.le_antisymm h1 h2))
  rw [hsort]
  rfl

theorem sortMods_eq_of_perm (ms ms' : List (Path × Mod)) (hp : ms'.Perm ms) (hk : (ms.map (·.1)).Nodup) :
    sortMods ms' = sortMods ms := by
  unfold sortMods
  apply mergeSort_perm_eq keyLe keyLe_trans keyLe_total ms' ms hp
  intro a b ha hb h1 h2
  have hk' : (ms'.map (·.1)).Nodup := (hp.map _).symm.nodup hk
  exact inj_of_nodup_map (·.1) ms' hk' a ha b hb (ple_antisymm a.1 b.1 h1 h2)

theorem MPermD.sortS_modules {s s' : State} (h : MPermD s s') : (sortS s').modules = (sortS s).modules :=
  sortMods_eq_of_perm s.modules s'.modules h.1.mods h.2

/-- two final states of reordered inputs: the same registry entries and the same stored modules, up to the order of the
    entries, of the modules, and of the definition paths inside a module -/
structure PermM (s s' : State) : Prop where
  ps : s'.reg.ps = s.reg.ps
  get : ∀ q, s'.reg.get q = s.reg.get q
  perm : s'.reg.types.Perm s.reg.types
  mods : (s'.modules.map canonE).Perm (s.modules.map canonE)

theorem MPerm.permM {s s' : State} (h : MPerm s s') : PermM s s' :=
  ⟨h.ps, h.get, h.perm, h.mods.map canonE⟩

open CaseLift2 in
theorem initialState_reordered_modules (c c' : Case) (hm : c'.modules.Perm c.modules)
    (hc : c' = { c with modules := c'.modules }) (hd : (astPaths c.modules).Nodup) (s0 : State)
    (h : c.initialState = .ok s0) : ∃ s0', c'.initialState = .ok s0' ∧ MPerm s0 s0' := by
  rw [hc]
  exact fold_perm c.modules c'.modules hm.symm hd (State.new c.ps) (State.new c.ps) s0 (MPerm.refl _) h

theorem run_failed_of_init (c : Case) (h : ∀ s0, c.initialState ≠ .ok s0) : ∃ m, c.run = .err m ∨ c.run = .panic m := by
  unfold Case.run
  cases hi : c.initialState with
  | ok s0 => exact (h s0 hi).elim
  | defer => exact ⟨_, Or.inl rfl⟩
  | err m => exact ⟨m, Or.inl rfl⟩
  | panic m => exact ⟨m, Or.inr rfl⟩

open CaseLift2 in
/-- **the verdict of a case does not depend on the order of its modules** (module paths pairwise distinct) -/
theorem run_reordered_modules (c c' : Case) (hm : c'.modules.Perm c.modules)
    (hc : c' = { c with modules := c'.modules }) (hd : (astPaths c.modules).Nodup) : VRel c.run c'.run := by
  have hprio : c'.prio = c.prio := by rw [hc]
  by_cases hok : ∃ s0, c.initialState = .ok s0
  · obtain ⟨s0, hi⟩ := hok
    obtain ⟨s0', hi', hmp⟩ := initialState_reordered_modules c c' hm hc hd s0 hi
    obtain ⟨o, o', ho, e1, e2⟩ := runFrom_rel mpermD_loopRel c.prio
      (RelRes.ok (R := MPermD) ⟨hmp, (modInv_initial c s0 hi).keys⟩)
    rw [Case.run_eq_runFrom, Case.run_eq_runFrom, hprio, hi, hi', e1, e2]
    refine ho.finish (fun _ _ hs => finish_mperm hs) (fun o ho => ?_)
    cases o with
    | ok s => exact (ho s rfl).elim
    | nonterm l => exact rfl
    | _ => trivial
  · -- a rejected module is rejected in the other order too
    have hd' : (astPaths c'.modules).Nodup := (hm.symm.filterMap _).nodup hd
    have hc' : c = { c' with modules := c.modules } := by rw [hc]
    refine vrel_of_failed (run_failed_of_init c (fun s h => hok ⟨s, h⟩)) (run_failed_of_init c' ?_)
    intro s0' hi'
    obtain ⟨s0, h0, _⟩ := initialState_reordered_modules c' c hm.symm hc' hd' s0' hi'
    exact hok ⟨s0, h0⟩

open CaseLift2 in
theorem keys_fold_sub (l : List ModEnt) (s0 s : State) (h : Res.foldlM caseStep s0 l = .ok s) :
    ∀ k ∈ s.modules.map (·.1), k ∈ s0.modules.map (·.1) ∨ k ∈ astPaths l := by
  refine Res.foldlM_induct (P := fun s => ∀ k ∈ s.modules.map (·.1), k ∈ s0.modules.map (·.1) ∨ k ∈ astPaths l)
    (fun k hk => Or.inl hk) ?_ h
  intro b me b' hme hb h1 k hk
  cases me with
  | text f t => cases h1
  | ast path file m =>
    rcases (addModule_keys b b' m path h1).1 k hk with e | e
    · exact Or.inr (e ▸ List.mem_filterMap.mpr ⟨_, hme, rfl⟩)
    · exact hb k e

open CaseLift2 in
theorem run_keys_eq (c : Case) (s0 sf : State) (hi : c.initialState = .ok s0) (h : c.run = .ok sf) :
    sf.modules.map (·.1) = s0.modules.map (·.1) := by
  rw [Case.run_of_init hi] at h
  obtain ⟨s1, ms, hl, hms, rfl⟩ := State.build_ok_inv h
  have h1 := (keysEq_closed (s0.modules.map (·.1))).loop c.prio _ s0 rfl s1 hl
  obtain ⟨hk, _⟩ := final_modules s1.reg s1.modules ms hms
  show ms.map (·.1) = _
  rw [hk, h1]

open CaseLift2 in
theorem run_keys_sub (c : Case) (sf : State) (h : c.run = .ok sf) :
    ∀ k ∈ sf.modules.map (·.1), k = [] ∨ k ∈ astPaths c.modules := by
  obtain ⟨s0, hi, _⟩ := Case.run_ok_inv h
  intro k hkm
  rw [run_keys_eq c s0 sf hi h] at hkm
  rw [initialState_eq] at hi
  rcases keys_fold_sub c.modules _ s0 hi k hkm with h3 | h3
  · rw [(keysEq_closed [[]]).init c.ps rfl] at h3
    exact Or.inl (by simpa using h3)
  · exact Or.inr h3

open CaseLift2 in
theorem run_filesInj (c : Case) (hf : ((astPaths c.modules).map Emit.relFile).Nodup) (sf : State)
    (h : c.run = .ok sf) : FilesInj sf.modules := by
  intro a ha b hb na nb hab
  have ka := run_keys_sub c sf h a.1 (List.mem_map_of_mem ha)
  have kb := run_keys_sub c sf h b.1 (List.mem_map_of_mem hb)
  rcases ka with e | ka
  · exact (na e).elim
  rcases kb with e | kb
  · exact (nb e).elim
  exact inj_of_nodup_map Emit.relFile _ hf a.1 ka b.1 kb hab

theorem WK.of_get {r r' : Registry} (h : ∀ q, r'.get q = r.get q) (hk : WK r) : WK r' :=
  fun q i hi => hk q i (by rw [← h q]; exact hi)

open CaseLift2 in
/-- accepted ⇒ accepted, with the same O2 -/
theorem o2_reordered_modules (c c' : Case) (hm : c'.modules.Perm c.modules)
    (hc : c' = { c with modules := c'.modules }) (hd : (astPaths c.modules).Nodup) (sf : State)
    (h : c.run = .ok sf) : ∃ sf', c'.run = .ok sf' ∧ MPermD sf sf' ∧ c'.o2 = c.o2 := by
  have hv := run_reordered_modules c c' hm hc hd
  rw [h] at hv
  obtain ⟨sf', h', hP⟩ := hv.of_ok
  have hk := WK.run c sf h
  refine ⟨sf', h', hP, ?_⟩
  unfold Case.o2
  rw [h, h']
  show Obs.resolvedS sf' = Obs.resolvedS sf
  rw [← resolvedS_sortS sf' (WK.of_get hP.1.get hk), ← resolvedS_sortS sf hk]
  exact resolvedS_sim (sortS sf) (sortS sf') hP.sortS_modules (show RegSim sf.reg sf'.reg from mpermD_buildRel.sim hP)

open CaseLift2 in
/-- … and the same O3, when no two modules are written to the same file -/
theorem o3_reordered_modules (c c' : Case) (hm : c'.modules.Perm c.modules)
    (hc : c' = { c with modules := c'.modules }) (hd : (astPaths c.modules).Nodup)
    (hf : ((astPaths c.modules).map Emit.relFile).Nodup) (sf : State) (h : c.run = .ok sf) : c'.o3 = c.o3 := by
  obtain ⟨sf', h', hP, _⟩ := o2_reordered_modules c c' hm hc hd sf h
  have hinj := run_filesInj c hf sf h
  have hinj' : FilesInj sf'.modules := fun a ha b hb =>
    hinj a (hP.1.mods.mem_iff.mp ha) b (hP.1.mods.mem_iff.mp hb)
  unfold Case.o3
  rw [h, h']
  show Sexp.mk "files" (Emit.files sf') = Sexp.mk "files" (Emit.files sf)
  rw [← files_sortS sf' ((hP.1.mods.map _).symm.nodup hP.2) hinj', ← files_sortS sf hP.2 hinj,
    files_sim (sortS sf) (sortS sf') hP.sortS_modules (show RegSim sf.reg sf'.reg from mpermD_buildRel.sim hP)]

theorem modsEqv_keys {l1 l2 : List (Path × Mod)} (h : C09.ModsEqv l1 l2) : l1.map (·.1) = l2.map (·.1) := by
  induction l1 generalizing l2 with
  | nil =>
    cases l2 with
    | nil => rfl
    | cons b l2 => exact h.elim
  | cons a l1 ih =>
    cases l2 with
    | nil => exact h.elim
    | cons b l2 =>
      obtain ⟨hk, _, ht⟩ := h
      simp only [List.map_cons, hk, ih ht]

end PyxisVerif.ModOrder
