import PyxisVerif.Spec.C06
import PyxisVerif.Lemmas.Res
/-! `vftable::build` once the generated item is registered: the base checks `vftCheck` and what they accept -/
namespace PyxisVerif.C06
open Gen

theorem prefix_of_zip_any {α} [DecidableEq α] (l₁ l₂ : List α) (hl : l₁.length ≤ l₂.length)
    (h : (l₁.zip l₂).any (fun p => p.1 != p.2) = false) : l₁ <+: l₂ := by
  induction l₁ generalizing l₂ with
  | nil => exact List.nil_prefix
  | cons a as ih =>
    cases l₂ with
    | nil => simp at hl
    | cons b bs =>
      simp only [List.zip_cons_cons, List.any_cons, Bool.or_eq_false_iff, bne_eq_false_iff_eq] at h
      obtain ⟨h1, h2⟩ := h
      subst h1
      simp only [List.length_cons, Nat.add_le_add_iff_right] at hl
      exact (List.prefix_cons_inj a).mpr (ih bs hl h2)

def vftCheck (reg : Registry) (fb : Option Region) (fns : List SFunc) (p : Path) :
    Res (Option Vft × Option Region) :=
  match baseVftable reg fb with
  | .ok (some (baseName, bv)) =>
    if fns.length < bv.fns.length then .err "vftable is missing functions from base class"
    else if (bv.fns.zip fns).any (fun p => p.1 != p.2) then
      .err "vftable has a function that differs from the base class"
    else .ok (some { fns, baseField := some baseName, ty := .cptr (.raw p) }, none)
  | .ok none =>
    .ok (some { fns, baseField := none, ty := .cptr (.raw p) },
         some { vis := .priv, name := some vftableFieldName, doc := none,
                ty := .data (.cptr (.raw p)), isBase := false })
  | e => e.cast

theorem buildVftable_eq (s s1 : State) (owner : Path) (vis : Vis) (fb : Option Region) (fns : List SFunc)
    (item : ItemDef) (hi : buildVftableItem s.reg owner vis fns = some item)
    (hc : (match s.reg.get item.path with | some e => e != item | none => false) = false)
    (ha : s.addItem item = .ok s1) :
    buildVftable s owner vis fb (some fns) = (s1, vftCheck s1.reg fb fns item.path) := by
  unfold buildVftable vftCheck
  simp only [hi, ha]
  rw [if_neg (by rw [Bool.not_eq_true]; exact hc)]
  rfl

theorem buildVftable_ok_inv (s s1 : State) (owner : Path) (vis : Vis) (fb : Option Region) (fns : List SFunc)
    (item : ItemDef) (r : Option Vft × Option Region)
    (hi : buildVftableItem s.reg owner vis fns = some item)
    (h : buildVftable s owner vis fb (some fns) = (s1, .ok r)) :
    vftCheck s1.reg fb fns item.path = .ok r := by
  cases hc : (match s.reg.get item.path with | some e => e != item | none => false) with
  | true =>
    unfold buildVftable at h
    simp only [hi] at h
    rw [if_pos (by exact hc)] at h
    cases h
  | false =>
    cases ha : s.addItem item with
    | ok s1' =>
      rw [buildVftable_eq s s1' owner vis fb fns item hi hc ha, Prod.mk.injEq] at h
      obtain ⟨rfl, h⟩ := h
      exact h
    | _ =>
      unfold buildVftable at h
      simp only [hi, ha] at h
      rw [if_neg (by rw [Bool.not_eq_true]; exact hc)] at h
      exact absurd (Prod.mk.inj h).2 (Res.cast_ne_ok _ _)

theorem item_of_path (reg : Registry) (owner vpath : Path) (vis : Vis) (fns : List SFunc)
    (hp : vftablePath owner = some vpath) :
    ∃ item, buildVftableItem reg owner vis fns = some item ∧ item.path = vpath := by
  simp [buildVftableItem, hp]

/-- the base checks accept either below a base with a vftable, whose slots are then a prefix of the type's own
    and which supplies the pointer, or without one, and then the type gets its own pointer field -/
theorem vftCheck_ok {reg : Registry} {fb : Option Region} {fns : List SFunc} {p : Path}
    {r : Option Vft × Option Region} (h : vftCheck reg fb fns p = .ok r) :
    (∃ bn bv, baseVftable reg fb = .ok (some (bn, bv)) ∧ bv.fns <+: fns ∧
      r = (some { fns, baseField := some bn, ty := .cptr (.raw p) }, none)) ∨
    (baseVftable reg fb = .ok none ∧
      r = (some { fns, baseField := none, ty := .cptr (.raw p) }, some (ownPointer p))) := by
  unfold vftCheck at h
  split at h
  · next bn bv hb =>
    split at h
    · cases h
    · next hlen =>
      split at h
      · cases h
      · next hany =>
        cases h
        exact .inl ⟨bn, bv, hb, prefix_of_zip_any bv.fns fns (by omega) (by simpa using hany), rfl⟩
  · next hb => cases h; exact .inr ⟨hb, rfl⟩
  · exact absurd h (Res.cast_ne_ok _ _)

end PyxisVerif.C06
