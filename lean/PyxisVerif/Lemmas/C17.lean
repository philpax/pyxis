import PyxisVerif.Spec.C17
import PyxisVerif.Lemmas.Build
import PyxisVerif.Lemmas.C07
import PyxisVerif.Lemmas.C20
/-! `G.docOf` as a fold (`docStep`) against `docStrings`; `splitNl` undoes `intercalate`; what `addFunctions` copies -/
namespace PyxisVerif.C17
open Gen
open C20 (docStep)

inductive DocKind (a : G.Attr) : Prop
  | str (v : String) (h : a = .assign "doc" (.str v))
  | bad (h1 : ∀ doc, docStep (some doc) a = none) (h2 : docsAreStrings [a] = false)
  | other (h1 : ∀ doc, docStep (some doc) a = some doc) (h2 : docStrings [a] = []) (h3 : docsAreStrings [a] = true)

theorem docKind (a : G.Attr) : DocKind a := by
  cases a with
  | ident n => exact .other (fun _ => rfl) rfl rfl
  | fn n args => exact .other (fun _ => rfl) rfl rfl
  | assign n e =>
    by_cases h : n = "doc"
    · subst h
      cases e with
      | str v => exact .str v rfl
      | int z => exact .bad (fun _ => rfl) rfl
      | ident s => exact .bad (fun _ => rfl) rfl
    · refine .other (fun _ => ?_) ?_ ?_
      · unfold docStep; split <;> simp_all
      · unfold docStrings; simp [List.filterMap]; split <;> simp_all
      · unfold docsAreStrings; simp; split <;> simp_all

theorem docStrings_cons (a : G.Attr) (l : List G.Attr) : docStrings (a :: l) = docStrings [a] ++ docStrings l := by
  unfold docStrings
  rw [← List.filterMap_append]; rfl

theorem docsAreStrings_cons (a : G.Attr) (l : List G.Attr) :
    docsAreStrings (a :: l) = (docsAreStrings [a] && docsAreStrings l) := by
  simp [docsAreStrings]

theorem foldl_docStep_none (l : List G.Attr) : l.foldl docStep none = none := by
  induction l with
  | nil => rfl
  | cons a l ih => exact ih

theorem foldl_docStep_some (d : String) (l : List G.Attr) (h : docsAreStrings l = true) :
    l.foldl docStep (some (some d)) = some (some ("\n".intercalate (d :: docStrings l))) := by
  induction l generalizing d with
  | nil => rfl
  | cons a l ih =>
    rw [docsAreStrings_cons, Bool.and_eq_true] at h
    rw [List.foldl_cons, docStrings_cons]
    cases docKind a with
    | str v ha =>
      subst ha
      have : docStep (some (some d)) (.assign "doc" (.str v)) = some (some (d ++ "\n" ++ v)) := rfl
      rw [this, ih _ h.2]
      have : docStrings [G.Attr.assign "doc" (.str v)] = [v] := rfl
      rw [this, List.singleton_append, String.intercalate_cons_cons, String.intercalate_cons_append]
    | bad h1 h2 => rw [h2] at h; exact absurd h.1 (by decide)
    | other h1 h2 h3 => rw [h1, h2]; exact ih _ h.2

theorem foldl_docStep_start (l : List G.Attr) (h : docsAreStrings l = true) :
    l.foldl docStep (some none) =
      some (if docStrings l = [] then none else some ("\n".intercalate (docStrings l))) := by
  induction l with
  | nil => rfl
  | cons a l ih =>
    rw [docsAreStrings_cons, Bool.and_eq_true] at h
    rw [List.foldl_cons, docStrings_cons]
    cases docKind a with
    | str v ha =>
      subst ha
      exact foldl_docStep_some v l h.2
    | bad h1 h2 => rw [h2] at h; exact absurd h.1 (by decide)
    | other h1 h2 h3 => rw [h1, h2]; exact ih h.2

theorem foldl_docStep_bad (acc : Option (Option String)) (l : List G.Attr) (h : docsAreStrings l = false) :
    l.foldl docStep acc = none := by
  induction l generalizing acc with
  | nil => exact absurd h (by decide)
  | cons a l ih =>
    rw [docsAreStrings_cons] at h
    rw [List.foldl_cons]
    cases acc with
    | none => exact foldl_docStep_none _
    | some doc =>
      cases docKind a with
      | str v ha =>
        subst ha
        exact ih _ (by simpa [docsAreStrings] using h)
      | bad h1 h2 => rw [h1]; exact foldl_docStep_none _
      | other h1 h2 h3 => rw [h1]; rw [h3] at h; exact ih _ (by simpa using h)

theorem splitNl_no_nl (l : List Char) (h : '\n' ∉ l) : Emit.splitNl l = [l] := by
  induction l with
  | nil => rfl
  | cons c cs ih =>
    have hc : c ≠ '\n' := fun e => h (e ▸ List.mem_cons_self)
    have hcs : '\n' ∉ cs := fun e => h (List.mem_cons_of_mem _ e)
    unfold Emit.splitNl
    rw [if_neg hc, ih hcs]

theorem splitNl_append_nl (l rest : List Char) (h : '\n' ∉ l) :
    Emit.splitNl (l ++ '\n' :: rest) = l :: Emit.splitNl rest := by
  induction l with
  | nil => simp [Emit.splitNl]
  | cons c cs ih =>
    have hc : c ≠ '\n' := fun e => h (e ▸ List.mem_cons_self)
    have hcs : '\n' ∉ cs := fun e => h (List.mem_cons_of_mem _ e)
    rw [List.cons_append, Emit.splitNl, if_neg hc, ih hcs]

theorem splitNl_intercalate (l : List Char) (ls : List (List Char)) (h : ∀ x ∈ l :: ls, '\n' ∉ x) :
    Emit.splitNl (['\n'].intercalate (l :: ls)) = l :: ls := by
  induction ls generalizing l with
  | nil => simpa using splitNl_no_nl l (h l List.mem_cons_self)
  | cons l' zs ih =>
    rw [List.intercalate_cons_cons, List.append_assoc, List.singleton_append,
      splitNl_append_nl _ _ (h l List.mem_cons_self), ih l' (fun x hx => h x (List.mem_cons_of_mem _ hx))]

theorem strLines_intercalate (d : String) (ds : List String) (h : ∀ x ∈ d :: ds, '\n' ∉ x.toList) :
    Emit.strLines ("\n".intercalate (d :: ds)) = d :: ds := by
  unfold Emit.strLines
  rw [String.toList_intercalate]
  have : "\n".toList = ['\n'] := rfl
  rw [this, List.map_cons, splitNl_intercalate]
  · simp [String.ofList_toList]
  · intro x hx
    rw [← List.map_cons, List.mem_map] at hx
    obtain ⟨y, hy, rfl⟩ := hx
    exact h y hy

theorem beq_dec {α} [DecidableEq α] (a b : α) : (a == b) = decide (a = b) := rfl

theorem injFold (base : String) (l : List SFunc) (acc : InjAcc) :
    ∀ g ∈ (l.foldl (C07.injStep base) acc).fns, g ∈ acc.fns ∨
      ∃ f ∈ l, g.doc = f.doc ∧ g.vis = f.vis ∧ g.args = f.args ∧ g.ret = f.ret ∧ g.cc = f.cc
        ∧ g.body = .field base f.name := by
  induction l generalizing acc with
  | nil => intro g hg; exact .inl hg
  | cons f fs ih =>
    intro g hg
    rw [List.foldl_cons] at hg
    rcases ih _ g hg with h | ⟨f', hf', hh⟩
    · simp only [C07.injStep, List.mem_append, List.mem_singleton] at h
      rcases h with h | h
      · exact .inl h
      · subst h
        exact .inr ⟨f, List.mem_cons_self, rfl, rfl, rfl, rfl, rfl, rfl⟩
    · exact .inr ⟨f', List.mem_cons_of_mem _ hf', hh⟩

theorem typeItems_head (reg : Registry) (path : Path) (size align : Nat) (vis : Vis) (td : TypeDefn) :
    ∃ tl, Emit.typeItems reg path size align vis td =
      Sexp.mk "struct" ([Emit.docsS td.doc,
        Sexp.mk "derives" ((Emit.derivesOf td.copyable td.cloneable td.defaultable).map .str),
        Sexp.mk "repr" (if td.packed then [.str "C", .str "packed"] else [.str "C", .str ("align(" ++ toString align ++ ")")]),
        Emit.visS vis, .str (path.getLast?.getD "")] ++
        td.regions.map fun r => Sexp.mk "fld" [Emit.docsS r.doc, Emit.visS r.vis, .str (r.name.getD ""), .str (Emit.rtyStr r.ty)])
      :: tl := by
  unfold Emit.typeItems
  exact ⟨_, rfl⟩

end PyxisVerif.C17
