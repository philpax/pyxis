import PyxisVerif.Lemmas.C19Frame
import PyxisVerif.Lemmas.CaseLift2
/-!
# Schedule independence WITH vftable blocks, when nothing mentions a generated name

Without `vftable` blocks the key set of the registry is fixed during resolution.  With `vftable` blocks an attempt on
a type `T` registers the GENERATED item `<T>Vftable` during the run, the key set grows, and name lookup is not
monotone in the key set.  The abstract worklist (`Lemmas/Worklist.lean`, `Lemmas/Mono.lean`) is instantiated here
under the hypothesis `NoGenRefs`: no lookup made during the build can ever answer with a generated path.  Then the
generated items are write-only during resolution:

* **frame**: everything an attempt reads gives the same answer in two registries that agree outside the
  set `Gs` of generated paths (`AgreeOut`), provided the type expressions and scopes it works with are clean (`CleanStmt`);
* **pure form**: `type_definition::build` – including the registration made by `vftable::build` – as a
  function `btV` of the registry it starts from;
* **monotonicity**: `btV` is monotone along `RegLe` on registries without generated entries, hence the
  abstract attempt is `Work.Mono` as soon as the generated items of the initial state are not registered yet
  (`attempt_mono_of_fresh`; without `vftable` blocks there are none);
* **simulation**: every state reached by `resolveLoop` *represents* (`Rep`) a registry of the abstract
  worklist `Work.Run (Mono.attempt s0)`: it is `Mono.stateOf s0 R` plus generated items, each of which is the one
  item its owner `T` generates in the initial state (`Gen`; `sim_rep`, an instance of `Mono.Sim`; the other
  instance, `sim_stateOf`, is the vftable-free fragment, where the states are `stateOf s0 R` themselves);
* **agreement**: two accepted states that represent the same total registry give the same verdict
  (`sameVerdictV`) after the extern values;
* **whole cases**: the syntactic condition `CaseNoGenRefs` on the modules of a case gives `NoGenRefs` for its
  initial state; both conditions are decidable; no build panics when no vftable block asks for more than
  `paddingLoopBound` slots (`Small`), so that an error and the modelled allocation limit are never mixed.
-/
namespace PyxisVerif.C09
open Work Layout Mono C19 Gen

def itemIdents (d : G.Item) : List String :=
  match d.inner with
  | .type td => td.stmts.flatMap stmtIdents
  | .enum ed => tyIdents ed.ty

def hasVftBlock (td : G.TypeDef) : Bool :=
  td.stmts.any fun st => match st.field with | .vftable _ => true | .field .. => false

def genPathOf (e : Path × ItemDef) : Option Path :=
  match e.2.state with
  | .unres d =>
    match d.inner with
    | .type td => if hasVftBlock td then vftablePath e.1 else none
    | .enum _ => none
  | .res _ => none

/-- the paths of the vftable structs that resolution may generate: `vftablePath p` for every unresolved type
    definition at `p` with a vftable block -/
def genPaths (s : State) : List Path := s.reg.types.filterMap genPathOf

/-- their last segments: the names `<T>Vftable` -/
def genNames (s : State) : List String := (genPaths s).filterMap (·.getLast?)

/-- nothing in the state can SEE a generated item by name while the resolution loop runs.  Exactly what the proof
    uses:

* `modKeys`: the stored modules are a map (`add_item` rewrites the module stored under the parent path);
* `fresh`: no generated path is a registry key yet;
* `scopes`: no generated path is the path of a module or one of its `use`s – equality, not prefixes (a scope member
  that is a registry key counts as a type import, so registering it would change every lookup of that module);
* `defs` / `impls`: no identifier of a type expression of an unresolved definition (field types, enum bases,
  parameter and return types of vftable functions) or of a function of a function block is the last segment of a
  generated path (then no candidate path `[name]`, `u ++ [name]` of a lookup is generated).

The types of EXTERN VALUES are not restricted: they are resolved after the loop, in the final registry, which is
the same under every schedule.  Every condition is a bounded quantification over the lists of the state with a
decidable body (`instance : Decidable (NoGenRefs s)` below). -/
structure NoGenRefs (s : State) : Prop where
  modKeys : (s.modules.map (·.1)).Nodup
  fresh : ∀ q ∈ genPaths s, s.reg.contains q = false
  scopes : ∀ e ∈ s.modules, ∀ u ∈ e.2.scope, u ∉ genPaths s
  defs : ∀ e ∈ s.reg.types, ∀ d, e.2.state = .unres d → ∀ nm ∈ itemIdents d, nm ∉ genNames s
  impls : ∀ e ∈ s.modules, ∀ b ∈ e.2.impls, ∀ f ∈ b.2.fns, ∀ nm ∈ funcIdents f, nm ∉ genNames s

theorem fmtVftableType_inj {a b : String} (h : fmtVftableType a = fmtVftableType b) : a = b := by
  unfold fmtVftableType at h
  have := congrArg String.toList h
  simp only [String.toList_append] at this
  exact String.toList_inj.mp (List.append_cancel_right this)

theorem vftablePath_eq {owner q : Path} (h : vftablePath owner = some q) :
    ∃ name, owner = owner.dropLast ++ [name] ∧ q = owner.dropLast ++ [fmtVftableType name] := by
  unfold vftablePath at h
  split at h
  · next name parent hl hp =>
    simp only [Option.some.injEq] at h
    unfold Path.parent? at hp
    split at hp
    · cases hp
    · simp only [Option.some.injEq] at hp
      subst hp
      refine ⟨name, ?_, h.symm⟩
      obtain ⟨ys, rfl⟩ := List.getLast?_eq_some_iff.mp hl
      simp
  · cases h

theorem vftablePath_inj {o1 o2 q : Path} (h1 : vftablePath o1 = some q) (h2 : vftablePath o2 = some q) : o1 = o2 := by
  obtain ⟨n1, e1, q1⟩ := vftablePath_eq h1
  obtain ⟨n2, e2, q2⟩ := vftablePath_eq h2
  rw [q1] at q2
  have hl := List.append_inj' q2 rfl
  have hn : n1 = n2 := by
    have := hl.2
    simp only [List.cons.injEq, and_true] at this
    exact fmtVftableType_inj this
  rw [e1, e2, hl.1, hn]

theorem vftablePath_parent {owner q : Path} (h : vftablePath owner = some q) :
    Path.parent? q = Path.parent? owner := by
  obtain ⟨name, e1, e2⟩ := vftablePath_eq h
  rw [e2]
  conv => rhs; rw [e1]
  rw [Path.parent?_concat, Path.parent?_concat]

theorem vftablePath_last {owner q : Path} (h : vftablePath owner = some q) : ∃ nm, q.getLast? = some nm := by
  obtain ⟨name, _, e2⟩ := vftablePath_eq h
  exact ⟨fmtVftableType name, by rw [e2]; simp⟩

theorem vftablePath_some {owner parent : Path} (h : Path.parent? owner = some parent) :
    ∃ q, vftablePath owner = some q := by
  unfold vftablePath
  rw [h]
  unfold Path.parent? at h
  split at h
  · cases h
  · next hne =>
    cases hl : owner.getLast? with
    | none =>
      rw [List.getLast?_eq_none_iff] at hl
      subst hl
      simp at hne
    | some name => exact ⟨_, rfl⟩

structure AgreeOut (Gs : List Path) (s t : Registry) : Prop where
  ps : t.ps = s.ps
  get : ∀ q, q ∉ Gs → t.get q = s.get q

theorem AgreeOut.refl (Gs : List Path) (s : Registry) : AgreeOut Gs s s := ⟨rfl, fun _ _ => rfl⟩

theorem AgreeOut.symm {Gs : List Path} {s t : Registry} (h : AgreeOut Gs s t) : AgreeOut Gs t s :=
  ⟨h.ps.symm, fun q hq => (h.get q hq).symm⟩

theorem AgreeOut.trans {Gs : List Path} {s t u : Registry} (h1 : AgreeOut Gs s t) (h2 : AgreeOut Gs t u) :
    AgreeOut Gs s u :=
  ⟨h2.ps.trans h1.ps, fun q hq => (h2.get q hq).trans (h1.get q hq)⟩

theorem AgreeOut.contains {Gs : List Path} {s t : Registry} (h : AgreeOut Gs s t) {q : Path} (hq : q ∉ Gs) :
    t.contains q = s.contains q := by
  unfold Registry.contains; rw [h.get q hq]

theorem AgreeOut.add {Gs : List Path} {s t : Registry} (h : AgreeOut Gs s t) (i : ItemDef) :
    AgreeOut Gs (s.add i) (t.add i) := by
  refine ⟨h.ps, ?_⟩
  intro q hq
  rw [C14.get_add, C14.get_add, h.get q hq]

theorem AgreeOut.add_right {Gs : List Path} {s t : Registry} (h : AgreeOut Gs s t) (i : ItemDef) (hi : i.path ∈ Gs) :
    AgreeOut Gs s (t.add i) := by
  refine ⟨h.ps, ?_⟩
  intro q hq
  rw [C14.get_add, if_neg (fun e => hq (by rw [e]; exact hi)), h.get q hq]

def CleanName (Gs : List Path) (scope : List Path) (name : String) : Prop := ∀ q ∈ candidates scope name, q ∉ Gs

/-- no candidate of a lookup of one of the identifiers `ids` in `scope` is in `Gs` -/
def CleanIds (Gs : List Path) (scope : List Path) (ids : List String) : Prop := ∀ nm ∈ ids, CleanName Gs scope nm

abbrev CleanTy (Gs : List Path) (scope : List Path) (ty : G.Ty) : Prop := CleanIds Gs scope (tyIdents ty)

abbrev CleanFunc (Gs : List Path) (scope : List Path) (f : G.Func) : Prop := CleanIds Gs scope (funcIdents f)

abbrev CleanStmt (Gs : List Path) (scope : List Path) (st : G.Stmt) : Prop := CleanIds Gs scope (stmtIdents st)

theorem CleanIds.out {Gs : List Path} (hu8 : ["u8"] ∉ Gs) {scope : List Path} {ids : List String}
    (hc : CleanIds Gs scope ids) {q : Path} (hq : Probed scope ids q) : q ∉ Gs := by
  rcases hq with rfl | ⟨nm, hnm, hq⟩
  · exact hu8
  · exact hc nm hnm q hq

def OutD (Gs : List Path) (d : DTy) : Prop := ∀ q ∈ byValue d, q ∉ Gs

def OutR (Gs : List Path) : RTy → Prop
  | .data d => OutD Gs d
  | .fn .. => True

section frame
variable {Gs : List Path} {s t : Registry} (h : AgreeOut Gs s t) (hu8 : ["u8"] ∉ Gs)
include h

theorem resolveString_out {scope : List Path} {name : String} (hc : CleanName Gs scope name) :
    t.resolveString scope name = s.resolveString scope name :=
  resolveString_congr (fun q hq => h.contains (hc q hq))

include hu8

theorem paddingType_out : t.paddingType = s.paddingType :=
  paddingType_congr (h.contains hu8)

theorem resolveTy_out {scope : List Path} {ty : G.Ty} (hc : CleanTy Gs scope ty) :
    t.resolveTy scope ty = s.resolveTy scope ty :=
  resolveTy_congr (fun _ hq => h.contains (hc.out hu8 hq))

theorem stmts_fold_out {scope : List Path} (l : List (Nat × G.Stmt)) (acc : StmtAcc)
    (hc : ∀ ist ∈ l, CleanStmt Gs scope ist.2) :
    Res.foldlM (stmtStep t scope) acc l = Res.foldlM (stmtStep s scope) acc l :=
  Mono.foldlM_congr _ _ l acc (fun b a ha => stmtStep_congr b fun _ hq => h.contains ((hc a ha).out hu8 hq))

theorem addImplFns_out {scope : List Path} (impl : Option G.Impl)
    (hc : ∀ im, impl = some im → ∀ f ∈ im.fns, CleanFunc Gs scope f) (acc : InjAcc) :
    addImplFns t scope impl acc = addImplFns s scope impl acc :=
  addImplFns_congr impl (fun im him f hf _ hq => h.contains ((hc im him f hf).out hu8 hq)) acc

end frame

theorem resolveTy_outD {Gs : List Path} (hu8 : ["u8"] ∉ Gs) (r : Registry) {scope : List Path} (ty : G.Ty)
    (hc : CleanTy Gs scope ty) (d : DTy) (h : r.resolveTy scope ty = .ok d) : OutD Gs d :=
  fun q hq => hc.out hu8 (resolveTy_byValue h q hq).2

theorem paddingType_outD {Gs : List Path} (hu8 : ["u8"] ∉ Gs) (r : Registry) (n : Nat) (d : DTy)
    (h : r.paddingType n = .ok d) : OutD Gs d := by
  obtain ⟨rfl, _⟩ := paddingType_answer h
  intro q hq
  rw [List.mem_singleton.mp hq]; exact hu8

theorem AgreeOut.agreeD {Gs : List Path} {s t : Registry} (h : AgreeOut Gs s t) {d : DTy} (hd : OutD Gs d) :
    AgreeD s t d := fun q hq => h.get q (hd q hq)

theorem AgreeOut.agreeR {Gs : List Path} {s t : Registry} (h : AgreeOut Gs s t) {r : RTy} (hr : OutR Gs r) :
    AgreeR s t r := by
  cases r with
  | data d => exact h.agreeD hr
  | fn cc args ret => trivial

def PendOut (Gs : List Path) (acc : StmtAcc) : Prop := ∀ p ∈ acc.pending, OutR Gs p.2.ty

theorem stmtStep_pendOut {Gs : List Path} (hu8 : ["u8"] ∉ Gs) (reg : Registry) {scope : List Path}
    (acc acc' : StmtAcc) (ist : Nat × G.Stmt) (hc : CleanStmt Gs scope ist.2)
    (ha : PendOut Gs acc) (h : stmtStep reg scope acc ist = .ok acc') : PendOut Gs acc' := by
  obtain ⟨idx, st⟩ := ist
  unfold CleanStmt stmtIdents at hc
  rcases stmtStep_ok h with ⟨vis, name, ty, doc, fa, t, ident, hf, _, _, _, ht, _, _, rfl⟩ | ⟨_, _, _, _, _, _, _, _, rfl⟩
  · simp only [hf] at hc
    intro p hp
    rcases List.mem_append.mp hp with hp | hp
    · exact ha p hp
    · simp only [List.mem_singleton] at hp
      subst hp
      exact resolveTy_outD hu8 reg ty hc t ht
  · exact ha

theorem stmts_fold_pendOut {Gs : List Path} (hu8 : ["u8"] ∉ Gs) (reg : Registry) {scope : List Path}
    (l : List (Nat × G.Stmt)) (hc : ∀ ist ∈ l, CleanStmt Gs scope ist.2) (sa : StmtAcc)
    (h : Res.foldlM (stmtStep reg scope) {} l = .ok sa) : PendOut Gs sa :=
  Res.foldlM_induct (P := PendOut Gs) (fun p hp => by cases hp)
    (fun acc ist acc' hist hacc h' => stmtStep_pendOut hu8 reg acc acc' ist (hc ist hist) hacc h') h

/-- the answer of `vftable::build`, read in the registry `reg` in which the generated item is registered -/
def vftRes (reg : Registry) (fb : Option Region) (owner : Path) : Option (List SFunc) → Res (Option Vft × Option Region)
  | some fns =>
    match vftablePath owner with
    | some p => C06.vftCheck reg fb fns p
    | none => .ok (none, none)
  | none =>
    match baseVftable reg fb with
    | .ok (some (baseName, bv)) => .ok (some { fns := bv.fns, baseField := some baseName, ty := bv.ty }, none)
    | .ok none => .ok (none, none)
    | e => e.cast

/-- the item `vftable::build` registers -/
def genItem (reg : Registry) (owner : Path) (vis : Vis) (vfns : Option (List SFunc)) : Option ItemDef :=
  vfns.bind (buildVftableItem reg owner vis)

/-- the registry after `vftable::build` -/
def regAfter (reg : Registry) (owner : Path) (vis : Vis) (vfns : Option (List SFunc)) : Registry :=
  match genItem reg owner vis vfns with
  | some item => reg.add item
  | none => reg

/-- `resolve_regions` lays nothing out before the size of the first base is known -/
def baseGate (reg : Registry) (fb : Option Region) : Res Unit :=
  match (match fb with | some b => b.ty.size reg | none => .ok (some 0)) with
  | .ok (some _) => .ok ()
  | .ok none => .defer
  | .defer => .defer
  | .err m => .err m
  | .panic m => .panic m

/-- `resolve_regions` after the size check of the first base -/
def rrTail (reg : Registry) (fb : Option Region) (owner : Path) (target : Option Nat)
    (pending : List (Option Nat × Region)) (vfns : Option (List SFunc)) :
    Res (List Region × Option Vft × Nat × List (Placed Region)) :=
  (vftRes reg fb owner vfns).bind fun v =>
  (Layout.resolve (v.2.map (toPField reg none)) (pending.map fun p => toPField reg p.1 p.2) target).bind fun pl =>
  (nameRegions reg 0 pl.1).bind fun regions => .ok (regions, v.1, pl.2, pl.1)

/-- `resolve_regions`: the size of the first base is read in `reg0` (before the registration), everything else in
    `reg` (after it) -/
def rrV (reg0 reg : Registry) (owner : Path) (target : Option Nat) (pending : List (Option Nat × Region))
    (vfns : Option (List SFunc)) : Res (List Region × Option Vft × Nat × List (Placed Region)) :=
  (baseGate reg0 ((pending.map (·.2)).find? (·.isBase))).bind fun _ =>
    rrTail reg ((pending.map (·.2)).find? (·.isBase)) owner target pending vfns

def foldStmts (reg : Registry) (scope : List Path) (d : G.TypeDef) : Res StmtAcc :=
  Res.foldlM (stmtStep reg scope) {} (d.stmts.zipIdx.map fun p => (p.2, p.1))

/-- the converted vftable block of the definition (`none`: no block, or the statement loop does not succeed) -/
def vfnsOf (reg : Registry) (mf : Option Mod) (d : G.TypeDef) : Option (List SFunc) :=
  match mf with
  | some module =>
    match foldStmts reg module.scope d with
    | .ok sa => sa.vfns
    | _ => none
  | none => none

/-- the item an attempt on the definition registers (if it gets as far as `vftable::build`) -/
def genOf (reg : Registry) (mf : Option Mod) (path : Path) (vis : Vis) (d : G.TypeDef) : Option ItemDef :=
  genItem reg path vis (vfnsOf reg mf d)

/-- `type_definition::build` as a function of the registry, stage by stage -/
def btV (reg : Registry) (mf : Option Mod) (path : Path) (vis : Vis) (d : G.TypeDef) : Res Resolved :=
  match mf with
  | none => .err "failed to get module for path"
  | some module =>
    (Res.ofOption (G.docOf d.attrs) (.err "doc attribute must be a string literal")).bind fun doc =>
    (Res.foldlM typeAttrStep {} d.attrs).bind fun ta =>
    (foldStmts reg module.scope d).bind fun sa =>
    (rrV reg (regAfter reg path vis sa.vfns) path ta.targetSize sa.pending sa.vfns).bind fun x =>
      btTail (regAfter reg path vis sa.vfns) module path doc ta x.1 x.2.1 x.2.2.1 x.2.2.2

theorem moduleFor_parent (s : State) {p q : Path} (h : Path.parent? p = Path.parent? q) :
    s.moduleFor p = s.moduleFor q := by
  unfold State.moduleFor; rw [h]

theorem addItem_ok_of_moduleFor (s : State) (i : ItemDef) (m : Mod) (h : s.moduleFor i.path = some m) :
    ∃ s1, s.addItem i = .ok s1 := by
  unfold State.moduleFor at h
  unfold State.addItem
  split at h
  · cases h
  · next parent hp =>
    simp only [h]
    exact ⟨_, rfl⟩

theorem buildVftable_pureV (s : State) (owner : Path) (vis : Vis) (fb : Option Region) (vfns : Option (List SFunc))
    (hnc : ∀ item, genItem s.reg owner vis vfns = some item →
      s.reg.get item.path = none ∨ s.reg.get item.path = some item)
    (hpar : ∃ m, s.moduleFor owner = some m) :
    ∃ s1, buildVftable s owner vis fb vfns = (s1, vftRes s1.reg fb owner vfns) ∧
      s1.reg = regAfter s.reg owner vis vfns ∧
      (s1 = s ∨ ∃ item, genItem s.reg owner vis vfns = some item ∧ s.addItem item = .ok s1) := by
  cases vfns with
  | none =>
    refine ⟨s, ?_, rfl, .inl rfl⟩
    unfold buildVftable vftRes
    simp only []
    cases baseVftable s.reg fb with
    | ok o => cases o <;> rfl
    | _ => rfl
  | some fns =>
    cases hi : buildVftableItem s.reg owner vis fns with
    | none =>
      have hp : vftablePath owner = none := by simpa [buildVftableItem] using hi
      refine ⟨s, ?_, ?_, .inl rfl⟩
      · rw [buildVftable_none_item s owner vis fb fns hi, vftRes, hp]
      · simp only [regAfter, genItem, Option.bind_some, hi]
    | some item =>
      have hg : genItem s.reg owner vis (some fns) = some item := hi
      have hp := vftablePath_of_item hi
      have hc : C20.conflict s.reg item = false := by
        rcases hnc item hg with e | e <;> simp [C20.conflict, e]
      obtain ⟨m, hm⟩ := hpar
      obtain ⟨s1, ha⟩ := addItem_ok_of_moduleFor s item m (by
        rw [moduleFor_parent s (vftablePath_parent hp)]; exact hm)
      refine ⟨s1, ?_, ?_, .inr ⟨item, hg, ha⟩⟩
      · rw [buildVftable_added s s1 owner vis fb fns item hi hc ha]
        simp only [vftRes, hp]
      · rw [C14.addItem_reg s s1 item ha]
        simp only [regAfter, hg]

theorem baseGate_lift {α} (s : State) (fb : Option Region) (k : State × Res α) :
    C20.baseGate s fb k = C20.liftS s (baseGate s.reg fb) fun _ => k := by
  unfold C20.baseGate baseGate
  cases fb with
  | none => rfl
  | some b =>
    simp only []
    cases b.ty.size s.reg with
    | ok o => cases o <;> rfl
    | _ => rfl

theorem rrTail_eq (reg : Registry) (fb : Option Region) (owner : Path) (target : Option Nat)
    (pending : List (Option Nat × Region)) (vfns : Option (List SFunc)) :
    rrTail reg fb owner target pending vfns
      = (vftRes reg fb owner vfns).bind fun v => C20.rrTail reg pending target v.1 v.2 := by
  refine Res.bind_congr fun v _ => ?_
  unfold C20.rrTail
  cases Layout.resolve (v.2.map (toPField reg none)) (pending.map fun p => toPField reg p.1 p.2) target with
  | ok pl =>
    simp only [Res.bind]
    cases nameRegions reg 0 pl.1 <;> rfl
  | _ => rfl

theorem resolveRegions_pureV (s : State) (owner : Path) (vis : Vis) (target : Option Nat)
    (pending : List (Option Nat × Region)) (vfns : Option (List SFunc))
    (hnc : ∀ item, genItem s.reg owner vis vfns = some item →
      s.reg.get item.path = none ∨ s.reg.get item.path = some item)
    (hpar : ∃ m, s.moduleFor owner = some m) :
    ∃ s1, resolveRegions s owner vis target pending vfns
        = (s1, rrV s.reg (regAfter s.reg owner vis vfns) owner target pending vfns) ∧
      (s1 = s ∨ ∃ item, genItem s.reg owner vis vfns = some item ∧ s.addItem item = .ok s1) ∧
      (∀ x, rrV s.reg (regAfter s.reg owner vis vfns) owner target pending vfns = .ok x →
        s1.reg = regAfter s.reg owner vis vfns) := by
  obtain ⟨s1, hb, hreg, hd⟩ := buildVftable_pureV s owner vis ((pending.map (·.2)).find? (·.isBase)) vfns hnc hpar
  rw [C20.resolveRegions_head, C20.rrHead, baseGate_lift, hb]
  unfold rrV
  cases baseGate s.reg ((pending.map (·.2)).find? (·.isBase)) with
  | ok u => exact ⟨s1, by rw [C20.liftS, C20.bindS_mk, rrTail_eq, hreg]; rfl, hd, fun _ _ => hreg⟩
  | _ => exact ⟨s, rfl, .inl rfl, fun x hx => by cases hx⟩

theorem btTail_defPaths (reg : Registry) (m : Mod) (dp : List Path) (path : Path) (doc : Option String)
    (ta : TypeAttrs) (regions : List Region) (vft : Option Vft) (size : Nat) (placed : List (Placed Region)) :
    btTail reg { m with defPaths := dp } path doc ta regions vft size placed
      = btTail reg m path doc ta regions vft size placed := rfl

theorem moduleFor_addItem_eq (s s1 : State) (i : ItemDef) (h : s.addItem i = .ok s1) (p : Path) (m : Mod)
    (hm : s.moduleFor p = some m) : ∃ dp, s1.moduleFor p = some { m with defPaths := dp } := by
  unfold State.moduleFor at hm ⊢
  split at hm
  · cases hm
  · next parent hp => exact C14.addItem_getModule s s1 i h parent m hm

theorem btAfter_eq {s1 : State} {path : Path} {m1 : Mod} (h : s1.moduleFor path = some m1) (doc : Option String)
    (ta : TypeAttrs) (x : C20.RROut) :
    C20.btAfter s1 path doc ta x = btTail s1.reg m1 path doc ta x.1 x.2.1 x.2.2.1 x.2.2.2 := by
  unfold C20.btAfter
  rw [h]
  rfl

/-- **pure form**: when the generated path is free or already holds the item this attempt generates,
    `type_definition::build` answers `btV` of the registry it starts from, and the only change to the state is the
    registration of that item -/
theorem buildType_pureV (s : State) (path : Path) (vis : Vis) (d : G.TypeDef)
    (hnc : ∀ item, genOf s.reg (s.moduleFor path) path vis d = some item →
      s.reg.get item.path = none ∨ s.reg.get item.path = some item) :
    ∃ s1, buildType s path vis d = (s1, btV s.reg (s.moduleFor path) path vis d) ∧
      (s1 = s ∨ ∃ item, genOf s.reg (s.moduleFor path) path vis d = some item ∧ s.addItem item = .ok s1) ∧
      (∀ r, btV s.reg (s.moduleFor path) path vis d = .ok r →
        ∀ item, genOf s.reg (s.moduleFor path) path vis d = some item → s1.reg.get item.path = some item) := by
  rw [C20.buildType_btOf]
  unfold C20.btOf btV
  cases hm : s.moduleFor path with
  | none => exact ⟨s, rfl, .inl rfl, fun r hr => by cases hr⟩
  | some module =>
    rw [hm] at hnc
    cases G.docOf d.attrs with
    | none => exact ⟨s, rfl, .inl rfl, fun r hr => by cases hr⟩
    | some doc =>
      cases Res.foldlM typeAttrStep {} d.attrs with
      | ok ta =>
        have hfs : C20.stmtFold s.reg module.scope d.stmts = foldStmts s.reg module.scope d := rfl
        simp only [hfs]
        cases hsa : foldStmts s.reg module.scope d with
        | ok sa =>
          have hgen : genOf s.reg (some module) path vis d = genItem s.reg path vis sa.vfns := by
            simp only [genOf, vfnsOf, hsa]
          rw [hgen] at hnc ⊢
          obtain ⟨s1, h1, h2, h3⟩ := resolveRegions_pureV s path vis ta.targetSize sa.pending sa.vfns hnc ⟨module, hm⟩
          obtain ⟨dp, hdp⟩ : ∃ dp, s1.moduleFor path = some { module with defPaths := dp } := by
            rcases h2 with rfl | ⟨item, _, ha⟩
            · exact ⟨module.defPaths, hm⟩
            · exact moduleFor_addItem_eq s s1 item ha path module hm
          simp only [C20.liftS, C20.btCore, Res.ofOption, Res.bind]
          rw [h1, C20.bindS_mk]
          refine ⟨s1, congrArg _ (Res.bind_congr fun x hrr => ?_), h2, fun r hr item hitem => ?_⟩
          · rw [btAfter_eq hdp, h3 x hrr]
            rfl
          · obtain ⟨x, hrr, _⟩ := Res.bind_eq_ok.mp hr
            rw [h3 x hrr]
            simp only [regAfter, hitem, C14.get_add, if_true]
        | _ => exact ⟨s, rfl, .inl rfl, fun r hr => by cases hr⟩
      | _ => exact ⟨s, rfl, .inl rfl, fun r hr => by cases hr⟩

theorem baseGate_known {reg : Registry} {fb : Option Region} (h : baseGate reg fb = .ok ()) :
    ∀ b, fb = some b → KnownR reg b.ty := by
  rintro b rfl
  unfold baseGate at h
  obtain ⟨o, ho⟩ := RTy.size_ok reg b.ty
  simp only [ho] at h
  cases o with
  | none => cases h
  | some n => exact knownR_of_size reg b.ty n ho

theorem rrV_inv {reg0 reg : Registry} {owner : Path} {target : Option Nat} {pending : List (Option Nat × Region)}
    {vfns : Option (List SFunc)} {regions : List Region} {vft : Option Vft} {size : Nat} {placed : List (Placed Region)}
    (h : rrV reg0 reg owner target pending vfns = .ok (regions, vft, size, placed)) :
    ∃ vregion, vftRes reg ((pending.map (·.2)).find? (·.isBase)) owner vfns = .ok (vft, vregion) ∧
      Layout.resolve (vregion.map (toPField reg none)) (pending.map fun p => toPField reg p.1 p.2) target
        = .ok (placed, size) ∧
      nameRegions reg 0 placed = .ok regions := by
  obtain ⟨_, _, h⟩ := Res.bind_eq_ok.mp h
  obtain ⟨⟨vft', vregion⟩, hv, h⟩ := Res.bind_eq_ok.mp h
  obtain ⟨⟨placed', size'⟩, hres, h⟩ := Res.bind_eq_ok.mp h
  obtain ⟨regions', hname, h⟩ := Res.bind_eq_ok.mp h
  simp only [Res.ok.injEq, Prod.mk.injEq] at h
  obtain ⟨rfl, rfl, rfl, rfl⟩ := h
  exact ⟨vregion, hv, hres, hname⟩

theorem vftRes_vregion {reg : Registry} {fb : Option Region} {owner : Path} {vfns : Option (List SFunc)}
    {vft : Option Vft} {vr : Region} (h : vftRes reg fb owner vfns = .ok (vft, some vr)) :
    ∃ d, vr.ty = .data (.cptr d) := by
  unfold vftRes at h
  cases vfns with
  | some fns =>
    cases hp : vftablePath owner with
    | none => simp only [hp] at h; cases h
    | some p =>
      simp only [hp] at h
      -- only the own pointer of a table without a base table is handed to the layout
      rcases C06.vftCheck_ok h with ⟨_, _, _, _, hr⟩ | ⟨_, hr⟩
      · cases hr
      · cases hr; exact ⟨_, rfl⟩
  | none =>
    simp only [] at h
    split at h
    · cases h
    · cases h
    · exact absurd h (Res.cast_ne_ok _ _)

theorem toPField_ptr (r r' : Registry) (hps : r'.ps = r.ps) (vr : Region) (d : DTy) (h : vr.ty = .data (.cptr d)) :
    toPField r' none vr = toPField r none vr :=
  toPField_congr hps none (by rw [h]; exact fun _ hp => nomatch hp)

theorem vregion_toPField {r r' : Registry} (hps : r'.ps = r.ps) {fb : Option Region} {owner : Path}
    {vfns : Option (List SFunc)} {v : Option Vft × Option Region} (hv : vftRes r fb owner vfns = .ok v) :
    v.2.map (toPField r' none) = v.2.map (toPField r none) := by
  obtain ⟨vft, vregion⟩ := v
  cases vregion with
  | none => rfl
  | some vr =>
    obtain ⟨d, hd⟩ := vftRes_vregion hv
    simp only [Option.map_some, toPField_ptr r r' hps vr d hd]

theorem rrV_regions {reg0 reg : Registry} {owner : Path} {target : Option Nat}
    {pending : List (Option Nat × Region)} {vfns : Option (List SFunc)} {regions : List Region} {vft : Option Vft}
    {size : Nat} {placed : List (Placed Region)} (P : RTy → Prop)
    (h : rrV reg0 reg owner target pending vfns = .ok (regions, vft, size, placed))
    (hsrc : ∀ pl ∈ placed, ∀ r0, pl.src = some r0 → P r0.ty)
    (hpad : ∀ n t, reg.paddingType n = .ok t → P (.data t)) : ∀ r ∈ regions, P r.ty := by
  obtain ⟨_, _, _, hname⟩ := rrV_inv h
  obtain ⟨hlen, hnamed⟩ := C01.nameRegions_types_lem reg 0 placed regions hname
  intro r hr
  obtain ⟨k, hk, rfl⟩ := List.getElem_of_mem hr
  have hk' : k < placed.length := hlen ▸ hk
  have hn := hnamed k hk' hk
  unfold C01.NamedAs at hn
  split at hn
  · next r0 hsrc0 =>
    rw [hn.1]
    exact hsrc _ (List.getElem_mem hk') r0 hsrc0
  · obtain ⟨t, ht, hty, _⟩ := hn
    rw [hty]
    exact hpad _ t ht

theorem rrV_out {Gs : List Path} (hu8 : ["u8"] ∉ Gs) {reg0 reg : Registry} {owner : Path} {target : Option Nat}
    {pending : List (Option Nat × Region)} {vfns : Option (List SFunc)} {regions : List Region} {vft : Option Vft}
    {size : Nat} {placed : List (Placed Region)} (hp : ∀ p ∈ pending, OutR Gs p.2.ty)
    (h : rrV reg0 reg owner target pending vfns = .ok (regions, vft, size, placed)) :
    ∀ r ∈ regions, OutR Gs r.ty := by
  obtain ⟨vregion, hv, hres, _⟩ := rrV_inv h
  refine rrV_regions (OutR Gs) h ?_ (fun n t ht => paddingType_outD hu8 reg n t ht)
  refine C02.resolve_allSrc (fun (r : Region) _ _ => OutR Gs r.ty) _ _ _ _ _ hres ?_ ?_
  · intro v hv' s _
    cases vregion with
    | none => cases hv'
    | some vr =>
      simp only [Option.map_some, Option.some.injEq] at hv'
      subst hv'
      obtain ⟨d, hd⟩ := vftRes_vregion hv
      show OutR Gs vr.ty
      rw [hd]
      intro q hq
      simp [byValue] at hq
  · intro f hf s _
    obtain ⟨p, hpm, rfl⟩ := List.mem_map.mp hf
    exact hp p hpm

theorem rrV_known {reg0 reg : Registry} (hu : U8 reg) {owner : Path} {target : Option Nat}
    {pending : List (Option Nat × Region)} {vfns : Option (List SFunc)} {regions : List Region} {vft : Option Vft}
    {size : Nat} {placed : List (Placed Region)}
    (h : rrV reg0 reg owner target pending vfns = .ok (regions, vft, size, placed)) :
    ∀ r ∈ regions, KnownR reg r.ty := by
  obtain ⟨vregion, _, hres, _⟩ := rrV_inv h
  have hpl := C02.placed_layouts_lem reg vregion pending target placed size hres
  exact rrV_regions (KnownR reg) h (fun pl hpl' r0 hsrc => knownR_of_size reg r0.ty _ (hpl pl hpl' r0 hsrc).1)
    (fun n t ht => paddingType_known reg hu n t ht)

theorem genItem_ps (s t : Registry) (hps : t.ps = s.ps) (owner : Path) (vis : Vis) (vfns : Option (List SFunc)) :
    genItem t owner vis vfns = genItem s owner vis vfns := by
  unfold genItem buildVftableItem
  rw [hps]

theorem AgreeOut.regAfter {Gs : List Path} {s t : Registry} (h : AgreeOut Gs s t) (owner : Path) (vis : Vis)
    (vfns : Option (List SFunc)) : AgreeOut Gs (regAfter s owner vis vfns) (regAfter t owner vis vfns) := by
  unfold C09.regAfter
  rw [genItem_ps s t h.ps]
  cases genItem s owner vis vfns with
  | none => exact h
  | some item => exact h.add item

theorem vftRes_congr {s t : Registry} (fb : Option Region)
    (h : ∀ b, fb = some b → ∀ p ∈ C02.byValueR b.ty, t.seen p = s.seen p) (owner : Path)
    (vfns : Option (List SFunc)) : vftRes t fb owner vfns = vftRes s fb owner vfns := by
  unfold vftRes C06.vftCheck
  rw [baseVftable_congr fb h]

theorem rrTail_agree {Gs : List Path} (hu8 : ["u8"] ∉ Gs) {s t : Registry}
    (h : AgreeOut Gs s t) (fb : Option Region) (hfb : ∀ b, fb = some b → OutR Gs b.ty) (owner : Path)
    (target : Option Nat) (pending : List (Option Nat × Region))
    (vfns : Option (List SFunc)) (hp : ∀ p ∈ pending, OutR Gs p.2.ty) :
    rrTail t fb owner target pending vfns = rrTail s fb owner target pending vfns := by
  unfold rrTail
  have e3 : (pending.map fun p => toPField t p.1 p.2) = (pending.map fun p => toPField s p.1 p.2) :=
    List.map_congr_left (fun p hpm => toPField_congr h.ps p.1 (h.agreeR (hp p hpm)).seen)
  rw [e3, nameRegions_congr (paddingType_out h hu8), vftRes_congr fb (fun b hb => (h.agreeR (hfb b hb)).seen)]
  exact Res.bind_congr fun v hv => by rw [vregion_toPField h.ps hv]

theorem baseGate_agree {s t : Registry} (hps : t.ps = s.ps) (fb : Option Region)
    (hk : ∀ b, fb = some b → AgreeR s t b.ty) : baseGate t fb = baseGate s fb := by
  unfold baseGate
  cases fb with
  | none => rfl
  | some b => simp only [(rsize_congr hps (hk b rfl).seen).1]

theorem rrV_agree {Gs : List Path} (hu8 : ["u8"] ∉ Gs) {s0 t0 s t : Registry} (h0 : AgreeOut Gs s0 t0)
    (h : AgreeOut Gs s t) (owner : Path) (target : Option Nat) (pending : List (Option Nat × Region))
    (vfns : Option (List SFunc)) (hp : ∀ p ∈ pending, OutR Gs p.2.ty) :
    rrV t0 t owner target pending vfns = rrV s0 s owner target pending vfns := by
  have hfb : ∀ b, (pending.map (·.2)).find? (·.isBase) = some b → OutR Gs b.ty := by
    intro b hb
    obtain ⟨p, hpm, rfl⟩ := List.mem_map.mp (List.mem_of_find?_eq_some hb)
    exact hp p hpm
  unfold rrV
  rw [rrTail_agree hu8 h _ hfb owner target pending vfns hp,
    baseGate_agree h0.ps _ (fun b hb => h0.agreeR (hfb b hb))]

theorem foldStmts_out {Gs : List Path} (hu8 : ["u8"] ∉ Gs) {s t : Registry} (h : AgreeOut Gs s t)
    {scope : List Path} {d : G.TypeDef} (hstm : ∀ st ∈ d.stmts, CleanStmt Gs scope st) :
    foldStmts t scope d = foldStmts s scope d :=
  stmts_fold_out h hu8 _ _ (fun _ hist => hstm _ (C01.mem_zipIdx_swap hist))

/-- **frame for `type_definition::build`**: the same answer in two registries that agree outside `Gs`, when the
    statements of the definition and the functions of its function blocks are clean -/
theorem btV_out {Gs : List Path} (hu8 : ["u8"] ∉ Gs) {s t : Registry} (h : AgreeOut Gs s t) (module : Mod)
    (path : Path) (vis : Vis) (d : G.TypeDef)
    (hstm : ∀ st ∈ d.stmts, CleanStmt Gs module.scope st)
    (himpl : ∀ im, module.implFor path = some im → ∀ f ∈ im.fns, CleanFunc Gs module.scope f) :
    btV t (some module) path vis d = btV s (some module) path vis d := by
  simp only [btV, foldStmts_out hu8 h hstm]
  refine Res.bind_congr fun doc _ => Res.bind_congr fun ta _ => Res.bind_congr fun sa hsa => ?_
  have hpo : PendOut Gs sa :=
    stmts_fold_pendOut hu8 s _ (fun ist hist => hstm _ (C01.mem_zipIdx_swap hist)) sa hsa
  have h1 := h.regAfter path vis sa.vfns
  rw [rrV_agree hu8 h h1 path ta.targetSize sa.pending sa.vfns hpo]
  refine Res.bind_congr fun x hrr => ?_
  obtain ⟨regions, vft, size, placed⟩ := x
  have hk : ∀ r ∈ regions, AgreeR (regAfter s path vis sa.vfns) (regAfter t path vis sa.vfns) r.ty :=
    fun r hr => h1.agreeR (rrV_out hu8 hpo hrr r hr)
  have hk' := fun r hr => (hk r hr).seen
  unfold btTail
  simp only [fun acc => injectBases_congr regions acc hk', checkDefaultable_congr regions hk', h1.ps,
    fun acc => addImplFns_out h1 hu8 (module.implFor path) himpl acc]

theorem genOf_out {Gs : List Path} (hu8 : ["u8"] ∉ Gs) {s t : Registry} (h : AgreeOut Gs s t) (module : Mod)
    (path : Path) (vis : Vis) (d : G.TypeDef) (hstm : ∀ st ∈ d.stmts, CleanStmt Gs module.scope st) :
    genOf t (some module) path vis d = genOf s (some module) path vis d := by
  unfold genOf vfnsOf
  simp only [foldStmts_out hu8 h hstm, genItem_ps s t h.ps]

theorem contains_add_ne (reg : Registry) (item : ItemDef) {q : Path} (hq : q ≠ item.path) :
    (reg.add item).contains q = reg.contains q := by
  unfold Registry.contains
  rw [C14.get_add, if_neg hq]

theorem RegLe.add {r r' : Registry} (h : RegLe r r') (i : ItemDef) : RegLe (r.add i) (r'.add i) := by
  refine ⟨h.ps, ?_, ?_⟩
  · intro q
    by_cases hq : q = i.path
    · rw [hq, (C14.contains_add r i _).mpr (.inr rfl), (C14.contains_add r' i _).mpr (.inr rfl)]
    · rw [contains_add_ne r i hq, contains_add_ne r' i hq]
      exact h.keys q
  · intro q j hj
    rw [C14.get_add] at hj ⊢
    by_cases hq : q = i.path
    · rw [if_pos hq] at hj ⊢
      cases hj
      exact ⟨i, rfl, rfl, rfl, rfl, .inl rfl⟩
    · rw [if_neg hq] at hj ⊢
      exact h.entries q j hj

theorem RegLe.regAfter {r r' : Registry} (h : RegLe r r') (owner : Path) (vis : Vis) (vfns : Option (List SFunc)) :
    RegLe (regAfter r owner vis vfns) (regAfter r' owner vis vfns) := by
  unfold C09.regAfter
  rw [genItem_ps r r' h.ps.symm]
  cases genItem r owner vis vfns with
  | none => exact h
  | some item => exact h.add item

theorem genItem_resolved {reg : Registry} {owner : Path} {vis : Vis} {vfns : Option (List SFunc)} {item : ItemDef}
    (h : genItem reg owner vis vfns = some item) : ∃ res, item.resolved? = some res := by
  unfold genItem at h
  cases vfns with
  | none => cases h
  | some fns =>
    simp only [Option.bind_some] at h
    unfold buildVftableItem at h
    obtain ⟨q, _, rfl⟩ := Option.map_eq_some_iff.mp h
    exact ⟨_, rfl⟩

theorem known_regAfter (r : Registry) (owner : Path) (vis : Vis) (vfns : Option (List SFunc)) (t : RTy)
    (hk : KnownR r t) : KnownR (regAfter r owner vis vfns) t := by
  unfold regAfter
  cases hg : genItem r owner vis vfns with
  | none => exact hk
  | some item =>
    simp only []
    cases t with
    | fn cc args ret => trivial
    | data d =>
      intro q hq
      rw [C14.get_add]
      by_cases e : q = item.path
      · rw [if_pos e]
        obtain ⟨res, hres⟩ := genItem_resolved hg
        exact ⟨item, res, rfl, hres⟩
      · rw [if_neg e]; exact hk q hq

theorem u8_regAfter (r : Registry) (owner : Path) (vis : Vis) (vfns : Option (List SFunc)) (hu : U8 r) :
    U8 (regAfter r owner vis vfns) := by
  have := known_regAfter r owner vis vfns (.data (.raw ["u8"])) (by
    intro q hq
    simp only [byValue, List.mem_singleton] at hq
    subst hq
    exact hu)
  exact this ["u8"] (by simp [byValue])

theorem resolveFrom_stab (r r' : Registry) (hle : RegLe r r') (start : Res (St Region))
    (pending : List (Option Nat × Region)) (target : Option Nat) :
    Stab (C20.resolveFrom start (pending.map fun p => toPField r p.1 p.2) target)
      (C20.resolveFrom start (pending.map fun p => toPField r' p.1 p.2) target) := by
  unfold C20.resolveFrom
  cases start with
  | ok st0 =>
    simp only []
    rcases (place_stab r r' hle pending st0).elim with hd | he
    · rw [hd]; exact Stab.defer _
    · rw [he]; exact Stab.rfl' _
  | _ => exact Stab.rfl' _

theorem rrTail_stab (r r' : Registry) (hle : RegLe r r') (fb : Option Region)
    (hk : ∀ b, fb = some b → KnownR r b.ty) (owner : Path) (target : Option Nat)
    (pending : List (Option Nat × Region)) (vfns : Option (List SFunc)) :
    Stab (rrTail r fb owner target pending vfns) (rrTail r' fb owner target pending vfns) := by
  unfold rrTail
  rw [vftRes_congr fb (fun b hb => (hk b hb).seen (.of_regLe hle))]
  refine Stab.bind (Stab.rfl' _) fun v hv => ?_
  rw [vregion_toPField hle.ps.symm hv]
  -- `resolve` is `C20.resolveFrom` of its start (`C20.resolve_eq`)
  refine Stab.bind (resolveFrom_stab r r' hle _ pending target) fun pl _ => ?_
  rw [nameRegions_congr (paddingType_congr (hle.keys _))]
  exact Stab.rfl' _

theorem baseGate_stab (r r' : Registry) (hle : RegLe r r') (fb : Option Region) :
    Stab (baseGate r fb) (baseGate r' fb) := by
  unfold baseGate
  cases fb with
  | none => exact Stab.rfl' _
  | some b =>
    obtain ⟨o, ho⟩ := RTy.size_ok r b.ty
    cases o with
    | none => simp only [ho]; exact Stab.defer _
    | some n => simp only [(rsize_congr hle.ps.symm ((knownR_of_size r b.ty n ho).seen (.of_regLe hle))).1]; exact Stab.rfl' _

theorem rrV_stab (r0 r0' r r' : Registry) (hle0 : RegLe r0 r0') (hle : RegLe r r')
    (hkn : ∀ t, KnownR r0 t → KnownR r t) (owner : Path) (target : Option Nat)
    (pending : List (Option Nat × Region)) (vfns : Option (List SFunc)) :
    Stab (rrV r0 r owner target pending vfns) (rrV r0' r' owner target pending vfns) :=
  Stab.bind (baseGate_stab r0 r0' hle0 _) fun _ hg =>
    rrTail_stab r r' hle _ (fun b hb => hkn _ (baseGate_known hg b hb)) owner target pending vfns

/-- **`type_definition::build` is monotone**, with or without a `vftable` block -/
theorem btV_stab (r r' : Registry) (hle : RegLe r r') (hu : U8 r) (mf : Option Mod) (path : Path) (vis : Vis)
    (d : G.TypeDef) : Stab (btV r mf path vis d) (btV r' mf path vis d) := by
  cases mf with
  | none => exact Stab.rfl' _
  | some module =>
    have hfold : foldStmts r' module.scope d = foldStmts r module.scope d := by
      unfold foldStmts; rw [stmtStep_fun r r' hle.keys]
    simp only [btV, hfold]
    refine Stab.bind (Stab.rfl' _) fun doc _ => Stab.bind (Stab.rfl' _) fun ta _ =>
      Stab.bind (Stab.rfl' _) fun sa _ => ?_
    have hle1 := RegLe.regAfter hle path vis sa.vfns
    refine Stab.bind (rrV_stab r r' _ _ hle hle1 (known_regAfter r path vis sa.vfns) path ta.targetSize
      sa.pending sa.vfns) fun x hrr => ?_
    obtain ⟨regions, vft, size, placed⟩ := x
    rw [btTail_mono _ _ hle1 module path doc ta regions vft size placed
      (rrV_known (u8_regAfter r path vis sa.vfns hu) hrr)]
    exact Stab.rfl' _

def gnames (Gs : List Path) : List String := Gs.filterMap (·.getLast?)

theorem not_mem_of_last {Gs : List Path} {q : Path} {nm : String} (hl : q.getLast? = some nm)
    (hn : nm ∉ gnames Gs) : q ∉ Gs := by
  intro hq
  exact hn (List.mem_filterMap.mpr ⟨q, hq, hl⟩)

theorem cleanName_of {Gs scope : List Path} {name : String} (hs : ∀ u ∈ scope, u ∉ Gs) (hn : name ∉ gnames Gs) :
    CleanName Gs scope name := by
  intro q hq
  simp only [candidates, List.mem_append, List.mem_singleton, List.mem_map] at hq
  rcases hq with (hq | hq) | ⟨u, _, rfl⟩
  · exact hs q hq
  · subst hq; exact not_mem_of_last (by simp) hn
  · exact not_mem_of_last (by simp) hn

theorem cleanIds_of {Gs scope : List Path} (hs : ∀ u ∈ scope, u ∉ Gs) {ids : List String}
    (hn : ∀ nm ∈ ids, nm ∉ gnames Gs) : CleanIds Gs scope ids :=
  fun nm hnm => cleanName_of hs (hn nm hnm)

structure Ctx (s0 : State) : Prop where
  ok : C12.StateOkB s0
  ng : NoGenRefs s0

theorem moduleFor_mem {s : State} {p : Path} {m : Mod} (h : s.moduleFor p = some m) :
    ∃ parent, Path.parent? p = some parent ∧ (parent, m) ∈ s.modules := by
  unfold State.moduleFor at h
  split at h
  · cases h
  · next parent hp => exact ⟨parent, hp, C14.mem_of_lookup _ _ _ h⟩

theorem implFor_fns {m : Mod} {p : Path} {im : G.Impl} (h : m.implFor p = some im) :
    ∀ f ∈ im.fns, ∃ b ∈ m.impls, f ∈ b.2.fns := by
  unfold Mod.implFor at h
  split at h
  · cases h
  · next b bs hb =>
    cases h
    intro f hf
    simp only [List.mem_flatMap] at hf
    obtain ⟨blk, hblk, hfb⟩ := hf
    rw [← hb] at hblk
    obtain ⟨e, he, rfl⟩ := List.mem_map.mp hblk
    exact ⟨e, (List.mem_filter.mp he).1, hfb⟩

theorem Ctx.u8 {s0 : State} (cx : Ctx s0) : ["u8"] ∉ genPaths s0 := by
  intro h
  have := cx.ng.fresh _ h
  rw [cx.ok.ok.u8c] at this
  cases this

theorem Ctx.scope {s0 : State} (cx : Ctx s0) {p : Path} {m : Mod} (hm : s0.moduleFor p = some m) :
    ∀ u ∈ m.scope, u ∉ genPaths s0 := by
  obtain ⟨parent, _, hmem⟩ := moduleFor_mem hm
  exact cx.ng.scopes _ hmem

theorem Ctx.stmts {s0 : State} (cx : Ctx s0) {T : Path} {i : ItemDef} {d : G.Item} {td : G.TypeDef} {m : Mod}
    (hget : s0.reg.get T = some i) (hst : i.state = .unres d) (hin : d.inner = .type td)
    (hm : s0.moduleFor T = some m) : ∀ st ∈ td.stmts, CleanStmt (genPaths s0) m.scope st := by
  intro st hstm
  refine cleanIds_of (cx.scope hm) (fun nm hnm => ?_)
  refine cx.ng.defs (T, i) (C14.mem_of_lookup _ _ _ hget) d hst nm ?_
  unfold itemIdents
  rw [hin]
  exact List.mem_flatMap.mpr ⟨st, hstm, hnm⟩

theorem Ctx.enumTy {s0 : State} (cx : Ctx s0) {T : Path} {i : ItemDef} {d : G.Item} {ed : G.EnumDef} {m : Mod}
    (hget : s0.reg.get T = some i) (hst : i.state = .unres d) (hin : d.inner = .enum ed)
    (hm : s0.moduleFor T = some m) : CleanTy (genPaths s0) m.scope ed.ty := by
  refine cleanIds_of (cx.scope hm) (fun nm hnm => ?_)
  refine cx.ng.defs (T, i) (C14.mem_of_lookup _ _ _ hget) d hst nm ?_
  unfold itemIdents
  rw [hin]
  exact hnm

theorem Ctx.implFns {s0 : State} (cx : Ctx s0) {T : Path} {m : Mod} (hm : s0.moduleFor T = some m) :
    ∀ im, m.implFor T = some im → ∀ f ∈ im.fns, CleanFunc (genPaths s0) m.scope f := by
  intro im him f hf
  obtain ⟨parent, _, hmem⟩ := moduleFor_mem hm
  obtain ⟨b, hb, hfb⟩ := implFor_fns him f hf
  exact cleanIds_of (cx.scope hm) (cx.ng.impls _ hmem b hb f hfb)

theorem fieldsOnly_of_noBlock {td : G.TypeDef} (h : hasVftBlock td = false) : FieldsOnly td := by
  intro st hst
  unfold hasVftBlock at h
  rw [List.any_eq_false] at h
  have := h st hst
  unfold C01.isFieldStmt
  cases hf : st.field with
  | field v n t => rfl
  | vftable fns => rw [hf] at this; simp at this

theorem vfnsOf_fieldsOnly (reg : Registry) (mf : Option Mod) {td : G.TypeDef} (hv : FieldsOnly td) :
    vfnsOf reg mf td = none := by
  unfold vfnsOf
  cases mf with
  | none => rfl
  | some m =>
    simp only []
    cases hsa : foldStmts reg m.scope td with
    | ok sa => exact stmts_fold_novft reg m.scope td hv sa hsa
    | _ => rfl

theorem vfnsOf_block {reg : Registry} {mf : Option Mod} {td : G.TypeDef}
    {fns : List SFunc} (h : vfnsOf reg mf td = some fns) : hasVftBlock td = true := by
  cases hb : hasVftBlock td with
  | true => rfl
  | false => rw [vfnsOf_fieldsOnly reg mf (fieldsOnly_of_noBlock hb)] at h; cases h

theorem genOf_path {reg : Registry} {mf : Option Mod} {T : Path} {vis : Vis} {td : G.TypeDef} {item : ItemDef}
    (h : genOf reg mf T vis td = some item) : vftablePath T = some item.path ∧ ∃ fns, vfnsOf reg mf td = some fns := by
  unfold genOf genItem at h
  cases hv : vfnsOf reg mf td with
  | none => rw [hv] at h; cases h
  | some fns =>
    rw [hv] at h
    simp only [Option.bind_some] at h
    exact ⟨vftablePath_of_item h, fns, rfl⟩

theorem genOf_mem {s0 : State} {T : Path} {i : ItemDef} {d : G.Item}
    {td : G.TypeDef} (hget : s0.reg.get T = some i) (hst : i.state = .unres d) (hin : d.inner = .type td)
    {mf : Option Mod} {vis : Vis} {item : ItemDef} (h : genOf s0.reg mf T vis td = some item) :
    item.path ∈ genPaths s0 := by
  obtain ⟨hp, fns, hf⟩ := genOf_path h
  have hb := vfnsOf_block hf
  unfold genPaths
  refine List.mem_filterMap.mpr ⟨(T, i), C14.mem_of_lookup _ _ _ hget, ?_⟩
  unfold genPathOf
  simp only [hst, hin, hb, if_true, hp]

theorem genOf_keys (r r' : Registry) (hk : ∀ p, r'.contains p = r.contains p) (hps : r'.ps = r.ps) (mf : Option Mod)
    (T : Path) (vis : Vis) (td : G.TypeDef) : genOf r' mf T vis td = genOf r mf T vis td := by
  unfold genOf vfnsOf foldStmts
  rw [stmtStep_fun r r' hk, genItem_ps r r' hps]

theorem genOf_defPaths (reg : Registry) (m : Mod) (dp : List Path) (T : Path) (vis : Vis) (td : G.TypeDef) :
    genOf reg (some { m with defPaths := dp }) T vis td = genOf reg (some m) T vis td := rfl

theorem btV_defPaths (reg : Registry) (m : Mod) (dp : List Path) (T : Path) (vis : Vis) (td : G.TypeDef) :
    btV reg (some { m with defPaths := dp }) T vis td = btV reg (some m) T vis td := rfl

/-- `T` is an unresolved type definition of `s0` whose attempt generates `item` -/
def Gen (s0 : State) (T : Path) (item : ItemDef) : Prop :=
  ∃ i d td, s0.reg.get T = some i ∧ i.isPredefined = false ∧ i.state = .unres d ∧ d.inner = .type td ∧
    genOf s0.reg (s0.moduleFor T) T d.vis td = some item

theorem Gen.pending {s0 : State} {T : Path} {a : ItemDef} (ha : Gen s0 T a) : Pending s0 T := by
  obtain ⟨i, d, td, h1, hp, h2, _, _⟩ := ha
  exact ⟨i, d, h1, hp, h2⟩

theorem Gen.unique {s0 : State} {T : Path} {a b : ItemDef} (ha : Gen s0 T a) (hb : Gen s0 T b) : a = b := by
  obtain ⟨i, d, td, h1, _, h2, h3, h4⟩ := ha
  obtain ⟨i', d', td', h1', _, h2', h3', h4'⟩ := hb
  rw [h1] at h1'; cases h1'
  rw [h2] at h2'; cases h2'
  rw [h3] at h3'; cases h3'
  rw [h4] at h4'; cases h4'
  rfl

theorem Gen.path {s0 : State} {T : Path} {a : ItemDef} (ha : Gen s0 T a) : vftablePath T = some a.path := by
  obtain ⟨i, d, td, _, _, _, _, h4⟩ := ha
  exact (genOf_path h4).1

theorem Gen.inj {s0 : State} {T T' : Path} {a b : ItemDef} (ha : Gen s0 T a) (hb : Gen s0 T' b)
    (hp : a.path = b.path) : a = b := by
  have h1 := ha.path
  have h2 := hb.path
  rw [← hp] at h2
  have := vftablePath_inj h1 h2
  subst this
  exact ha.unique hb

theorem Gen.mem {s0 : State} {T : Path} {a : ItemDef} (ha : Gen s0 T a) : a.path ∈ genPaths s0 := by
  obtain ⟨i, d, td, h1, _, h2, h3, h4⟩ := ha
  exact genOf_mem h1 h2 h3 h4

theorem Gen.fresh {s0 : State} (cx : Ctx s0) {T : Path} {a : ItemDef} (ha : Gen s0 T a) : s0.reg.get a.path = none :=
  Registry.contains_eq_false.mp (cx.ng.fresh _ ha.mem)

theorem Gen.resolved {s0 : State} {T : Path} {a : ItemDef} (ha : Gen s0 T a) : ∃ res, a.resolved? = some res := by
  obtain ⟨i, d, td, _, _, _, _, h4⟩ := ha
  exact genItem_resolved h4

/-! ### the abstract attempt (`Mono.attempt`, on the state without generated items) is monotone

What this needs of the initial state: `u8` is resolved and the path of the item that an unresolved definition
generates is not a key yet. -/

def GenFresh (s0 : State) : Prop :=
  ∀ T i d td item, s0.reg.get T = some i → i.state = .unres d → d.inner = .type td →
    genOf s0.reg (s0.moduleFor T) T d.vis td = some item → s0.reg.contains item.path = false

section fresh
variable {s0 : State} (hu : U8 s0.reg) (hfresh : GenFresh s0)
include hu hfresh

omit hu in
theorem canon_noclash (R : Reg Path Resolved) {T : Path} {i : ItemDef} {d : G.Item}
    {td : G.TypeDef} (hget : s0.reg.get T = some i) (hst : i.state = .unres d) (hin : d.inner = .type td) :
    ∀ item, genOf (stateOf s0 R).reg ((stateOf s0 R).moduleFor T) T d.vis td = some item →
      (stateOf s0 R).reg.get item.path = none ∨ (stateOf s0 R).reg.get item.path = some item := by
  intro item h
  left
  have e : genOf (stateOf s0 R).reg (s0.moduleFor T) T d.vis td = genOf s0.reg (s0.moduleFor T) T d.vis td :=
    genOf_keys s0.reg (stateOf s0 R).reg (contains_stateOf s0 R) rfl _ _ _ _
  have hm : (stateOf s0 R).moduleFor T = s0.moduleFor T := rfl
  rw [hm, e] at h
  apply Registry.contains_eq_false.mp
  rw [contains_stateOf]
  exact hfresh T i d td item hget hst hin h

omit hu in
theorem buildType_stateOf (R : Reg Path Resolved) {T : Path} {i : ItemDef} {d : G.Item}
    {td : G.TypeDef} (hget : s0.reg.get T = some i) (hst : i.state = .unres d) (hin : d.inner = .type td) :
    (buildType (stateOf s0 R) T d.vis td).2 = btV (stateOf s0 R).reg (s0.moduleFor T) T d.vis td := by
  obtain ⟨s1, h1, _, _⟩ := buildType_pureV (stateOf s0 R) T d.vis td (canon_noclash hfresh R hget hst hin)
  rw [h1]
  rfl

theorem attempt_stabV (R R' : Reg Path Resolved) (hle : Reg.le R R') (k : Path)
    (hne : attempt s0 R k ≠ .defer) : attempt s0 R' k = attempt s0 R k := by
  obtain ⟨i, d, hg, hp, hst⟩ := attempt_pending s0 R k hne
  rw [attempt_eq hg hp hst] at hne ⊢
  rw [attempt_eq hg hp hst]
  unfold C20.attemptDef at hne ⊢
  cases hin : d.inner with
  | type td =>
    simp only [hin, buildType_stateOf hfresh _ hg hst hin] at hne ⊢
    exact toOut_stab (btV_stab _ _ (stateOf_le s0 R R' hle) (stateOf_u8 s0 R hu) _ k d.vis td) hne
  | enum ed =>
    simp only [hin] at hne ⊢
    exact toOut_stab (buildEnum_stab (stateOf s0 R) (stateOf s0 R') rfl (stateOf_le s0 R R' hle) k ed) hne

/-- **`Mono` for the concrete attempt**: once an attempt on an item answers "resolved to `v`" or "error", it gives
    the same answer after any further resolution -/
theorem attempt_mono_of_fresh : Work.Mono (attempt s0) where
  done := by
    intro R R' k v hle h
    rw [attempt_stabV hu hfresh R R' hle k (by rw [h]; exact fun e => by cases e), h]
  fail := by
    intro R R' k hle h
    rw [attempt_stabV hu hfresh R R' hle k (by rw [h]; exact fun e => by cases e), h]

end fresh

theorem Ctx.genFresh {s0 : State} (cx : Ctx s0) : GenFresh s0 :=
  fun _ _ _ _ _ hget hst hin h => cx.ng.fresh _ (genOf_mem hget hst hin h)

theorem buildType_canon {s0 : State} (cx : Ctx s0) (R : Reg Path Resolved) {T : Path} {i : ItemDef} {d : G.Item}
    {td : G.TypeDef} (hget : s0.reg.get T = some i) (hst : i.state = .unres d) (hin : d.inner = .type td) :
    (buildType (stateOf s0 R) T d.vis td).2 = btV (stateOf s0 R).reg (s0.moduleFor T) T d.vis td :=
  buildType_stateOf cx.genFresh R hget hst hin

/-- **`Mono` for the concrete attempt**, with `vftable` blocks, when nothing mentions a generated name -/
theorem attempt_monoV {s0 : State} (cx : Ctx s0) : Work.Mono (attempt s0) :=
  attempt_mono_of_fresh (u8_of_ok cx.ok.ok) cx.genFresh

theorem genFresh_of_noVftS {s : State} (hv : NoVftS s) : GenFresh s := by
  intro T i d td item hget hst hin h
  unfold genOf at h
  rw [vfnsOf_fieldsOnly _ _ (hv T i d td hget hst hin)] at h
  cases h

theorem sim_stateOf {s0 : State} (hn : (C10.keys s0.reg).Nodup) (hv : NoVftS s0) :
    Sim s0 (fun R s => s = stateOf s0 R) where
  unres := by
    rintro R _ rfl _ k
    exact mem_ulist_stateOf s0 hn R k
  skip := by
    rintro R _ k v rfl ⟨i, d, hi, _, hst⟩ hR
    refine attemptItem_of_res (i := resItem R k i) (r := v) (by rw [get_stateOf, hi]; rfl) ?_
    rw [resItem_some R k i d v hst hR]
  step := by
    rintro R _ k rfl ⟨i, d, hi, hpre, hst⟩ hR
    have hg : (stateOf s0 R).reg.get k = some i := by
      rw [get_stateOf, hi, Option.map_some, resItem_none R k i hR]
    have hupd := fun r => stateOf_upd s0 hn R k i d r hi hst hR
    rw [attemptItem_of_unres hg hst, attempt_eq hi hpre hst]
    unfold C20.attemptDef
    cases hin : d.inner with
    | type td =>
      have hgen : genOf (stateOf s0 R).reg ((stateOf s0 R).moduleFor k) k d.vis td = none := by
        unfold genOf
        rw [vfnsOf_fieldsOnly _ _ (hv k i d td hi hst hin)]
        rfl
      obtain ⟨s1, h1, h2, _⟩ := buildType_pureV (stateOf s0 R) k d.vis td (by rw [hgen]; intro _ h; cases h)
      have e : s1 = stateOf s0 R := by
        rcases h2 with e | ⟨item, h, _⟩
        · exact e
        · rw [hgen] at h; cases h
      subst e
      simp only [h1]
      exact finishAttempt_post _ _ (fun r _ => hupd r) (fun _ => rfl)
    | enum ed => exact finishAttempt_post _ _ (fun r _ => hupd r) (fun _ => rfl)

/-- the definition paths of the module stored under `key`, in a state with registry `reg` reached from `s0`:
    those of `s0`, preceded by the (pairwise distinct) new keys of the registry directly under `key` -/
def DpRep (s0 : State) (reg : Registry) (key : Path) (m0 : Mod) (dp : List Path) : Prop :=
  ∃ L, dp = L ++ m0.defPaths ∧ L.Nodup ∧
    ∀ q, q ∈ L ↔ (q ∉ m0.defPaths ∧ s0.reg.get q = none ∧ reg.contains q = true ∧ Path.parent? q = some key)

theorem DpRep.congr {s0 : State} {reg reg' : Registry} {key : Path} {m0 : Mod} {dp : List Path}
    (h : DpRep s0 reg key m0 dp) (hc : ∀ q, reg'.contains q = reg.contains q) : DpRep s0 reg' key m0 dp := by
  obtain ⟨L, h1, h2, h3⟩ := h
  exact ⟨L, h1, h2, fun q => by rw [hc q]; exact h3 q⟩

theorem DpRep.add_other {s0 : State} {reg : Registry} {key : Path} {m0 : Mod} {dp : List Path}
    (h : DpRep s0 reg key m0 dp) (item : ItemDef) (hne : Path.parent? item.path ≠ some key) :
    DpRep s0 (reg.add item) key m0 dp := by
  obtain ⟨L, h1, h2, h3⟩ := h
  refine ⟨L, h1, h2, fun q => ?_⟩
  by_cases hq : q = item.path
  · rw [h3 q, hq]
    exact ⟨fun h => absurd h.2.2.2 hne, fun h => absurd h.2.2.2 hne⟩
  · rw [contains_add_ne reg item hq]
    exact h3 q

theorem DpRep.add_same {s0 : State} {reg : Registry} {key : Path} {m0 : Mod} {dp : List Path}
    (h : DpRep s0 reg key m0 dp) (item : ItemDef) (hp : Path.parent? item.path = some key)
    (hfresh : s0.reg.get item.path = none) :
    DpRep s0 (reg.add item) key m0 (if dp.contains item.path then dp else item.path :: dp) := by
  obtain ⟨L, rfl, h2, h3⟩ := h
  -- `item.path` is the one path whose membership in the registry changes
  have hne : ∀ q, q ≠ item.path → (q ∈ L ↔ q ∉ m0.defPaths ∧ s0.reg.get q = none ∧
      (reg.add item).contains q = true ∧ Path.parent? q = some key) := fun q hq => by
    rw [contains_add_ne reg item hq]
    exact h3 q
  have hself : (item.path ∉ m0.defPaths ∧ s0.reg.get item.path = none ∧
      (reg.add item).contains item.path = true ∧ Path.parent? item.path = some key) ↔ item.path ∉ m0.defPaths :=
    ⟨fun h => h.1, fun h => ⟨h, hfresh, (C14.contains_add reg item _).mpr (.inr rfl), hp⟩⟩
  by_cases hc : item.path ∈ L ++ m0.defPaths
  · rw [if_pos (List.contains_iff_mem.mpr hc)]
    refine ⟨L, rfl, h2, fun q => ?_⟩
    by_cases hq : q = item.path
    · rw [hq, hself]
      exact ⟨fun hL => ((h3 _).mp hL).1, fun a => (List.mem_append.mp hc).resolve_right a⟩
    · exact hne q hq
  · rw [if_neg (fun h => hc (List.contains_iff_mem.mp h))]
    refine ⟨item.path :: L, rfl, List.nodup_cons.mpr ⟨fun hx => hc (List.mem_append_left _ hx), h2⟩, fun q => ?_⟩
    by_cases hq : q = item.path
    · rw [hq, hself]
      exact ⟨fun _ hx => hc (List.mem_append_right _ hx), fun _ => List.mem_cons_self⟩
    · rw [List.mem_cons, ← hne q hq]
      exact ⟨fun h => h.resolve_left hq, .inr⟩

/-- `s` represents the abstract registry `R` over the initial state `s0`: it is `stateOf s0 R` plus generated items,
    each the one item its owner generates in `s0`; the generated item of every owner the loop has resolved is
    registered; the stored modules are those of `s0` up to the definition paths -/
structure Rep (s0 : State) (R : Reg Path Resolved) (s : State) : Prop where
  ps : s.reg.ps = s0.reg.ps
  entries : ∀ q, s.reg.get q = (stateOf s0 R).reg.get q ∨
    (s0.reg.get q = none ∧ ∃ T item, Gen s0 T item ∧ item.path = q ∧ s.reg.get q = some item)
  registered : ∀ T v item, R T = some v → Gen s0 T item → s.reg.get item.path = some item
  mods : ∃ f : Path → List Path,
    s.modules = s0.modules.map (fun e => (e.1, { e.2 with defPaths := f e.1 })) ∧
    ∀ e ∈ s0.modules, DpRep s0 s.reg e.1 e.2 (f e.1)

theorem getModule_of_mem {s0 : State} (hn : (s0.modules.map (·.1)).Nodup) {e : Path × Mod} (he : e ∈ s0.modules) :
    s0.getModule e.1 = some e.2 :=
  lookup_of_mem s0.modules hn e.1 e.2 he

theorem Rep.init {s0 : State} (cx : Ctx s0) : Rep s0 R0 s0 := by
  refine ⟨rfl, fun q => .inl (by rw [stateOf_R0]), fun T v item h => (by cases h), ?_⟩
  refine ⟨fun k => ((s0.getModule k).map (·.defPaths)).getD [], ?_, ?_⟩
  · conv => lhs; rw [← List.map_id s0.modules]
    refine List.map_congr_left fun e he => ?_
    simp only [getModule_of_mem cx.ng.modKeys he, Option.map_some, Option.getD_some, id]
  · intro e he
    simp only [getModule_of_mem cx.ng.modKeys he, Option.map_some, Option.getD_some]
    refine ⟨[], rfl, List.nodup_nil, fun q => ?_⟩
    constructor
    · intro h; cases h
    · rintro ⟨_, b, c, _⟩
      unfold Registry.contains at c
      rw [b] at c
      cases c

theorem Rep.agree {s0 : State} {R : Reg Path Resolved} {s : State} (h : Rep s0 R s) :
    AgreeOut (genPaths s0) (stateOf s0 R).reg s.reg := by
  refine ⟨h.ps, fun q hq => ?_⟩
  rcases h.entries q with e | ⟨_, T, item, hg, hp, _⟩
  · exact e
  · exact absurd (hp ▸ hg.mem) hq

theorem Rep.get_pending {s0 : State} {R : Reg Path Resolved} {s : State} (h : Rep s0 R s) {k : Path} {i j : ItemDef}
    (hi : s0.reg.get k = some i) (hj : resItem R k i = j) : s.reg.get k = some j := by
  rcases h.entries k with e | ⟨e, _⟩
  · rw [e, get_stateOf, hi, Option.map_some, hj]
  · rw [hi] at e; cases e

theorem getModule_of_mods {s0 s : State} {f : Path → List Path}
    (hf : s.modules = s0.modules.map fun e => (e.1, { e.2 with defPaths := f e.1 })) (k : Path) :
    s.getModule k = (s0.getModule k).map fun m0 => { m0 with defPaths := f k } := by
  unfold State.getModule
  rw [hf]
  exact lookup_map_val (fun k (m : Mod) => { m with defPaths := f k }) s0.modules k

theorem Rep.moduleFor_eq {s0 : State} {R : Reg Path Resolved} {s : State} (h : Rep s0 R s) (p : Path) :
    ∃ dp, s.moduleFor p = (s0.moduleFor p).map fun m0 => { m0 with defPaths := dp } := by
  obtain ⟨f, hf, _⟩ := h.mods
  unfold State.moduleFor
  cases Path.parent? p with
  | none => exact ⟨[], rfl⟩
  | some parent => exact ⟨f parent, getModule_of_mods hf parent⟩

theorem Rep.moduleFor {s0 : State} {R : Reg Path Resolved} {s : State} (h : Rep s0 R s) (p : Path) (m0 : Mod)
    (hm : s0.moduleFor p = some m0) : ∃ dp, s.moduleFor p = some { m0 with defPaths := dp } := by
  obtain ⟨dp, e⟩ := h.moduleFor_eq p
  exact ⟨dp, by rw [e, hm]; rfl⟩

theorem Rep.moduleFor_none {s0 : State} {R : Reg Path Resolved} {s : State} (h : Rep s0 R s) (p : Path)
    (hm : s0.moduleFor p = none) : s.moduleFor p = none := by
  obtain ⟨dp, e⟩ := h.moduleFor_eq p
  rw [e, hm]
  rfl

theorem Rep.addItem {s0 : State} (cx : Ctx s0) {R : Reg Path Resolved} {s s1 : State} (hrep : Rep s0 R s)
    {T : Path} {item : ItemDef} (hg : Gen s0 T item) (ha : s.addItem item = .ok s1) : Rep s0 R s1 := by
  have hreg := C14.addItem_reg s s1 item ha
  have hfresh := hg.fresh cx
  refine ⟨by rw [hreg]; exact hrep.ps, ?_, ?_, ?_⟩
  · intro q
    rw [hreg, C14.get_add]
    by_cases hq : q = item.path
    · rw [if_pos hq]
      exact .inr ⟨by rw [hq]; exact hfresh, T, item, hg, hq.symm, rfl⟩
    · rw [if_neg hq]
      exact hrep.entries q
  · intro T' v item' hR hg'
    rw [hreg, C14.get_add]
    by_cases hq : item'.path = item.path
    · rw [if_pos hq, hg'.inj hg hq]
    · rw [if_neg hq]
      exact hrep.registered T' v item' hR hg'
  · obtain ⟨f, hf, hdp⟩ := hrep.mods
    obtain ⟨parent, m, hpar, hm, rfl⟩ := C14.addItem_inv s s1 item ha
    rw [getModule_of_mods hf] at hm
    obtain ⟨m0, hm0, rfl⟩ := Option.map_eq_some_iff.mp hm
    have hkey : ∀ e ∈ s0.modules, e.1 = parent → e.2 = m0 := fun e he hk =>
      Option.some.inj (by rw [← getModule_of_mem cx.ng.modKeys he, hk, hm0])
    refine ⟨fun k => if k = parent then
        (if (f parent).contains item.path then f parent else item.path :: f parent) else f k, ?_, fun e he => ?_⟩
    · rw [hf, List.map_map]
      refine List.map_congr_left fun e he => ?_
      by_cases hk : e.1 = parent
      · simp only [Function.comp, hk, beq_self_eq_true, if_true, hkey e he hk]
      · simp only [Function.comp, beq_false_of_ne hk, Bool.false_eq_true, if_false, hk]
    · by_cases hk : e.1 = parent
      · have := (hdp e he).add_same item (by rw [hk]; exact hpar) hfresh
        rw [hk] at this
        simpa only [hk, if_true] using this
      · simp only [hk, if_false]
        exact (hdp e he).add_other item (fun hx => hk (by rw [hpar] at hx; cases hx; rfl))

theorem Rep.setState {s0 : State} (cx : Ctx s0) {R : Reg Path Resolved} {s : State} (hrep : Rep s0 R s)
    {T : Path} {i : ItemDef} {d : G.Item} (hget : s0.reg.get T = some i) (hst : i.state = .unres d)
    (hR : R T = none) (r : Resolved) (hreg : ∀ item, Gen s0 T item → s.reg.get item.path = some item) :
    Rep s0 (upd R T r) { s with reg := s.reg.setState T (.res r) } := by
  have hsT : s.reg.get T = some i := hrep.get_pending hget (resItem_none R T i hR)
  refine ⟨hrep.ps, ?_, ?_, ?_⟩
  · intro q
    show (s.reg.setState T (.res r)).get q = _ ∨ _
    rw [C12.get_setState]
    by_cases hq : q = T
    · subst hq
      rw [if_pos rfl, hsT]
      left
      rw [get_stateOf, hget]
      simp only [Option.map_some, resItem_some (upd R q r) q i d r hst (by simp [upd])]
    · rw [if_neg hq]
      rcases hrep.entries q with e | h
      · left
        rw [e, get_stateOf, get_stateOf, resItem_upd_ne' R T r q hq]
      · exact .inr h
  · intro T' v item hv hg
    show (s.reg.setState T (.res r)).get item.path = _
    have hne : item.path ≠ T := by
      intro e
      have := hg.fresh cx
      rw [e, hget] at this; cases this
    rw [C12.get_setState, if_neg hne]
    by_cases hT : T' = T
    · subst hT; exact hreg item hg
    · have : R T' = some v := by simpa [upd, hT] using hv
      exact hrep.registered T' v item this hg
  · obtain ⟨f, hf, hdp⟩ := hrep.mods
    exact ⟨f, hf, fun e he => (hdp e he).congr (fun q => CaseLift2.contains_setState s.reg T q (.res r))⟩

theorem buildEnum_out {Gs : List Path} (hu8 : ["u8"] ∉ Gs) {ss ts : State} (h : AgreeOut Gs ss.reg ts.reg)
    (k : Path) (m0 : Mod) (dp : List Path) (hms : ss.moduleFor k = some m0)
    (hmt : ts.moduleFor k = some { m0 with defPaths := dp }) (ed : G.EnumDef)
    (hc : CleanTy Gs m0.scope ed.ty) : buildEnum ts k ed = buildEnum ss k ed := by
  unfold buildEnum
  rw [hms, hmt]
  simp only []
  have hsc : ({ m0 with defPaths := dp } : Mod).scope = m0.scope := rfl
  rw [hsc, resolveTy_out h hu8 hc]
  cases hty : ss.reg.resolveTy m0.scope ed.ty with
  | ok ty =>
    simp only []
    have e := dsize_congr h.ps (h.agreeD (resolveTy_outD hu8 ss.reg ed.ty hc ty hty)).seen
    rw [e.1, e.2]
  | _ => rfl

/-- one `type_definition::build` from a state that represents `R`: the answer is the abstract one, the new state
    represents `R` too, and when the answer is a result the generated item is registered -/
theorem buildType_rep {s0 : State} (cx : Ctx s0) {R : Reg Path Resolved} {s : State} (hrep : Rep s0 R s)
    {T : Path} {i : ItemDef} {d : G.Item} {td : G.TypeDef} {m0 : Mod}
    (hget : s0.reg.get T = some i) (hpre : i.isPredefined = false) (hst : i.state = .unres d)
    (hin : d.inner = .type td) (hm : s0.moduleFor T = some m0) :
    ∃ s1, buildType s T d.vis td = (s1, btV (stateOf s0 R).reg (s0.moduleFor T) T d.vis td) ∧ Rep s0 R s1 ∧
      (∀ r, btV (stateOf s0 R).reg (s0.moduleFor T) T d.vis td = .ok r →
        ∀ item, Gen s0 T item → s1.reg.get item.path = some item) := by
  have hag := hrep.agree
  obtain ⟨dp, hms⟩ := hrep.moduleFor T m0 hm
  have hstm := cx.stmts hget hst hin hm
  have hgen : genOf s.reg (s.moduleFor T) T d.vis td = genOf s0.reg (s0.moduleFor T) T d.vis td := by
    rw [hms, hm, genOf_defPaths, genOf_out cx.u8 hag m0 T d.vis td hstm,
      genOf_keys s0.reg (stateOf s0 R).reg (contains_stateOf s0 R) rfl]
  have hnc : ∀ item, genOf s.reg (s.moduleFor T) T d.vis td = some item →
      s.reg.get item.path = none ∨ s.reg.get item.path = some item := by
    intro item h
    rw [hgen] at h
    have hg : Gen s0 T item := ⟨i, d, td, hget, hpre, hst, hin, h⟩
    rcases hrep.entries item.path with e | ⟨_, T', item', hg', hp, e⟩
    · exact .inl (by rw [e, get_stateOf, hg.fresh cx]; rfl)
    · exact .inr (by rw [e, hg'.inj hg hp])
  obtain ⟨s1, h1, h2, h3⟩ := buildType_pureV s T d.vis td hnc
  have hres : btV s.reg (s.moduleFor T) T d.vis td = btV (stateOf s0 R).reg (s0.moduleFor T) T d.vis td := by
    rw [hms, hm, btV_defPaths, btV_out cx.u8 hag m0 T d.vis td hstm (cx.implFns hm)]
  refine ⟨s1, by rw [h1, hres], ?_, ?_⟩
  · rcases h2 with rfl | ⟨item, hi, ha⟩
    · exact hrep
    · rw [hgen] at hi
      exact hrep.addItem cx ⟨i, d, td, hget, hpre, hst, hin, hi⟩ ha
  · intro r hr item hg
    have hg0 : genOf s0.reg (s0.moduleFor T) T d.vis td = some item := by
      obtain ⟨i', d', td', a, _, b, c, e⟩ := hg
      rw [hget] at a; cases a
      rw [hst] at b; cases b
      rw [hin] at c; cases c
      exact e
    exact h3 r (by rw [hres]; exact hr) item (by rw [hgen]; exact hg0)

theorem mem_ulist_iff (r : Registry) (hn : (C10.keys r).Nodup) (k : Path) :
    k ∈ C10.ulist r ↔ ∃ v, r.get k = some v ∧ v.isPredefined = false ∧ v.isResolved = false := by
  simp only [C10.ulist, List.mem_map, List.mem_filter]
  constructor
  · rintro ⟨e, ⟨he, hf⟩, rfl⟩
    refine ⟨e.2, lookup_of_mem r.types hn e.1 e.2 he, ?_⟩
    simpa using hf
  · rintro ⟨v, hv, h1, h2⟩
    exact ⟨(k, v), ⟨C14.mem_of_lookup _ _ _ hv, by simp [h1, h2]⟩, rfl⟩

theorem keys_stateOf (s0 : State) (R : Reg Path Resolved) : C10.keys (stateOf s0 R).reg = C10.keys s0.reg := by
  simp only [C10.keys, stateOf, List.map_map]
  rfl

/-- the unresolved items of a state that represents `R` are those of `stateOf s0 R`: a generated item is resolved -/
theorem Rep.mem_ulist {s0 : State} (cx : Ctx s0) {R : Reg Path Resolved} {s : State} (hrep : Rep s0 R s)
    (hn : (C10.keys s.reg).Nodup) (k : Path) : k ∈ C10.ulist s.reg ↔ Pending s0 k ∧ R k = none := by
  have hn0 : (C10.keys s0.reg).Nodup := cx.ok.ok.reg.keys
  rw [mem_ulist_iff s.reg hn, ← mem_ulist_stateOf s0 hn0 R k,
    mem_ulist_iff (stateOf s0 R).reg (by rw [keys_stateOf]; exact hn0)]
  constructor
  · rintro ⟨v, hv, h1, h2⟩
    rcases hrep.entries k with e | ⟨_, T, item, hg, hp, e⟩
    · exact ⟨v, by rw [← e]; exact hv, h1, h2⟩
    · rw [e] at hv
      cases hv
      obtain ⟨res, hres⟩ := hg.resolved
      simp [ItemDef.isResolved, hres] at h2
  · rintro ⟨v, hv, h1, h2⟩
    rcases hrep.entries k with e | ⟨e0, _⟩
    · exact ⟨v, by rw [e]; exact hv, h1, h2⟩
    · rw [get_stateOf, e0] at hv; cases hv

/-- **the simulation**: the states that represent an abstract registry simulate the abstract worklist -/
theorem sim_rep {s0 : State} (cx : Ctx s0) : Sim s0 (Rep s0) where
  unres := fun hrep hn k => hrep.mem_ulist cx hn k
  skip := by
    intro R s k v hrep ⟨i, d, hi, _, hst⟩ hR
    exact attemptItem_of_res (hrep.get_pending hi (resItem_some R k i d v hst hR)) rfl
  step := by
    intro R s k hrep ⟨i, d, hi, hpre, hst⟩ hR
    have hg : s.reg.get k = some i := hrep.get_pending hi (resItem_none R k i hR)
    obtain ⟨m0, hm⟩ := cx.ok.ok.parents k i hi (by simp [hpre])
    rw [attemptItem_of_unres hg hst, attempt_eq hi hpre hst]
    unfold C20.attemptDef
    cases hin : d.inner with
    | type td =>
      obtain ⟨s1, h1, h2, h3⟩ := buildType_rep cx hrep hi hpre hst hin hm
      simp only [h1, buildType_canon cx R hi hst hin]
      exact finishAttempt_post s1 _ (fun r hr => h2.setState cx hi hst hR r (h3 r hr)) (fun _ => h2)
    | enum ed =>
      obtain ⟨dp, hms⟩ := hrep.moduleFor k m0 hm
      simp only [buildEnum_out cx.u8 hrep.agree k m0 dp hm hms ed (cx.enumTy hi hst hin hm)]
      refine finishAttempt_post s _ (fun r _ => hrep.setState cx hi hst hR r ?_) (fun _ => hrep)
      intro item ⟨i', d', td', a, _, b, c, _⟩
      rw [hi] at a; cases a
      rw [hst] at b; cases b
      rw [hin] at c; cases c

def ModEqv (m1 m2 : Mod) : Prop := ∃ dp, m2 = { m1 with defPaths := dp } ∧ dp.Perm m1.defPaths

/-- the two module lists have the same keys in the same order, and equal modules up to the order of the
    definition paths -/
def ModsEqv : List (Path × Mod) → List (Path × Mod) → Prop
  | [], [] => True
  | a :: l1, b :: l2 => a.1 = b.1 ∧ ModEqv a.2 b.2 ∧ ModsEqv l1 l2
  | _, _ => False

/-- the verdict of a build, up to what may legitimately depend on the order in the presence of generated items:
    *which* failure is reported first (an error or the modelled allocation limit), the order in which the unresolved
    items are listed, and the order in which the generated paths were inserted into the definition paths of their
    modules -/
def sameVerdictV : BuildOutcome → BuildOutcome → Prop
  | .ok s1, .ok s2 => (∀ p, s1.reg.get p = s2.reg.get p) ∧ ModsEqv s1.modules s2.modules ∧
      s1.reg.ps = s2.reg.ps ∧ s1.reg.types.Perm s2.reg.types
  | .nonterm f1, .nonterm f2 => f1.Perm f2
  | .err _, .err _ => True
  | .err _, .panic _ => True
  | .panic _, .err _ => True
  | .panic _, .panic _ => True
  | .fuel, .fuel => True
  | _, _ => False

theorem modsEqv_map (l : List (Path × Mod)) (g1 g2 : Path × Mod → Mod)
    (h : ∀ e ∈ l, ModEqv (g1 e) (g2 e)) : ModsEqv (l.map fun e => (e.1, g1 e)) (l.map fun e => (e.1, g2 e)) := by
  induction l with
  | nil => trivial
  | cons a l ih =>
    exact ⟨rfl, h a List.mem_cons_self, ih (fun e he => h e (List.mem_cons_of_mem _ he))⟩

theorem Rep.get_eq {s0 : State} {R : Reg Path Resolved} {s1 s2 : State} (h1 : Rep s0 R s1)
    (h2 : Rep s0 R s2) (ht : Total s0 R) (q : Path) : s1.reg.get q = s2.reg.get q := by
  have key : ∀ {a b : State}, Rep s0 R a → Rep s0 R b → a.reg.get q = (stateOf s0 R).reg.get q →
      b.reg.get q = (stateOf s0 R).reg.get q := by
    intro a b ha hb e
    rcases hb.entries q with e' | ⟨e0, T, item, hg, hp, _⟩
    · exact e'
    · exfalso
      obtain ⟨v, hv⟩ := Option.isSome_iff_exists.mp (ht T hg.pending)
      have := ha.registered T v item hv hg
      rw [hp, e, get_stateOf, e0] at this
      cases this
  rcases h1.entries q with e1 | ⟨_, T1, item1, hg1, hp1, e1⟩
  · rw [e1, key h1 h2 e1]
  · rcases h2.entries q with e2 | ⟨_, T2, item2, hg2, hp2, e2⟩
    · rw [e2, key h2 h1 e2]
    · rw [e1, e2, hg1.inj hg2 (hp1.trans hp2.symm)]

theorem Rep.mods_eqv {s0 : State} {R : Reg Path Resolved} {s1 s2 : State} (h1 : Rep s0 R s1) (h2 : Rep s0 R s2)
    (hget : ∀ q, s1.reg.get q = s2.reg.get q) :
    ∃ f1 f2 : Path → List Path,
      s1.modules = s0.modules.map (fun e => (e.1, { e.2 with defPaths := f1 e.1 })) ∧
      s2.modules = s0.modules.map (fun e => (e.1, { e.2 with defPaths := f2 e.1 })) ∧
      ∀ e ∈ s0.modules, (f2 e.1).Perm (f1 e.1) := by
  obtain ⟨f1, hf1, hd1⟩ := h1.mods
  obtain ⟨f2, hf2, hd2⟩ := h2.mods
  refine ⟨f1, f2, hf1, hf2, fun e he => ?_⟩
  obtain ⟨L1, a1, b1, c1⟩ := hd1 e he
  obtain ⟨L2, a2, b2, c2⟩ := hd2 e he
  have hc : ∀ q, s2.reg.contains q = s1.reg.contains q := by
    intro q; unfold Registry.contains; rw [hget q]
  have hperm : L2.Perm L1 := by
    rw [List.perm_ext_iff_of_nodup b2 b1]
    intro q
    rw [c1 q, c2 q, hc q]
  rw [a1, a2]
  exact hperm.append_right _

/-- the last step of `SemanticState::build`: the extern values of every module -/
def finish (s1 : State) : BuildOutcome :=
  match Res.mapM' (xvStep s1.reg) s1.modules with
  | .ok ms => .ok { s1 with modules := ms }
  | .err m => .err m
  | .panic m => .panic m
  | .defer => .err "unreachable"

theorem resolveXVals_setDp (reg : Registry) (m : Mod) (dp : List Path) :
    resolveXVals reg { m with defPaths := dp } = (match resolveXVals reg m with
      | .ok m' => .ok { m' with defPaths := dp }
      | .defer => .defer
      | .err e => .err e
      | .panic e => .panic e) := by
  unfold resolveXVals
  have hsc : ({ m with defPaths := dp } : Mod).scope = m.scope := rfl
  simp only [hsc]
  cases Res.mapM' (fun (ev : XValue) =>
      match reg.resolveTy m.scope ev.gty with
      | .ok t => Res.ok { ev with ty := some t }
      | .defer => .err "failed to resolve type for extern value"
      | e => e.cast) m.xvals <;> rfl

theorem xvStep_setDp (reg : Registry) (e : Path × Mod) (dp : List Path) :
    xvStep reg (e.1, { e.2 with defPaths := dp }) = (match xvStep reg e with
      | .ok e' => .ok (e'.1, { e'.2 with defPaths := dp })
      | .defer => .defer
      | .err x => .err x
      | .panic x => .panic x) := by
  unfold xvStep
  simp only [resolveXVals_setDp]
  cases resolveXVals reg e.2 <;> rfl

theorem xvStep_key (reg : Registry) (e e' : Path × Mod) (h : xvStep reg e = .ok e') : e'.1 = e.1 :=
  (xvStep_inv reg e e' h).1

theorem mapM'_xv (reg : Registry) (f : Path → List Path) (l : List (Path × Mod)) :
    Res.mapM' (xvStep reg) (l.map fun e => (e.1, { e.2 with defPaths := f e.1 })) =
      (match Res.mapM' (xvStep reg) l with
      | .ok ms => .ok (ms.map fun e => (e.1, { e.2 with defPaths := f e.1 }))
      | .defer => .defer
      | .err m => .err m
      | .panic m => .panic m) := by
  induction l with
  | nil => rfl
  | cons a l ih =>
    simp only [List.map_cons]
    unfold Res.mapM'
    rw [xvStep_setDp, ih]
    cases ha : xvStep reg a with
    | ok a' =>
      simp only []
      have hk := xvStep_key reg a a' ha
      cases Res.mapM' (xvStep reg) l with
      | ok ms => simp only [List.map_cons, hk]
      | _ => rfl
    | _ => rfl

theorem xvStep_congr (r1 r2 : Registry) (h : ∀ q, r2.get q = r1.get q) : xvStep r2 = xvStep r1 := by
  funext e
  unfold xvStep resolveXVals
  have hc : ∀ p, r2.contains p = r1.contains p := by intro p; unfold Registry.contains; rw [h p]
  rw [Mono.resolveTy_fun r1 r2 hc]

theorem nodup_of_map {α β} (f : α → β) (l : List α) (h : (l.map f).Nodup) : l.Nodup := by
  induction l with
  | nil => exact List.nodup_nil
  | cons a l ih =>
    simp only [List.map_cons, List.nodup_cons] at h ⊢
    exact ⟨fun ha => h.1 (List.mem_map_of_mem ha), ih h.2⟩

theorem types_perm (r1 r2 : Registry) (n1 : (C10.keys r1).Nodup) (n2 : (C10.keys r2).Nodup)
    (h : ∀ q, r1.get q = r2.get q) : r1.types.Perm r2.types := by
  rw [List.perm_ext_iff_of_nodup (nodup_of_map _ _ n1) (nodup_of_map _ _ n2)]
  intro e
  constructor
  · intro he
    have := lookup_of_mem r1.types n1 e.1 e.2 he
    exact C14.mem_of_lookup r2.types e.1 e.2 (by rw [← this]; exact (h e.1).symm)
  · intro he
    have := lookup_of_mem r2.types n2 e.1 e.2 he
    exact C14.mem_of_lookup r1.types e.1 e.2 (by rw [← this]; exact h e.1)

/-- **the last step agrees** on two states that represent the same total registry -/
theorem finish_agree {s0 : State} {R : Reg Path Resolved} {s1 s2 : State} (h1 : Rep s0 R s1)
    (h2 : Rep s0 R s2) (ht : Total s0 R) (n1 : (C10.keys s1.reg).Nodup) (n2 : (C10.keys s2.reg).Nodup) :
    sameVerdictV (finish s1) (finish s2) := by
  have hget := Rep.get_eq h1 h2 ht
  obtain ⟨f1, f2, hf1, hf2, hperm⟩ := h1.mods_eqv h2 hget
  unfold finish
  rw [xvStep_congr s1.reg s2.reg (fun q => (hget q).symm), hf1, hf2, mapM'_xv, mapM'_xv]
  cases hms : Res.mapM' (xvStep s1.reg) s0.modules with
  | ok ms =>
    refine ⟨hget, ?_, h1.ps.trans h2.ps.symm, types_perm _ _ n1 n2 hget⟩
    show ModsEqv (ms.map fun e => (e.1, ({ e.2 with defPaths := f1 e.1 } : Mod)))
      (ms.map fun e => (e.1, ({ e.2 with defPaths := f2 e.1 } : Mod)))
    apply modsEqv_map
    intro e he
    obtain ⟨e0, he0, hx⟩ := C19.mapM'_mem _ _ _ hms e he
    have hk := xvStep_key _ _ _ hx
    refine ⟨f2 e.1, rfl, ?_⟩
    rw [hk]
    exact hperm e0 he0
  | _ => trivial

def modGenPaths (path : Path) (m : G.Module) : List Path :=
  m.defs.filterMap fun d =>
    match d.inner with
    | .type td => if hasVftBlock td then vftablePath (path ++ [d.name]) else none
    | .enum _ => none

/-- the generated paths of a case: `<path>::<T>Vftable` for every type `T` with a vftable block written in the module
    `path` -/
def caseGenPaths (c : Case) : List Path :=
  c.modules.flatMap fun me => match me with | .ast path _ m => modGenPaths path m | .text .. => []

/-- the paths of the items of a case: the predefined types, and the definitions and extern types of every module -/
def caseItemPaths (c : Case) : List Path :=
  predefinedTypes.map (fun nm => [nm.1]) ++ c.modules.flatMap fun me =>
    match me with
    | .ast path _ m => m.defs.map (fun d => path ++ [d.name]) ++ m.xtypes.map (fun xt => path ++ [xt.1])
    | .text .. => []

/-- the module written under `path` does not mention a path of `Gs`: its path and its `use`s are not in `Gs`, and no
    identifier of a type expression of its definitions and of the functions of its function blocks is the last segment
    of one (the types of its extern values are not restricted) -/
def ModNoGenRefs (Gs : List Path) (path : Path) (m : G.Module) : Prop :=
  path ∉ Gs ∧ (∀ u ∈ m.uses, u ∉ Gs) ∧
  (∀ d ∈ m.defs, ∀ nm ∈ itemIdents d, nm ∉ gnames Gs) ∧
  (∀ b ∈ m.impls, ∀ f ∈ b.fns, ∀ nm ∈ funcIdents f, nm ∉ gnames Gs)

/-- nothing written in the case mentions a generated name (syntactic, on the modules of the case): no generated
    path is the path of an item of the case, and no module mentions one (text modules are not looked at:
    `Case.initialState` rejects them) -/
structure CaseNoGenRefs (c : Case) : Prop where
  fresh : ∀ q ∈ caseGenPaths c, q ∉ caseItemPaths c
  mods : ∀ me ∈ c.modules, match me with
    | .ast path _ m => ModNoGenRefs (caseGenPaths c) path m
    | .text .. => True

theorem keys_addItem (P : List Path) (s s' : State) (i : ItemDef) (h : s.addItem i = .ok s')
    (hk : ∀ q, s.reg.contains q = true → q ∈ P) (hi : i.path ∈ P) : ∀ q, s'.reg.contains q = true → q ∈ P := by
  intro q hq
  rw [C14.addItem_reg s s' i h, C14.contains_add] at hq
  rcases hq with hq | hq
  · exact hk q hq
  · rw [hq]; exact hi

theorem keys_initial (c : Case) (s : State) (h : c.initialState = .ok s) :
    ∀ q, s.reg.contains q = true → q ∈ caseItemPaths c := by
  refine Case.initialState_induct (P := fun t : State => ∀ q, t.reg.contains q = true → q ∈ caseItemPaths c) ?_ ?_ h
  · refine State.new_induct (P := fun t : State => ∀ q, t.reg.contains q = true → q ∈ caseItemPaths c) ?_ ?_
    · intro q hq
      simp [Registry.contains, Registry.get] at hq
    · intro t t' nm hnm ht ha
      exact keys_addItem _ t t' _ ha ht (List.mem_append.mpr (.inl (List.mem_map.mpr ⟨nm, hnm, rfl⟩)))
  · intro b b' path file m hme hb hb'
    have hin : ∀ p, p ∈ m.defs.map (fun d => path ++ [d.name]) ++ m.xtypes.map (fun xt => path ++ [xt.1]) →
        p ∈ caseItemPaths c :=
      fun p hp => List.mem_append.mpr (.inr (List.mem_flatMap.mpr ⟨_, hme, hp⟩))
    refine State.addModule_induct (P := fun t : State => ∀ q, t.reg.contains q = true → q ∈ caseItemPaths c)
      (fun _ _ _ => hb) ?_ ?_ hb'
    · intro t t' d hdm ht hd
      exact keys_addItem _ t t' _ (C14.defStep_ok_inv hd).2 ht
        (hin _ (List.mem_append.mpr (.inl (List.mem_map.mpr ⟨d, hdm, rfl⟩))))
    · intro t t' xt hxm ht hx
      obtain ⟨_, _, _, _, _, _, _, ha⟩ := C14.xtypeStep_ok_inv hx
      exact keys_addItem _ t t' _ ha ht (hin _ (List.mem_append.mpr (.inr (List.mem_map.mpr ⟨xt, hxm, rfl⟩))))

theorem genPaths_ne_nil {s : State} {q : Path} (h : q ∈ genPaths s) : q ≠ [] := by
  unfold genPaths at h
  obtain ⟨e, _, he⟩ := List.mem_filterMap.mp h
  unfold genPathOf at he
  split at he
  · split at he
    · split at he
      · obtain ⟨nm, hnm⟩ := vftablePath_last he
        intro e'; rw [e'] at hnm; cases hnm
      · cases he
    · cases he
  · cases he

/-- **the syntactic condition on the modules gives the condition on the initial state** -/
theorem initial_noGenRefs (c : Case) (hps : c.ps = 4 ∨ c.ps = 8) (hb : C12.CaseBounded c) (hg : CaseNoGenRefs c)
    (s : State) (h : c.initialState = .ok s) : NoGenRefs s := by
  obtain ⟨hok, _, hmods, hgood⟩ := CaseLift.initialState_J c hps hb s h
  have hkeys := keys_initial c s h
  have hsrc : ∀ e ∈ s.reg.types, ∀ d, e.2.state = .unres d → CaseLift.Declared c e.1 d := fun e he d hd =>
    ((hgood e.1 e.2 (lookup_of_mem s.reg.types hok.ok.reg.keys e.1 e.2 he)).1 d hd).1
  have hsub : ∀ q ∈ genPaths s, q ∈ caseGenPaths c := by
    intro q hq
    obtain ⟨e, he, hge⟩ := List.mem_filterMap.mp hq
    unfold genPathOf at hge
    split at hge
    · next d hd =>
      obtain ⟨path, file, m, hm, hdm, hp⟩ := hsrc e he d hd
      refine List.mem_flatMap.mpr ⟨_, hm, List.mem_filterMap.mpr ⟨d, hdm, ?_⟩⟩
      rw [← hp]
      exact hge
    · cases hge
  have hnames : ∀ nm, nm ∉ gnames (caseGenPaths c) → nm ∉ genNames s := by
    intro nm hnm hx
    obtain ⟨q, hq, hl⟩ := List.mem_filterMap.mp hx
    exact hnm (List.mem_filterMap.mpr ⟨q, hsub q hq, hl⟩)
  have hast : ∀ path file m, ModEnt.ast path file m ∈ c.modules → ModNoGenRefs (caseGenPaths c) path m :=
    fun path file m hm => hg.mods _ hm
  refine ⟨(CaseLift2.modInv_initial c s h).keys, ?_, ?_, ?_, ?_⟩
  · intro q hq
    cases hc : s.reg.contains q with
    | false => rfl
    | true => exact absurd (hkeys q hc) (hg.fresh q (hsub q hq))
  · intro e he u hu hug
    rcases (hmods e he).2 with ⟨_, hp, huses, _⟩ | ⟨file, m, hm, hp, huses, _⟩
    · simp only [Mod.scope, hp, huses, List.mem_singleton] at hu
      subst hu
      exact genPaths_ne_nil hug rfl
    · obtain ⟨h1, h2, _⟩ := hast _ _ _ hm
      simp only [Mod.scope, hp, huses, List.mem_cons] at hu
      rcases hu with rfl | hu
      · exact h1 (hsub _ hug)
      · exact h2 u hu (hsub _ hug)
  · intro e he d hd nm hnm
    obtain ⟨path, file, m, hm, hdm, _⟩ := hsrc e he d hd
    exact hnames nm ((hast _ _ _ hm).2.2.1 d hdm nm hnm)
  · intro e he b hbm f hf nm hnm
    obtain ⟨blk, ⟨file, m, hm, hblk⟩, hb'⟩ := (hmods e he).2.impl_mem b hbm
    subst hb'
    exact hnames nm ((hast _ _ _ hm).2.2.2 blk hblk f hf nm hnm)

instance (Gs : List Path) (path : Path) (m : G.Module) : Decidable (ModNoGenRefs Gs path m) := by
  unfold ModNoGenRefs; infer_instance

instance (c : Case) (me : ModEnt) : Decidable (match me with
    | .ast path _ m => ModNoGenRefs (caseGenPaths c) path m
    | .text .. => True) := by
  cases me <;> simp only [] <;> infer_instance

instance (c : Case) : Decidable (CaseNoGenRefs c) :=
  decidable_of_iff ((∀ q ∈ caseGenPaths c, q ∉ caseItemPaths c) ∧
      (∀ me ∈ c.modules, match me with
        | .ast path _ m => ModNoGenRefs (caseGenPaths c) path m
        | .text .. => True))
    ⟨fun h => ⟨h.1, h.2⟩, fun h => ⟨h.fresh, h.mods⟩⟩

/-- the condition `NoGenRefs.defs` on one entry, without the unbounded quantifier -/
def DefClean (s : State) (st : IState) : Prop :=
  match st with
  | .unres d => ∀ nm ∈ itemIdents d, nm ∉ genNames s
  | .res _ => True

instance (s : State) (st : IState) : Decidable (DefClean s st) := by
  unfold DefClean
  cases st <;> simp only [] <;> infer_instance

instance (s : State) : Decidable (NoGenRefs s) :=
  decidable_of_iff ((s.modules.map (·.1)).Nodup ∧ (∀ q ∈ genPaths s, s.reg.contains q = false) ∧
      (∀ e ∈ s.modules, ∀ u ∈ e.2.scope, u ∉ genPaths s) ∧
      (∀ e ∈ s.reg.types, DefClean s e.2.state) ∧
      (∀ e ∈ s.modules, ∀ b ∈ e.2.impls, ∀ f ∈ b.2.fns, ∀ nm ∈ funcIdents f, nm ∉ genNames s))
    ⟨fun ⟨h1, h2, h3, h4, h5⟩ =>
      ⟨h1, h2, h3, fun e he d hd => by have := h4 e he; rw [hd] at this; exact this, h5⟩,
     fun h => ⟨h.modKeys, h.fresh, h.scopes, fun e he => by
       unfold DefClean
       cases hs : e.2.state with
       | unres d => exact h.defs e he d hs
       | res r => trivial, h.impls⟩⟩

/-! ## no modelled allocation limit when the vftable blocks ask for small tables

The only `panic` outcome of a build from a state satisfying `C12.StateOkB` is the modelled allocation limit
(`C12.build_total_partial`), reached by `make_padding_functions` when a `#[index(N)]` of a vftable function or the
`#[size(N)]` of a vftable block exceeds `paddingLoopBound`.  When all these literals are at most `paddingLoopBound`
(`Small`) a build never panics, so that the two kinds of failure `sameVerdictV` identifies are never mixed. -/

/-- **no panic at all** from a state whose unresolved definitions ask for small tables -/
theorem build_np_small (s : State) (prio : List Path) (hs : C12.StateOkB s) (hsm : Small s) (m : String) :
    s.build prio ≠ .panic m :=
  (C12.build_shape (S := C12.NoSite) s prio hs (.inr hsm)).1 m

/-- the vftable blocks written in the case ask for at most `paddingLoopBound` slots (syntactic) -/
def CaseSmall (c : Case) : Prop :=
  ∀ path file m, ModEnt.ast path file m ∈ c.modules → ∀ d ∈ m.defs, ItemSmall d

theorem initial_small (c : Case) (hps : c.ps = 4 ∨ c.ps = 8) (hb : C12.CaseBounded c) (hsm : CaseSmall c)
    (s : State) (h : c.initialState = .ok s) : Small s := by
  obtain ⟨_, _, _, hgood⟩ := CaseLift.initialState_J c hps hb s h
  intro p i d hget hd
  obtain ⟨⟨path, file, m, hm, hdm, _⟩, _⟩ := (hgood p i hget).1 d hd
  exact hsm path file m hm d hdm

end PyxisVerif.C09
