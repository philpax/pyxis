/-!
# Abstract resolution worklist: any two schedules agree when `attempt` is monotone

The development every schedule-independence statement (C09, C10, C19) instantiates.  Keys are
item paths, values resolved items; a registry is a partial map; `attempt R k` answers `done v`,
`fail` or `defer` from what is resolved so far.  `Run` is the set of registries reachable by
*some* schedule.
-/
namespace PyxisVerif.Work
variable {K V : Type} [DecidableEq K]

inductive Out (V : Type) | defer | done (v : V) | fail

abbrev Reg (K V : Type) := K → Option V

def Reg.le (R R' : Reg K V) : Prop := ∀ k v, R k = some v → R' k = some v

def Compat (R1 R2 : Reg K V) : Prop := ∀ k v1 v2, R1 k = some v1 → R2 k = some v2 → v1 = v2

def upd (R : Reg K V) (k : K) (v : V) : Reg K V := fun k' => if k' = k then some v else R k'

def union (R1 R2 : Reg K V) : Reg K V := fun k => match R1 k with | some v => some v | none => R2 k

/-- once an attempt answers `done v` or `fail`, it gives the same answer on every extension -/
structure Mono (attempt : Reg K V → K → Out V) : Prop where
  done : ∀ R R' k v, Reg.le R R' → attempt R k = .done v → attempt R' k = .done v
  fail : ∀ R R' k, Reg.le R R' → attempt R k = .fail → attempt R' k = .fail

/-- the registries reachable by *some* schedule: each step resolves one unresolved key whose
    attempt answers `done` (deferred attempts and re-orderings do not change the registry) -/
inductive Run (attempt : Reg K V → K → Out V) (R0 : Reg K V) : Reg K V → Prop
  | start : Run attempt R0 R0
  | step (R : Reg K V) (k : K) (v : V) :
      Run attempt R0 R → R k = none → attempt R k = .done v → Run attempt R0 (upd R k v)

omit [DecidableEq K] in
theorem le_union_left (R1 R2 : Reg K V) : Reg.le R1 (union R1 R2) := by
  intro k v h; simp [union, h]

omit [DecidableEq K] in
theorem le_union_right (R1 R2 : Reg K V) (c : Compat R1 R2) : Reg.le R2 (union R1 R2) := by
  intro k v h
  unfold union
  cases h1 : R1 k with
  | none => simpa using h
  | some v1 => simp [c k v1 v h1 h]

theorem le_upd (R : Reg K V) (k : K) (v : V) (h : R k = none) : Reg.le R (upd R k v) := by
  intro k' v' h'
  unfold upd
  by_cases e : k' = k
  · subst e; rw [h] at h'; cases h'
  · simp [e, h']

variable {attempt : Reg K V → K → Out V} {R0 : Reg K V}

theorem Run.base_le {R : Reg K V} (r : Run attempt R0 R) : Reg.le R0 R := by
  induction r with
  | start => intro _ _ h; exact h
  | step R k v _ hk _ ih => intro k' v' h'; exact le_upd R k v hk k' v' (ih k' v' h')

/-- any two runs, under any two schedules, never disagree on a value -/
theorem Run.compat (hm : Mono attempt) {R1 R2 : Reg K V}
    (r1 : Run attempt R0 R1) (r2 : Run attempt R0 R2) : Compat R1 R2 := by
  induction r1 generalizing R2 with
  | start =>
    intro k v1 v2 h1 h2
    have := r2.base_le k v1 h1
    rw [this] at h2; cases h2; rfl
  | step R k v rR hk ha ih =>
    intro k' v1 v2 h1 h2
    by_cases e : k' = k
    · subst e
      have hv : v1 = v := by simp [upd] at h1; exact h1.symm
      subst hv
      clear h1
      induction r2 with
      | start =>
        have := rR.base_le k' v2 h2
        rw [hk] at this; cases this
      | step R' k'' v'' rR' hk'' ha'' ih2 =>
        by_cases e2 : k' = k''
        · subst e2
          have hv2 : v2 = v'' := by simp [upd] at h2; exact h2.symm
          subst hv2
          have c : Compat R R' := ih rR'
          have e1 := hm.done R (union R R') k' v1 (le_union_left R R') ha
          have e2 := hm.done R' (union R R') k' v2 (le_union_right R R' c) ha''
          rw [e1] at e2; cases e2; rfl
        · have : R' k' = some v2 := by simpa [upd, e2] using h2
          exact ih2 this
    · have : R k' = some v1 := by simpa [upd, e] using h1
      exact ih r2 k' v1 v2 this h2

/-- successful builds are unique: two runs that both resolve every key of `ks` agree on `ks` -/
theorem Run.total_unique (hm : Mono attempt) {R1 R2 : Reg K V}
    (r1 : Run attempt R0 R1) (r2 : Run attempt R0 R2) (ks : List K)
    (t1 : ∀ k ∈ ks, (R1 k).isSome) (t2 : ∀ k ∈ ks, (R2 k).isSome) :
    ∀ k ∈ ks, R1 k = R2 k := by
  intro k hk
  have h1 := t1 k hk; have h2 := t2 k hk
  cases e1 : R1 k with
  | none => simp [e1] at h1
  | some v1 =>
    cases e2 : R2 k with
    | none => simp [e2] at h2
    | some v2 => rw [Run.compat hm r1 r2 k v1 v2 e1 e2]

/-- a hard error is final: if some run sees `fail` for `k`, no run of any schedule resolves `k` -/
theorem Run.fail_stable (hm : Mono attempt) {R1 R2 : Reg K V} {k : K}
    (r1 : Run attempt R0 R1) (hk : R1 k = none) (hf : attempt R1 k = .fail)
    (r2 : Run attempt R0 R2) : R2 k = none := by
  induction r2 with
  | start =>
    cases e : R0 k with
    | none => rfl
    | some v => have := r1.base_le k v e; rw [hk] at this; cases this
  | step R' k' v' rR' hk' ha' ih =>
    by_cases e : k = k'
    · subst e
      have c : Compat R1 R' := Run.compat hm r1 rR'
      have e1 := hm.fail R1 (union R1 R') k (le_union_left R1 R') hf
      have e2 := hm.done R' (union R1 R') k v' (le_union_right R1 R' c) ha'
      rw [e1] at e2; cases e2
    · simpa [upd, e] using ih

/-- a stuck registry (every unresolved key defers) contains every fact any schedule can derive,
    so the set of unresolved types named in the error is the same for all schedules -/
theorem Run.stuck_is_top (hm : Mono attempt) {R R2 : Reg K V}
    (r : Run attempt R0 R) (stuck : ∀ k, R k = none → attempt R k = .defer)
    (r2 : Run attempt R0 R2) : Reg.le R2 R := by
  induction r2 with
  | start => exact r.base_le
  | step R' k' v' rR' hk' ha' ih =>
    intro k v h
    by_cases e : k = k'
    · subst e
      have hv : v = v' := by simp [upd] at h; exact h.symm
      subst hv
      have a : attempt R k = .done v := hm.done R' R k v ih ha'
      cases hR : R k with
      | none => rw [stuck k hR] at a; cases a
      | some w =>
        have c := Run.compat hm r (Run.step R' k v rR' hk' ha') k w v hR (by simp [upd])
        rw [c]
    · have : R' k = some v := by simpa [upd, e] using h
      exact ih k v this

/-! ## how a run ends

Every key that a run resolves lies in a domain `D` outside which the attempt defers.  A run can be observed to
end in three ways, and two observations of runs from the same start – under any two schedules – are
observations of the same end. -/

variable {D : K → Prop}

theorem Run.in_dom (hD : ∀ R k, attempt R k ≠ .defer → D k) (h0 : ∀ k v, R0 k = some v → D k) {R : Reg K V}
    (r : Run attempt R0 R) {k : K} {v : V} (h : R k = some v) : D k := by
  induction r with
  | start => exact h0 k v h
  | step R k' v' _ _ ha ih =>
    by_cases e : k = k'
    · subst e; exact hD R k (by rw [ha]; intro e; cases e)
    · exact ih (by simpa [upd, e] using h)

/-- the end of a run: every key of the domain resolved (`total`), some key of the domain left and every
    unresolved key deferring (`stuck`), or a hard error somewhere (`failed`) -/
inductive End (K V : Type)
  | total (R : Reg K V)
  | stuck (R : Reg K V)
  | failed

def End.Holds (attempt : Reg K V → K → Out V) (R0 : Reg K V) (D : K → Prop) : End K V → Prop
  | .total R => Run attempt R0 R ∧ ∀ k, D k → (R k).isSome
  | .stuck R => Run attempt R0 R ∧ (∀ k, R k = none → attempt R k = .defer) ∧ ∃ k, D k ∧ R k = none
  | .failed => ∃ R k, Run attempt R0 R ∧ R k = none ∧ attempt R k = .fail

section ends
variable (hm : Mono attempt) (hD : ∀ R k, attempt R k ≠ .defer → D k) (h0 : ∀ k v, R0 k = some v → D k)
include hm hD h0

theorem End.eq_total {R : Reg K V} {e : End K V} (h : (End.total R).Holds attempt R0 D)
    (he : e.Holds attempt R0 D) : e = .total R := by
  obtain ⟨r, t⟩ := h
  have some_of : ∀ k, D k → ∃ v, R k = some v := fun k hk => Option.isSome_iff_exists.mp (t k hk)
  cases e with
  | total R' =>
    obtain ⟨r', t'⟩ := he
    congr 1
    funext k
    cases h' : R' k with
    | some v' =>
      obtain ⟨v, hv⟩ := some_of k (r'.in_dom hD h0 h')
      rw [hv, Run.compat hm r r' k v v' hv h']
    | none =>
      cases h1 : R k with
      | none => rfl
      | some v => have := t' k (r.in_dom hD h0 h1); rw [h'] at this; cases this
  | stuck R' =>
    obtain ⟨r', st, k, hk, hR⟩ := he
    obtain ⟨v, hv⟩ := some_of k hk
    rw [Run.stuck_is_top hm r' st r k v hv] at hR; cases hR
  | failed =>
    obtain ⟨R', k, r', hk, hf⟩ := he
    obtain ⟨v, hv⟩ := some_of k (hD R' k (by rw [hf]; intro e; cases e))
    rw [Run.fail_stable hm r' hk hf r] at hv; cases hv

theorem End.eq_stuck {R : Reg K V} {e : End K V} (h : (End.stuck R).Holds attempt R0 D)
    (he : e.Holds attempt R0 D) : e = .stuck R := by
  cases e with
  | total R' => cases End.eq_total hm hD h0 he h
  | stuck R' =>
    obtain ⟨r, st, _⟩ := h
    obtain ⟨r', st', _⟩ := he
    have le := Run.stuck_is_top hm r st r'
    have le' := Run.stuck_is_top hm r' st' r
    congr 1
    funext k
    cases h' : R' k with
    | some v' => exact (le k v' h').symm
    | none =>
      cases h1 : R k with
      | none => rfl
      | some v => rw [le' k v h1] at h'; cases h'
  | failed =>
    obtain ⟨r, st, _⟩ := h
    obtain ⟨R', k, r', hk, hf⟩ := he
    have := hm.fail R' R k (Run.stuck_is_top hm r st r') hf
    rw [st k (Run.fail_stable hm r' hk hf r)] at this; cases this

/-- **the end of a run does not depend on the schedule** -/
theorem End.unique {e1 e2 : End K V} (h1 : e1.Holds attempt R0 D) (h2 : e2.Holds attempt R0 D) : e1 = e2 := by
  cases e1 with
  | total R => exact (End.eq_total hm hD h0 h1 h2).symm
  | stuck R => exact (End.eq_stuck hm hD h0 h1 h2).symm
  | failed =>
    cases e2 with
    | total R => exact End.eq_total hm hD h0 h2 h1
    | stuck R => exact End.eq_stuck hm hD h0 h2 h1
    | failed => rfl

end ends

end PyxisVerif.Work
