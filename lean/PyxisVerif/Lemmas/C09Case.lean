import PyxisVerif.Lemmas.Mono
import PyxisVerif.Props.C12
import PyxisVerif.Lemmas.C02
import PyxisVerif.Lemmas.C14
import PyxisVerif.Lemmas.KernelRun
/-! The vftable-free fragment (`NoVft`, `NoVftResolved`) is established by `SemanticState::new` and kept by
`add_module`, so it holds in the initial state of a case without vftable blocks (for `Props/C09Case.lean`). -/
namespace PyxisVerif.C09

/-- a definition without a `vftable` block: an enum, or a type all of whose statements are fields
    (the same condition `NoVft` puts on the unresolved items of a registry) -/
def DefNoVft (d : G.Item) : Prop :=
  match d.inner with
  | .type td => ∀ st ∈ td.stmts, (match st.field with | .vftable _ => False | .field .. => True)
  | .enum _ => True

def ModNoVft (m : G.Module) : Prop := ∀ d ∈ m.defs, DefNoVft d

/-- every module of the case is given as an AST (not text) and has no vftable block -/
def CaseNoVft (c : Case) : Prop :=
  ∀ me ∈ c.modules, match me with | .ast _ _ m => ModNoVft m | .text .. => False

/-- the condition of `NoVft` and `NoVftResolved` on one registry item -/
def ItemClean (i : ItemDef) : Prop :=
  (∀ d, i.state = .unres d → DefNoVft d) ∧
  (∀ r td, i.state = .res r → r.inner = .type td → td.vft = none)

def Clean (s : State) : Prop := ∀ p i, s.reg.get p = some i → ItemClean i

theorem Clean.noVft {s : State} (h : Clean s) : NoVft s :=
  fun p i d hi hd => (h p i hi).1 d hd

theorem Clean.noVftResolved {s : State} (h : Clean s) : NoVftResolved s :=
  fun p i r td hi hr hin => (h p i hi).2 r td hr hin

theorem clean_iff (s : State) : Clean s ↔ NoVft s ∧ NoVftResolved s :=
  ⟨fun h => ⟨h.noVft, h.noVftResolved⟩,
   fun h p i hi => ⟨fun d hd => h.1 p i d hi hd, fun r td hr hin => h.2 p i r td hi hr hin⟩⟩

theorem addItem_clean (s s' : State) (i : ItemDef) (hs : Clean s) (hi : ItemClean i)
    (h : s.addItem i = .ok s') : Clean s' := by
  have hreg := C14.addItem_reg s s' i h
  intro p j hj
  rw [hreg, C14.get_add] at hj
  by_cases hp : p = i.path
  · rw [if_pos hp] at hj; cases hj; exact hi
  · rw [if_neg hp] at hj; exact hs p j hj

theorem predefItem_clean (nm : String × Nat) : ItemClean (C02.predefItem nm) := by
  refine ⟨?_, ?_⟩
  · intro d hd; cases hd
  · intro r td hr hin
    simp only [C02.predefItem, IState.res.injEq] at hr
    subst hr
    simp only [SInner.type.injEq] at hin
    subst hin
    rfl

/-- every item of the initial registry is a predefined one: resolved, without vftable
    (any pointer width) -/
theorem new_clean (ps : Nat) : Clean (State.new ps) := by
  rw [C02.new_eq]
  have : ∀ (l : List (String × Nat)) (s : State), (s.getModule []).isSome = true → Clean s →
      Clean (l.foldl C02.newStep s) := by
    intro l
    induction l with
    | nil => intro s _ hs; exact hs
    | cons x l ih =>
      intro s hm hs
      obtain ⟨h1, h2⟩ := C02.newStep_spec s x hm
      refine ih _ h1 ?_
      intro p j hj
      rw [h2, C14.get_add] at hj
      by_cases hp : p = (C02.predefItem x).path
      · rw [if_pos hp] at hj; cases hj; exact predefItem_clean x
      · rw [if_neg hp] at hj; exact hs p j hj
  refine this _ _ rfl ?_
  intro p i hi
  cases hi

theorem new_noVft (ps : Nat) : NoVft (State.new ps) := (new_clean ps).noVft

theorem new_noVftResolved (ps : Nat) : NoVftResolved (State.new ps) := (new_clean ps).noVftResolved

theorem defStep_clean (path : Path) (s s' : State) (d : G.Item) (hs : Clean s) (hd : DefNoVft d)
    (h : C14.defStep path s d = .ok s') : Clean s' := by
  unfold C14.defStep at h
  split at h
  · cases h
  · refine addItem_clean s s' _ hs ⟨?_, ?_⟩ h
    · intro d' hd'
      simp only [IState.unres.injEq] at hd'
      subst hd'
      exact hd
    · intro r td hr; cases hr

theorem xtypeStep_clean (path : Path) (s s' : State) (xt : String × List G.Attr) (hs : Clean s)
    (h : C14.xtypeStep path s xt = .ok s') : Clean s' := by
  unfold C14.xtypeStep at h
  split at h
  · split at h
    · cases h
    · split at h
      · cases h
      · split at h
        · cases h
        · split at h
          · cases h
          · refine addItem_clean s s' _ hs ⟨?_, ?_⟩ h
            · intro d hd; cases hd
            · intro r td hr hin
              simp only [IState.res.injEq] at hr
              subst hr
              simp only [SInner.type.injEq] at hin
              subst hin
              rfl
  · exact (Res.cast_ne_ok _ _ h).elim

/-- `add_module` keeps the fragment: the new unresolved items are the module's definitions (no vftable
    blocks), the new resolved items are extern types (no vftable) -/
theorem addModule_clean (s s' : State) (m : G.Module) (path : Path) (hs : Clean s) (hm : ModNoVft m)
    (h : s.addModule m path = .ok s') : Clean s' := by
  obtain ⟨xvals, doc, s2, _, h1, h2⟩ := C14.addModule_inv s s' m path h
  have k0 : Clean (s.putModule path (C14.newMod m path xvals doc)) := hs
  have k2 : Clean s2 := Res.foldlM_induct k0
    (fun b d b' hdm hb hb' => defStep_clean path b b' d hb (hm d hdm) hb') h1
  exact Res.foldlM_induct k2 (fun b xt b' _ hb hb' => xtypeStep_clean path b b' xt hb hb') h2

theorem addModule_noVft (s s' : State) (m : G.Module) (path : Path) (hv : NoVft s) (hr : NoVftResolved s)
    (hm : ModNoVft m) (h : s.addModule m path = .ok s') : NoVft s' ∧ NoVftResolved s' :=
  (clean_iff s').mp (addModule_clean s s' m path ((clean_iff s).mpr ⟨hv, hr⟩) hm h)

theorem initialState_clean (c : Case) (hv : CaseNoVft c) (s : State) (h : c.initialState = .ok s) :
    Clean s := by
  refine Case.initialState_induct (new_clean c.ps) (fun b b' path file m hme hb hb' => ?_) h
  exact addModule_clean b b' m path hb (hv _ hme) hb'

theorem initialState_prio (c : Case) (prio' : List Path) :
    ({ c with prio := prio' } : Case).initialState = c.initialState := rfl

theorem run_eq_build {c : Case} {s : State} (h : c.initialState = .ok s) (prio' : List Path) :
    ({ c with prio := prio' } : Case).run = s.build prio' := by
  unfold Case.run
  rw [initialState_prio, h]

/-- to relate the runs of a case under two priority lists it is enough to relate the two builds of its initial
    state: without one, both runs end in the same error or panic -/
theorem run_prio_rel {Rel : BuildOutcome → BuildOutcome → Prop} (c : Case) (prio' : List Path)
    (herr : ∀ m, Rel (.err m) (.err m)) (hpanic : ∀ m, Rel (.panic m) (.panic m))
    (h : ∀ s, c.initialState = .ok s → Rel (s.build c.prio) (s.build prio')) :
    Rel c.run ({ c with prio := prio' } : Case).run := by
  unfold Case.run
  rw [initialState_prio c prio']
  cases hi : c.initialState with
  | ok s => exact h s hi
  | defer => exact herr _
  | err m => exact herr m
  | panic m => exact hpanic m

theorem noVftS_of_noVft {s : State} (hv : NoVft s) : Mono.NoVftS s := by
  intro p i d td hi hst hin st hmem
  have h := hv p i d hi hst
  rw [hin] at h
  have h2 := h st hmem
  unfold C01.isFieldStmt
  cases hf : st.field with
  | vftable fns => rw [hf] at h2; exact h2.elim
  | field v n t => rfl

end PyxisVerif.C09
