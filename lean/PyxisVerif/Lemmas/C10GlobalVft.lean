import PyxisVerif.Lemmas.C10Global
import PyxisVerif.Lemmas.C19FrameVft
/-!
# helper lemmas for the converse statements of C10 WITH vftable blocks (`Props/C10GlobalVft.lean`)

`Lemmas/C10Global.lean` has the two converse arguments in a form that does not mention `vftable` blocks:
"names defined ∧ acyclic ⇒ a build that gives up does so for an overflow" for any run along which the dependency
relation and its two graph causes can be read in the initial state (`stuck_overflow_of_transport`), and "accepted ⇒
names defined ∧ acyclic" for any run of the abstract worklist whose successful attempts have resolved what they wait
for (`run_ranked`, `defined_acyclic_of_ranked`).  Without `vftable` blocks every state the rounds reach is
`Mono.stateOf s0 R` itself (`C09.sim_stateOf`), with the keys and the modules of the initial state (`Ext`, `Rounds.ext`),
and nothing is generated (`attempt_done_deps`), which gives both.

With `vftable` blocks the key set grows (generated `<T>Vftable` items, registered resolved) and the modules change in
their definition paths.  Under `C09.NoGenRefs` every state the rounds reach REPRESENTS (`C09.Rep`, `Lemmas/MonoVft.lean`)
a registry of the abstract worklist over the initial state: it is `Mono.stateOf s0 R` plus generated items.  Then

* an unresolved entry of a later state is an unresolved entry of the initial state (generated items are resolved),
  with the same module scope (`rep_unres`, `rep_scopeOf`);
* the lookups made for the type expressions of an unresolved definition (`usedTys`) inspect no generated path
  (`usedTy_clean`, from `NoGenRefs.defs` / `NoGenRefs.scopes`), so they answer in the later state what they answer in the
  initial state (`rep_waitsOn`, `rep_active`): under `NoGenRefs` the relation `WaitsOn` / `AllDefined` is about user
  names only, exactly as the model treats them – in particular a type whose first `#[base]` field has no size yet
  defers BEFORE `vftable::build`, with its generated item not registered, and this changes nothing: the cause is the
  unresolved base, an old key;
* a successful attempt (with or without a `vftable` block) has resolved every field type with a known size, read in the
  registry BEFORE the registration of the generated item (`btV_ok_deps`: the pending fields do not embed a generated
  path by value).
-/
namespace PyxisVerif.C10
open C09 Work Layout Mono

/-! ## 1. every state the rounds reach represents a run of the abstract worklist -/

theorem Rounds.ext {prio : List Path} {s s' : State} (h : Rounds prio s s') (hv : NoVftS s)
    (hn : (keys s.reg).Nodup) : Ext s s' := by
  obtain ⟨R, _, rfl⟩ := h.sim (sim_stateOf hn hv) Run.start (stateOf_R0 s).symm hn
  exact ext_stateOf s R

theorem rep_unres {s0 : State} {R : Reg Path Resolved} {s : State} (hrep : Rep s0 R s) {q : Path} {j : ItemDef}
    (hj : s.reg.get q = some j) (hu : j.isResolved = false) : s0.reg.get q = some j := by
  rcases hrep.entries q with e | ⟨_, T, item, hg, hp, e⟩
  · rw [e] at hj
    exact stateOf_unres hj hu
  · rw [e] at hj
    cases hj
    obtain ⟨res, hres⟩ := hg.resolved
    simp [ItemDef.isResolved, hres] at hu

theorem rep_scopeOf {s0 : State} {R : Reg Path Resolved} {s : State} (hrep : Rep s0 R s) (q : Path) :
    scopeOf s q = scopeOf s0 q := by
  unfold scopeOf
  cases hm : s0.moduleFor q with
  | none => rw [hrep.moduleFor_none q hm]
  | some m0 =>
    obtain ⟨dp, h⟩ := hrep.moduleFor q m0 hm
    rw [h]
    rfl

theorem rep_pend {s0 : State} {R : Reg Path Resolved} {s : State} (hrep : Rep s0 R s) {p : Path} {d : G.Item}
    {sc : List Path} (hp : Pend s p d sc) : Pend s0 p d sc := by
  obtain ⟨i, hg, hu, hsc⟩ := hp
  exact ⟨i, rep_unres hrep hg (ItemDef.isResolved_of_unres hu), hu,
    by rw [← rep_scopeOf hrep p]; exact hsc⟩

theorem usedTy_clean {s0 : State} (cx : Ctx s0) {p : Path} {d : G.Item} {sc : List Path} {t : G.Ty}
    (hp : Pend s0 p d sc) (ht : t ∈ usedTys d) : CleanTy (genPaths s0) sc t := by
  obtain ⟨i, hg, hu, hsc⟩ := hp
  obtain ⟨m, hm, rfl⟩ := Option.map_eq_some_iff.mp hsc
  cases hin : d.inner with
  | type td =>
    obtain ⟨st, hst, v, n, hf⟩ := (mem_usedTys_type hin).mp ht
    have := cx.stmts hg hu hin hm st hst
    unfold CleanStmt stmtIdents at this
    rw [hf] at this
    exact this
  | enum ed =>
    simp only [usedTys, hin, List.mem_singleton] at ht
    subst ht
    exact cx.enumTy hg hu hin hm

theorem cleanName_of_tyName {Gs : List Path} {sc : List Path} (t : G.Ty) (n : String) (hn : tyName t = some n)
    (hc : CleanTy Gs sc t) : CleanName Gs sc n := by
  induction t with
  | cptr t ih | mptr t ih | arr t _ ih => exact ih hn hc
  | ident s =>
    simp only [tyName, Option.some.injEq] at hn
    subst hn
    exact hc s (List.mem_singleton.mpr rfl)
  | unk k => cases hn

theorem rep_resolveTy {s0 : State} (cx : Ctx s0) {R : Reg Path Resolved} {s : State} (hrep : Rep s0 R s)
    {sc : List Path} {t : G.Ty} (hc : CleanTy (genPaths s0) sc t) : s.reg.resolveTy sc t = s0.reg.resolveTy sc t := by
  rw [resolveTy_out hrep.agree cx.u8 hc]
  exact resolveTy_congr (fun q _ => C19.contains_stateOf s0 R q)

theorem rep_resolveString {s0 : State} {R : Reg Path Resolved} {s : State} (hrep : Rep s0 R s)
    {sc : List Path} {n : String} (hc : CleanName (genPaths s0) sc n) :
    s.reg.resolveString sc n = s0.reg.resolveString sc n := by
  rw [resolveString_out hrep.agree hc]
  exact resolveString_congr (fun q _ => C19.contains_stateOf s0 R q)

theorem rep_waitsOn {s0 : State} (cx : Ctx s0) {R : Reg Path Resolved} {s : State} (hrep : Rep s0 R s) {p : Path}
    {c : Cause} (hw : WaitsOn s p c) : WaitsOn s0 p c :=
  hw.transport (fun _ _ => rep_pend hrep) (fun _ _ _ hp0 ht => rep_resolveTy cx hrep (usedTy_clean cx hp0 ht))

theorem rep_active {s0 : State} (cx : Ctx s0) {R : Reg Path Resolved} {s : State} (hrep : Rep s0 R s) {p : Path}
    {c : Cause} (hw : WaitsOn s p c) (hc : c ≠ .overflow) (ha : Active s p c) : Active s0 p c := by
  cases hw with
  | missing d sc ty n hp ht hn =>
    have hp0 := rep_pend hrep hp
    have hcl := cleanName_of_tyName ty n hn (usedTy_clean cx hp0 ht)
    refine active_missing_transport (rep_scopeOf hrep p) (fun sc' hsc' => ?_) ha
    obtain ⟨_, _, _, hsc⟩ := hp0
    cases hsc.symm.trans hsc'
    exact rep_resolveString hrep hcl
  | waitsFor d sc ty dt q hp ht hr hq =>
    obtain ⟨j, hj, hu⟩ := ha
    exact ⟨j, rep_unres hrep hj hu, hu⟩
  | overflow d sc hp => exact absurd rfl hc

theorem btV_ok_deps {Gs : List Path} (hu8 : ["u8"] ∉ Gs) (reg : Registry) (m : Mod) (path : Path) (vis : Vis)
    (td : G.TypeDef) (r : Resolved) (hcl : ∀ st ∈ td.stmts, CleanStmt Gs m.scope st)
    (hgen : ∀ sa, foldStmts reg m.scope td = .ok sa → ∀ item, genItem reg path vis sa.vfns = some item → item.path ∈ Gs)
    (h : btV reg (some m) path vis td = .ok r) :
    ∀ st ∈ td.stmts, ∀ v n t, st.field = .field v n t →
      ∃ dt k, reg.resolveTy m.scope t = .ok dt ∧ dt.size reg = .ok (some k) := by
  obtain ⟨doc, ta, sa, regions, vft, size, placed, hsa, hrr, _⟩ := C19.btV_inv h
  have hcov := stmts_fold_covers reg m.scope td.stmts sa hsa
  have hcl' : ∀ ist ∈ (td.stmts.zipIdx.map fun p => (p.2, p.1)), CleanStmt Gs m.scope ist.2 :=
    fun ist hist => hcl _ (C01.mem_zipIdx_swap hist)
  have hpo : PendOut Gs sa := stmts_fold_pendOut hu8 reg _ hcl' sa hsa
  obtain ⟨vregion, _, hres, _⟩ := rrV_inv hrr
  have hag : AgreeOut Gs reg (regAfter reg path vis sa.vfns) := by
    unfold regAfter
    cases hgi : genItem reg path vis sa.vfns with
    | none => exact AgreeOut.refl Gs reg
    | some item => exact (AgreeOut.refl Gs reg).add_right item (hgen sa hsa item hgi)
  have hknown : ∀ f ∈ sa.pending, ∃ k, f.2.ty.size reg = .ok (some k) := by
    intro f hf
    obtain ⟨k, hk⟩ := resolve_ok_known _ _ _ _ hres (toPField (regAfter reg path vis sa.vfns) f.1 f.2)
      (List.mem_map.mpr ⟨f, hf, rfl⟩)
    refine ⟨k, ?_⟩
    rw [← (rsize_congr hag.ps (hag.agreeR (hpo f hf)).seen).1]
    exact hk
  intro st hst v n t hft
  obtain ⟨dt, hdt, f, hf, hty⟩ := hcov st hst v n t hft
  obtain ⟨k, hk⟩ := hknown f hf
  rw [hty] at hk
  exact ⟨dt, k, hdt, hk⟩

/-- `done_deps_of_used` for a successful attempt.  `Gs` is a set of unregistered paths that holds every path an
    attempt generates and that no lookup for a statement of an unresolved definition inspects. -/
theorem attempt_done_deps_of {s : State} {Gs : List Path} (hu : U8 s.reg)
    (hfr : ∀ q ∈ Gs, s.reg.contains q = false)
    (hcl : ∀ {k i d td m}, s.reg.get k = some i → i.state = .unres d → d.inner = .type td →
      s.moduleFor k = some m → ∀ st ∈ td.stmts, CleanStmt Gs m.scope st)
    (hgen : ∀ {k i d td item}, s.reg.get k = some i → i.state = .unres d → d.inner = .type td →
      genOf s.reg (s.moduleFor k) k d.vis td = some item → item.path ∈ Gs)
    (R : Work.Reg Path Resolved) (k : Path) (v : Resolved) (h : Mono.attempt s R k = .done v) :
    DepsDone s R k := by
  obtain ⟨i, d, hg, hpre, hst⟩ := attempt_pending s R k (by rw [h]; intro e; cases e)
  rw [attempt_eq hg hpre hst] at h
  have hb := C19.toOut_done h
  unfold C20.attemptDef at hb
  cases hin : d.inner with
  | type td =>
    simp only [hin] at hb
    rw [buildType_stateOf (fun _ _ _ _ _ hget hst hin h => hfr _ (hgen hget hst hin h)) R hg hst hin] at hb
    cases hm : s.moduleFor k with
    | none => rw [hm] at hb; cases hb
    | some m =>
      rw [hm] at hb
      refine done_deps_of_used hg hst hm ?_
      have hgen' : ∀ sa, foldStmts (stateOf s R).reg m.scope td = .ok sa →
          ∀ item, genItem (stateOf s R).reg k d.vis sa.vfns = some item → item.path ∈ Gs := by
        intro sa hsa item hitem
        have e1 : genOf (stateOf s R).reg (some m) k d.vis td = some item := by
          simp only [genOf, vfnsOf, hsa]; exact hitem
        rw [genOf_keys s.reg (stateOf s R).reg (C19.contains_stateOf s R) rfl, ← hm] at e1
        exact hgen hg hst hin e1
      have hu8 : ["u8"] ∉ Gs := fun hmem => by have := hfr _ hmem; rw [hu.contains] at this; cases this
      have hdeps := btV_ok_deps hu8 (stateOf s R).reg m k d.vis td v (hcl hg hst hin hm) hgen' hb
      intro t ht
      obtain ⟨st, hstm, vis, n, hf⟩ := (mem_usedTys_type hin).mp ht
      exact hdeps st hstm vis n t hf
  | enum ed =>
    simp only [hin] at hb
    obtain ⟨m, dt, n, hm, hdt, hsz⟩ := buildEnum_ok_deps _ k ed v hb
    refine done_deps_of_used hg hst hm ?_
    intro t ht
    simp only [usedTys, hin, List.mem_singleton] at ht
    subst ht
    exact ⟨dt, n, hdt, hsz⟩

/-- … with `vftable` blocks, nothing mentioning a generated name -/
theorem attempt_done_depsV {s : State} (cx : Ctx s) (R : Work.Reg Path Resolved) (k : Path) (v : Resolved)
    (h : Mono.attempt s R k = .done v) :
    DepsDone s R k :=
  attempt_done_deps_of (u8_of_ok cx.ok.ok) cx.ng.fresh cx.stmts
    (fun hget hst hin h => genOf_mem hget hst hin h) R k v h

/-- … without `vftable` blocks: nothing is generated -/
theorem attempt_done_deps {s : State} (hu : U8 s.reg) (hv : NoVftS s) (R : Work.Reg Path Resolved) (k : Path)
    (v : Resolved) (h : Mono.attempt s R k = .done v) :
    DepsDone s R k :=
  attempt_done_deps_of (Gs := []) hu (fun _ hq => by cases hq)
    (fun _ _ _ _ _ _ => cleanIds_of (fun _ _ hq => by cases hq) (fun _ _ hq => by cases hq))
    (fun hget hst hin h => by
      unfold genOf at h
      rw [vfnsOf_fieldsOnly _ _ (hv _ _ _ _ hget hst hin)] at h
      cases h)
    R k v h

end PyxisVerif.C10
