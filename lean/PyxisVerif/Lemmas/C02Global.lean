import PyxisVerif.Props.C12
import PyxisVerif.Lemmas.C02
import PyxisVerif.Lemmas.C09Case
/-!
# C02, registry-wide: the recursive layout judgement of the modelled compiler and its agreement
with the sizes and alignments pyxis recorded

The per-item theorems of `Props/C02.lean` take the layouts of the field types from pyxis's registry
(`regLayout reg`).  The compiler does not read that registry: it computes the layout of a field's
type from the *emitted definition* of that type, recursively.  `Lay` below is that recursive
judgement, and `RegSound` says that it agrees with what pyxis recorded, for every resolved item of
the registry.  The lemmas of this file establish `RegSound` for `SemanticState::new` and show that
`add_module` and every resolution attempt preserve it.

## Specification part (definitions only)
-/
namespace PyxisVerif.C02
open Layout Gen

/-- what the compiler is asked to lay out: the item emitted for a registry path, a type expression,
    or the type of a field (a type expression or a function pointer) -/
inductive Node where
  | item (p : Path)
  | ty (t : DTy)
  | rty (t : RTy)

/-- **the modelled compiler's recursive layout judgement** over a registry: `Lay reg n s a` – the
    compiler gives `n` size `s` and alignment `a`.  Nothing here reads the size or alignment pyxis
    recorded for an item, with two exceptions that are part of what is *emitted* / *assumed*:
    the `align(N)` attribute printed on a struct is the resolved alignment (`Emit.typeItems`), and an
    extern type has the size and alignment it was declared with (the property assumes them). -/
inductive Lay (reg : Registry) : Node → Nat → Nat → Prop
  /-- a predefined primitive: the compiler's own table (`primLayout`); the registry is consulted only
      to see that the bare name still denotes the predefined type -/
  | prim (name : String) (i : ItemDef) (s a : Nat) :
      reg.get [name] = some i → i.cat = .predefined → i.isResolved = true → (name, s, a) ∈ primLayout →
      Lay reg (.item [name]) s a
  /-- `void` is emitted as `::std::ffi::c_void`: one byte, alignment 1 (pyxis records size 0) -/
  | void (i : ItemDef) :
      reg.get ["void"] = some i → i.cat = .predefined → i.isResolved = true → Lay reg (.item ["void"]) 1 1
  /-- an extern type: the declared size and alignment (assumed, as the property says) -/
  | extern (p : Path) (i : ItemDef) (r : Resolved) :
      reg.get p = some i → i.cat = .extern → i.state = .res r → Lay reg (.item p) r.size r.align
  /-- an emitted enum `#[repr(name)]`: the layout of the primitive `name` -/
  | enum (p : Path) (i : ItemDef) (r : Resolved) (ed : EnumDefn) (name : String) (s a : Nat) :
      reg.get p = some i → i.cat = .defined → i.state = .res r → r.inner = .enum ed →
      ed.ty = .raw [name] → (name, s, a) ∈ primLayout → Lay reg (.item p) s a
  /-- an emitted struct (`Emit.typeItems`; generated vftable structs are ordinary items of this kind):
      `#[repr(C, packed)]` or `#[repr(C, align(r.align))]`, one field per region of the resolved
      definition – source fields, `[u8; n]` padding, the vftable pointer, function pointers – each
      with the layout the compiler computes *recursively* for its type -/
  | struct (p : Path) (i : ItemDef) (r : Resolved) (td : TypeDefn) (flds : List RustSem.Fld) :
      reg.get p = some i → i.cat = .defined → i.state = .res r → r.inner = .type td →
      flds.length = td.regions.length →
      (∀ k (h1 : k < td.regions.length) (h2 : k < flds.length),
        Lay reg (.rty (td.regions[k]).ty) (flds[k]).size (flds[k]).align) →
      Lay reg (.item p)
        (RustSem.structSize td.packed (if td.packed then none else some r.align) flds)
        (RustSem.structAlign td.packed (if td.packed then none else some r.align) flds)
  | raw (p : Path) (s a : Nat) : Lay reg (.item p) s a → Lay reg (.ty (.raw p)) s a
  | cptr (t : DTy) : Lay reg (.ty (.cptr t)) reg.ps reg.ps
  | mptr (t : DTy) : Lay reg (.ty (.mptr t)) reg.ps reg.ps
  | arr (t : DTy) (n s a : Nat) : Lay reg (.ty t) s a → Lay reg (.ty (.arr t n)) (s * n) a
  | data (t : DTy) (s a : Nat) : Lay reg (.ty t) s a → Lay reg (.rty (.data t)) s a
  | fn (cc : CC) (args : List (String × DTy)) (ret : Option DTy) : Lay reg (.rty (.fn cc args ret)) reg.ps reg.ps

/-- `Compiled reg p s a`: the modelled compiler gives the item emitted for registry path `p` size `s`
    and alignment `a`, computing the layouts of the types of its fields recursively -/
abbrev Compiled (reg : Registry) (p : Path) (s a : Nat) : Prop := Lay reg (.item p) s a

abbrev TyCompiled (reg : Registry) (t : DTy) (s a : Nat) : Prop := Lay reg (.ty t) s a

abbrev RTyCompiled (reg : Registry) (t : RTy) (s a : Nat) : Prop := Lay reg (.rty t) s a

/-- **the exclusion**: `Tainted reg n` – `n` is `void`, or contains `void` *by value* (through struct
    fields and arrays, not through pointers).  pyxis resolves `void` with size 0 and emits it as
    `c_void` (size 1), so for these items the recorded layout is not the compiled one
    (`Props/C02Global.lean`, `sound_unrestricted_refuted`). -/
inductive Tainted (reg : Registry) : Node → Prop
  | void : Tainted reg (.item ["void"])
  | raw (p : Path) : Tainted reg (.item p) → Tainted reg (.ty (.raw p))
  | arr (t : DTy) (n : Nat) : Tainted reg (.ty t) → Tainted reg (.ty (.arr t n))
  | data (t : DTy) : Tainted reg (.ty t) → Tainted reg (.rty (.data t))
  | struct (p : Path) (i : ItemDef) (r : Resolved) (td : TypeDefn) (rg : Region) :
      reg.get p = some i → i.state = .res r → r.inner = .type td → rg ∈ td.regions →
      Tainted reg (.rty rg.ty) → Tainted reg (.item p)

/-- the item at `p` is `void` or embeds `void` by value -/
abbrev EmbedsVoid (reg : Registry) (p : Path) : Prop := Tainted reg (.item p)

/-- **registry-wide soundness**: every resolved item of the registry – predefined, extern, enum,
    struct, generated vftable struct – has, for the modelled compiler working recursively from the
    emitted definitions, the size and alignment pyxis recorded for it; the only items excluded are
    `void` and the items that embed `void` by value.

    Two auxiliary invariants are carried along because the induction needs them:
    `prims` – the names of the predefined types still denote them (nobody replaced `u8`; this is what
    `enum_sound` calls `hreg`), `unres` – every unresolved entry is a definition (category `defined`). -/
structure RegSound (s : State) : Prop where
  prims : ∀ nm ∈ predefinedTypes, s.reg.get [nm.1] = some (predefItem nm)
  unres : ∀ p i d, s.reg.get p = some i → i.state = .unres d → i.cat = .defined
  items : ∀ p i r, s.reg.get p = some i → i.state = .res r →
    Compiled s.reg p r.size r.align ∨ EmbedsVoid s.reg p

/-- the unrestricted statement (only `void` itself excluded, as in `init_sound`); FALSE in general:
    see `sound_unrestricted_refuted` -/
def RegSoundAll (s : State) : Prop :=
  ∀ p i r, s.reg.get p = some i → i.state = .res r → p ≠ ["void"] → Compiled s.reg p r.size r.align

/-- no region of a resolved type has `void` as its by-value core (`void`, `[void; n]`, …);
    pointers to `void` are fine -/
def NoVoidByValue (reg : Registry) : Prop :=
  ∀ p i r td rg, reg.get p = some i → i.state = .res r → r.inner = .type td → rg ∈ td.regions →
    ["void"] ∉ byValueR rg.ty

/-! ## Lemma part -/

/-- `r'` keeps the category of every entry of `r`, and every resolved entry exactly -/
structure Ext (r r' : Registry) : Prop where
  ps : r'.ps = r.ps
  keep : ∀ p i, r.get p = some i → ∃ i', r'.get p = some i' ∧ i'.cat = i.cat ∧ (i.isResolved = true → i' = i)

theorem Ext.refl (r : Registry) : Ext r r := ⟨rfl, fun _ i h => ⟨i, h, rfl, fun _ => rfl⟩⟩

theorem Ext.trans {r1 r2 r3 : Registry} (h1 : Ext r1 r2) (h2 : Ext r2 r3) : Ext r1 r3 := by
  refine ⟨h2.ps.trans h1.ps, ?_⟩
  intro p i hi
  obtain ⟨i', g1, c1, e1⟩ := h1.keep p i hi
  obtain ⟨i'', g2, c2, e2⟩ := h2.keep p i' g1
  refine ⟨i'', g2, c2.trans c1, ?_⟩
  intro hr
  have := e1 hr
  subst this
  exact e2 hr

theorem Ext.res' {r r' : Registry} (h : Ext r r') {p : Path} {i : ItemDef}
    (hi : r.get p = some i) (hs : i.isResolved = true) : r'.get p = some i := by
  obtain ⟨i', g, _, e⟩ := h.keep p i hi
  rw [g, e hs]

theorem Ext.res {r r' : Registry} (h : Ext r r') {p : Path} {i : ItemDef} {res : Resolved}
    (hi : r.get p = some i) (hs : i.state = .res res) : r'.get p = some i :=
  h.res' hi (isResolved_of_res hs)

theorem Ext.resLe {r r' : Registry} (h : Ext r r') : C19.ResLe r r' :=
  fun _ i _ hi hr => ⟨i, h.res hi (resolved?_eq hr), hr⟩

theorem Ext.cat {r r' : Registry} (h : Ext r r') {p : Path} {i : ItemDef}
    (hi : r.get p = some i) : ∃ i', r'.get p = some i' ∧ i'.cat = i.cat := by
  obtain ⟨i', g, c, _⟩ := h.keep p i hi
  exact ⟨i', g, c⟩

theorem Ext.bind_resolved? {r r' : Registry} (he : Ext r r') {α} {g : Resolved → α} {p : Path} {x : α}
    (h : ((r.get p).bind fun i => i.resolved?.map g) = some x) :
    ((r'.get p).bind fun i => i.resolved?.map g) = some x := by
  cases hg : r.get p with
  | none => rw [hg] at h; cases h
  | some i =>
    rw [hg] at h
    cases hr : i.resolved? with
    | none => simp only [Option.bind_some, hr, Option.map_none] at h; cases h
    | some res => rw [he.res hg (resolved?_eq hr)]; exact h

theorem Reach2.ext {s s1 : State} {owner : Path} (hr : Reach2 s s1 owner) : Ext s.reg s1.reg :=
  ⟨hr.ps, fun _ i hg => ⟨i, hr.get hg, rfl, fun _ => rfl⟩⟩

/-- the judgement is monotone: resolved entries never change -/
theorem Lay.mono {r r' : Registry} (he : Ext r r') {n : Node} {s a : Nat} (h : Lay r n s a) : Lay r' n s a := by
  induction h with
  | prim name i s a hg hc hr hm => exact Lay.prim name i s a (he.res' hg hr) hc hr hm
  | void i hg hc hr => exact Lay.void i (he.res' hg hr) hc hr
  | «extern» p i res hg hc hs => exact Lay.extern p i res (he.res hg hs) hc hs
  | «enum» p i res ed name s a hg hc hs hin hty hm =>
    exact Lay.enum p i res ed name s a (he.res hg hs) hc hs hin hty hm
  | struct p i res td flds hg hc hs hin hlen _ ih =>
    exact Lay.struct p i res td flds (he.res hg hs) hc hs hin hlen ih
  | raw p s a _ ih => exact Lay.raw p s a ih
  | cptr t => rw [← he.ps]; exact Lay.cptr t
  | mptr t => rw [← he.ps]; exact Lay.mptr t
  | arr t n s a _ ih => exact Lay.arr t n s a ih
  | data t s a _ ih => exact Lay.data t s a ih
  | fn cc args ret => rw [← he.ps]; exact Lay.fn cc args ret

theorem Tainted.mono {r r' : Registry} (he : Ext r r') {n : Node} (h : Tainted r n) : Tainted r' n := by
  induction h with
  | void => exact Tainted.void
  | raw p _ ih => exact Tainted.raw p ih
  | arr t n _ ih => exact Tainted.arr t n ih
  | data t _ ih => exact Tainted.data t ih
  | struct p i res td rg hg hs hin hm _ ih => exact Tainted.struct p i res td rg (he.res hg hs) hs hin hm ih

theorem placed_kinds (reg : Registry) (vptr : Option Region) (pending : List (Option Nat × Region))
    (target : Option Nat) (placed : List (Placed Region)) (size : Nat)
    (h : resolve (vptr.map (toPField reg none)) (pending.map fun p => toPField reg p.1 p.2) target = .ok (placed, size)) :
    ∀ pl ∈ placed,
      (∃ rg, pl.src = some rg ∧ rg.ty.size reg = .ok (some pl.size) ∧ rg.ty.align reg = pl.align) ∨
      (pl.src = none ∧ pl.align = some 1) := by
  refine resolve_all _ (fun n => Or.inr ⟨rfl, rfl⟩) _ _ _ _ _ h ?_ ?_
  · intro v hv s hs
    cases vptr with
    | none => cases hv
    | some r =>
      simp only [Option.map_some, Option.some.injEq] at hv
      subst hv
      exact Or.inl ⟨r, rfl, hs, rfl⟩
  · intro f hf s hs
    obtain ⟨p, _, rfl⟩ := List.mem_map.mp hf
    exact Or.inl ⟨p.2, rfl, hs, rfl⟩

/-- the `items` clause of `RegSound`, on a bare registry -/
def ItemsSound (reg : Registry) : Prop :=
  ∀ p i r, reg.get p = some i → i.state = .res r → Lay reg (.item p) r.size r.align ∨ Tainted reg (.item p)

def PrimsOk (reg : Registry) : Prop := ∀ nm ∈ predefinedTypes, reg.get [nm.1] = some (predefItem nm)

theorem ty_sound (reg : Registry) (hit : ItemsSound reg) (t : DTy) (s a : Nat)
    (hs : t.size reg = .ok (some s)) (ha : t.align reg = some a) :
    Lay reg (.ty t) s a ∨ Tainted reg (.ty t) := by
  revert a
  refine DTy.size_induct (P := fun t s => ∀ a, t.align reg = some a → Lay reg (.ty t) s a ∨ Tainted reg (.ty t))
    ?_ ?_ ?_ ?_ hs
  · intro p i res hg hst a ha
    rw [DTy.align_raw hg hst] at ha
    cases ha
    exact (hit p i res hg hst).imp (Lay.raw p _ _) (Tainted.raw p)
  · intro t a ha; cases ha; exact .inl (Lay.cptr t)
  · intro t a ha; cases ha; exact .inl (Lay.mptr t)
  · intro t n s _ _ ih a ha
    exact (ih a ha).imp (Lay.arr t n s a) (Tainted.arr t n)

theorem rty_sound (reg : Registry) (hit : ItemsSound reg) (t : RTy) (s a : Nat)
    (hs : t.size reg = .ok (some s)) (ha : t.align reg = some a) :
    Lay reg (.rty t) s a ∨ Tainted reg (.rty t) := by
  cases t with
  | data t => exact (ty_sound reg hit t s a hs ha).imp (Lay.data t s a) (Tainted.data t)
  | fn cc args ret =>
    simp only [RTy.size, RTy.align, Res.ok.injEq, Option.some.injEq] at hs ha
    subst hs; subst ha
    exact Or.inl (Lay.fn cc args ret)

theorem predefItem_resolved (nm : String × Nat) : (predefItem nm).isResolved = true := rfl

theorem padding_lay (reg : Registry) (hp : PrimsOk reg) (n : Nat) : Lay reg (.ty (.arr (.raw ["u8"]) n)) n 1 := by
  have h := Lay.arr (reg := reg) (.raw ["u8"]) n 1 1
    (Lay.raw ["u8"] 1 1 (Lay.prim "u8" _ 1 1 (hp ("u8", 1) (by decide)) rfl rfl (by decide)))
  rw [Nat.one_mul] at h
  exact h

theorem regions_sound (reg : Registry) (hp : PrimsOk reg) (hit : ItemsSound reg)
    (vptr : Option Region) (pending : List (Option Nat × Region))
    (target : Option Nat) (placed : List (Placed Region)) (size : Nat)
    (h : resolve (vptr.map (toPField reg none)) (pending.map fun p => toPField reg p.1 p.2) target = .ok (placed, size))
    (regions : List Region) (hn : nameRegions reg 0 placed = .ok regions) :
    regions.length = placed.length ∧
    ∀ k (h1 : k < regions.length) (h2 : k < (placed.map C01.toFld).length),
      Lay reg (.rty (regions[k]).ty) ((placed.map C01.toFld)[k]).size ((placed.map C01.toFld)[k]).align ∨
      Tainted reg (.rty (regions[k]).ty) := by
  obtain ⟨hlen, hnamed⟩ := C01.nameRegions_types_lem reg 0 placed regions hn
  refine ⟨hlen, ?_⟩
  intro k h1 h2
  have hk : k < placed.length := by rw [← hlen]; exact h1
  have hna := hnamed k hk h1
  have hkind := placed_kinds reg vptr pending target placed size h placed[k] (List.getElem_mem hk)
  simp only [List.getElem_map, C01.toFld]
  unfold C01.NamedAs at hna
  rcases hkind with ⟨rg, hsrc, hsz, hal⟩ | ⟨hsrc, hal⟩
  · simp only [hsrc] at hna
    rw [hna.1]
    obtain ⟨a, ha⟩ : ∃ a, rg.ty.align reg = some a := by
      have := Mono.ralign_of_size reg rg.ty _ hsz
      exact Option.isSome_iff_exists.mp this
    rw [← hal, ha]
    exact rty_sound reg hit rg.ty _ a hsz ha
  · simp only [hsrc] at hna
    obtain ⟨t, ht, hty, _⟩ := hna
    rw [hty, hal, (C09.paddingType_answer ht).1]
    exact Or.inl (Lay.data _ _ _ (padding_lay reg hp _))

theorem RegSound.step {s s' : State} (h : RegSound s) (he : Ext s.reg s'.reg)
    (hnew : ∀ p i, s'.reg.get p = some i → s.reg.get p = some i ∨
      ((∀ d, i.state = .unres d → i.cat = .defined) ∧
       (∀ r, i.state = .res r → Lay s'.reg (.item p) r.size r.align ∨ Tainted s'.reg (.item p)))) :
    RegSound s' := by
  refine ⟨?_, ?_, ?_⟩
  · intro nm hnm
    exact he.res' (h.prims nm hnm) (predefItem_resolved nm)
  · intro p i d hg hd
    rcases hnew p i hg with ho | hn
    · exact h.unres p i d ho hd
    · exact hn.1 d hd
  · intro p i r hg hr
    rcases hnew p i hg with ho | hn
    · exact (h.items p i r ho hr).imp (Lay.mono he) (Tainted.mono he)
    · exact hn.2 r hr

theorem RegSound.of_reg {s s' : State} (h : RegSound s) (e : s'.reg = s.reg) : RegSound s' := by
  refine ⟨?_, ?_, ?_⟩
  · rw [e]; exact h.prims
  · rw [e]; exact h.unres
  · rw [e]; exact h.items

theorem addItem_ext (s s' : State) (i : ItemDef) (h : s.addItem i = .ok s')
    (hfree : s.reg.get i.path = none ∨ s.reg.get i.path = some i) :
    Ext s.reg s'.reg ∧ ∀ p j, s'.reg.get p = some j → s.reg.get p = some j ∨ (p = i.path ∧ j = i) := by
  have hreg := C14.addItem_reg s s' i h
  refine ⟨⟨by rw [hreg]; rfl, ?_⟩, ?_⟩
  · intro p j hj
    rw [hreg, C14.get_add]
    by_cases hp : p = i.path
    · subst hp
      rw [if_pos rfl]
      rcases hfree with hf | hf
      · rw [hf] at hj; cases hj
      · rw [hf] at hj; cases hj; exact ⟨i, rfl, rfl, fun _ => rfl⟩
    · rw [if_neg hp]; exact ⟨j, hj, rfl, fun _ => rfl⟩
  · intro p j hj
    rw [hreg] at hj
    exact (Registry.get_add_some hj).symm.imp And.right id

theorem addItem_sound (s s' : State) (i : ItemDef) (hs : RegSound s) (h : s.addItem i = .ok s')
    (hfree : s.reg.get i.path = none ∨ s.reg.get i.path = some i)
    (hu : ∀ d, i.state = .unres d → i.cat = .defined)
    (hr : ∀ r, i.state = .res r → Lay s'.reg (.item i.path) r.size r.align ∨ Tainted s'.reg (.item i.path)) :
    RegSound s' := by
  obtain ⟨he, hn⟩ := addItem_ext s s' i h hfree
  refine hs.step he ?_
  intro p j hj
  rcases hn p j hj with ho | ⟨rfl, rfl⟩
  · exact Or.inl ho
  · exact Or.inr ⟨hu, hr⟩

theorem init_sound' : ∀ e ∈ predefinedTypes, e.1 = "void" ∨ (e.1, e.2, predefinedAlign e.2) ∈ primLayout := by
  decide

theorem new_sound_lem (ps : Nat) : RegSound (State.new ps) := by
  refine ⟨fun nm hnm => new_get ps nm hnm, ?_, ?_⟩
  · intro p i d hg hd
    obtain ⟨nm, _, _, rfl⟩ := new_get_inv ps p i hg
    cases hd
  · intro p i r hg hr
    obtain ⟨nm, hnm, rfl, rfl⟩ := new_get_inv ps p i hg
    simp only [predefItem, IState.res.injEq] at hr
    subst hr
    rcases init_sound' nm hnm with hv | hl
    · right
      rw [hv]
      exact Tainted.void
    · left
      exact Lay.prim nm.1 _ _ _ hg rfl rfl hl

/-- `add_module` keeps registry-wide soundness: definitions enter unresolved, extern types with the
    layout they declare -/
theorem addModule_sound_lem (s s' : State) (m : G.Module) (path : Path) (hs : RegSound s)
    (h : s.addModule m path = .ok s') : RegSound s' := by
  refine State.addModule_induct (fun _ _ _ => hs.of_reg rfl) ?_ ?_ h
  · intro t t' d _ ht hd
    obtain ⟨hfree, ha⟩ := C14.defStep_ok_inv hd
    exact addItem_sound t t' _ ht ha (.inl hfree) (fun _ _ => rfl) (fun r hr => by cases hr)
  · intro t t' xt _ ht hd
    obtain ⟨_, size, align, _, _, _, hfree, ha⟩ := C14.xtypeStep_ok_inv hd
    refine addItem_sound t t' _ ht ha (.inl hfree) (fun d hd => by cases hd) (fun r hr => .inl ?_)
    refine Lay.extern _ _ r ?_ rfl hr
    rw [C14.addItem_reg t t' _ ha]
    exact get_add_same _ _

/-- the generated vftable struct: `slots` function pointers, `align(ps)` – `slots * ps` bytes for the
    compiler as for pyxis -/
theorem vftableItem_lay (reg reg' : Registry) (owner : Path) (vis : Vis) (fns : List SFunc) (item : ItemDef)
    (hps : 0 < reg.ps) (hps' : reg'.ps = reg.ps)
    (hi : buildVftableItem reg owner vis fns = some item) (hg : reg'.get item.path = some item) :
    ∃ r, item.state = .res r ∧ item.cat = .defined ∧ Lay reg' (.item item.path) r.size r.align := by
  unfold buildVftableItem at hi
  obtain ⟨q, _, rfl⟩ := Option.map_eq_some_iff.mp hi
  refine ⟨_, rfl, rfl, ?_⟩
  have hs := vftable_sound_lem reg.ps (fns.map (functionToRegion owner)).length hps
  have h := Lay.struct (reg := reg') _ _ _ { regions := fns.map (functionToRegion owner) }
    (List.replicate (fns.map (functionToRegion owner)).length ⟨reg.ps, reg.ps⟩) hg rfl rfl rfl
    (by simp) (by
      intro k h1 h2
      simp only [List.getElem_map, functionToRegion, List.getElem_replicate]
      rw [← hps']
      exact Lay.fn _ _ _)
  simp only [Bool.false_eq_true, if_false] at h
  rw [hs.1, hs.2] at h
  exact h

theorem reach2_sound {s s1 : State} {owner : Path} (hr : Reach2 s s1 owner) (hs : RegSound s)
    (hps : 0 < s.reg.ps) : RegSound s1 := by
  rcases hr with rfl | ⟨vis, fns, item, hi, hfree, ha⟩
  · exact hs
  · have hreg := C14.addItem_reg s s1 item ha
    have hg : s1.reg.get item.path = some item := by rw [hreg]; exact get_add_same _ _
    obtain ⟨r, hst, hcat, hl⟩ := vftableItem_lay s.reg s1.reg owner vis fns item hps (by rw [hreg]; rfl) hi hg
    refine addItem_sound s s1 item hs ha hfree (fun _ _ => hcat) ?_
    intro r' hr'
    rw [hst] at hr'
    cases hr'
    exact Or.inl hl

theorem setState_ext (r : Registry) (p : Path) (res : Resolved) (i : ItemDef) (d : G.Item)
    (hi : r.get p = some i) (hu : i.state = .unres d) : Ext r (r.setState p (.res res)) := by
  refine ⟨rfl, ?_⟩
  intro q j hq
  rw [C12.get_setState]
  by_cases e : q = p
  · subst e
    rw [if_pos rfl, hq]
    rw [hi] at hq
    cases hq
    exact ⟨_, rfl, rfl, fun hr => by rw [ItemDef.isResolved_of_unres hu] at hr; cases hr⟩
  · rw [if_neg e]
    exact ⟨j, hq, rfl, fun _ => rfl⟩

theorem setState_sound (s : State) (p : Path) (res : Resolved) (i : ItemDef) (d : G.Item) (hs : RegSound s)
    (hi : s.reg.get p = some i) (hu : i.state = .unres d)
    (hl : Lay (s.reg.setState p (.res res)) (.item p) res.size res.align ∨
          Tainted (s.reg.setState p (.res res)) (.item p)) :
    RegSound { s with reg := s.reg.setState p (.res res) } := by
  refine hs.step (setState_ext s.reg p res i d hi hu) ?_
  intro q j hq
  rcases C12.get_setState_some hq with ⟨rfl, j0, _, rfl⟩ | ⟨_, hq⟩
  · refine .inr ⟨fun d' hd' => (by cases hd'), fun r' hr' => ?_⟩
    cases hr'
    exact hl
  · exact .inl hq

/-- a newly resolved struct: the compiled layout of the emitted struct is the resolved one, by
    `regions_sound` for the fields and `struct_sound_lem` for the struct -/
theorem buildType_lay (s s1 : State) (p : Path) (vis : Vis) (td : G.TypeDef) (r : Resolved) (i : ItemDef) (d : G.Item)
    (hs1 : RegSound s1) (hb : buildType s p vis td = (s1, .ok r))
    (hi : s1.reg.get p = some i) (hu : i.state = .unres d) :
    Lay (s1.reg.setState p (.res r)) (.item p) r.size r.align ∨ Tainted (s1.reg.setState p (.res r)) (.item p) := by
  obtain ⟨module, ta, sa, regions, vft, placed, tdn, _, hrr, hal, hin, hreg, hpk⟩ :=
    C01.buildType_inv s s1 p vis td r hb
  obtain ⟨vregion, hres, hname⟩ := C01.resolveRegions_inv _ _ _ _ _ _ _ _ _ _ _ hrr
  obtain ⟨hlen, hflds⟩ := regions_sound s1.reg hs1.prims hs1.items vregion sa.pending ta.targetSize placed r.size
    hres regions hname
  have he := setState_ext s1.reg p r i d hi hu
  have hcat : i.cat = .defined := hs1.unres p i d hi hu
  have hg : (s1.reg.setState p (.res r)).get p = some { i with state := .res r } := by
    rw [C12.get_setState, if_pos rfl, hi]; rfl
  obtain ⟨e1, e2, _⟩ := struct_sound_lem s1.reg.ps ta.packed ta.align _ _ ta.targetSize placed r.size r.align hres hal
  by_cases hT : ∃ k, ∃ h1 : k < regions.length, Tainted s1.reg (.rty (regions[k]).ty)
  · obtain ⟨k, h1, ht⟩ := hT
    right
    refine Tainted.struct p _ r tdn regions[k] hg rfl hin ?_ (ht.mono he)
    rw [hreg]
    exact List.getElem_mem h1
  · left
    have h := Lay.struct (reg := s1.reg.setState p (.res r)) p _ r tdn (placed.map C01.toFld) hg hcat rfl hin
      (by rw [hreg, hlen]; simp) (by
        intro k h1 h2
        have h1' : k < regions.length := by rw [← hreg]; exact h1
        have e : tdn.regions[k] = regions[k] := by simp only [hreg]
        rw [e]
        rcases hflds k h1' h2 with hl | ht
        · exact hl.mono he
        · exact absurd ⟨k, h1', ht⟩ hT)
    rw [hpk, e1, e2] at h
    exact h

theorem buildEnum_lay (s : State) (p : Path) (ed : G.EnumDef) (r : Resolved) (i : ItemDef) (d : G.Item)
    (hs : RegSound s) (hb : buildEnum s p ed = .ok r)
    (hi : s.reg.get p = some i) (hu : i.state = .unres d) :
    Lay (s.reg.setState p (.res r)) (.item p) r.size r.align := by
  have hreg : ∀ e ∈ C08.intTypes, s.reg.get [e.1] = (State.new s.reg.ps).reg.get [e.1] := by
    intro e he
    obtain ⟨nm, hpre, hnm, _⟩ := int_layout e.1 (List.mem_map.mpr ⟨e, he, rfl⟩)
    rw [← hnm, hs.prims nm hpre, new_get s.reg.ps nm hpre]
  obtain ⟨edn, name, hin, hty, hm⟩ := enum_sound_lem s p ed r hreg hb
  have hg : (s.reg.setState p (.res r)).get p = some { i with state := .res r } := by
    rw [C12.get_setState, if_pos rfl, hi]; rfl
  exact Lay.enum p _ r edn name _ _ hg (hs.unres p i d hi hu) rfl hin hty hm

theorem attemptItem_sound (s : State) (p : Path) (hps : 0 < s.reg.ps) (hs : RegSound s) :
    RegSound (attemptItem s p).1 := by
  refine attemptItem_induct hs (fun _ d _ _ => reach2_sound (attemptDef_reach2 s p d) hs hps) ?_
  intro i d s1 r hg hd hb h1
  have hi : s1.reg.get p = some i := ((congrArg Prod.fst hb) ▸ attemptDef_reach2 s p d).get hg
  refine setState_sound s1 p r i d h1 hi hd ?_
  unfold C20.attemptDef at hb
  split at hb
  · next td _ => exact buildType_lay s s1 p d.vis td r i d h1 hb hi hd
  · next ed _ =>
    simp only [Prod.mk.injEq] at hb
    obtain ⟨rfl, hb⟩ := hb
    exact .inl (buildEnum_lay s p ed r i d hs hb hi hd)

theorem ps_pos_of_ok {s : State} (hs : C12.StateOk s) : 0 < s.reg.ps :=
  C01.isPow2_pos _ hs.reg.ps_pow2

/-- what an attempt keeps of the two invariants together (the first provides `0 < ps` for the second) -/
theorem attemptItem_okSound (s : State) (p : Path) (h : C12.StateOkB s ∧ RegSound s) :
    C12.StateOkB (attemptItem s p).1 ∧ RegSound (attemptItem s p).1 :=
  ⟨C12.attemptItem_ok s p h.1, attemptItem_sound s p (ps_pos_of_ok h.1.ok) h.2⟩

/-! ### without `void` by value, nothing is excluded -/

theorem tainted_core (reg : Registry) (hv : NoVoidByValue reg) {n : Node} (h : Tainted reg n) :
    match n with
    | .item p => p = ["void"]
    | .ty t => ["void"] ∈ C09.byValue t
    | .rty t => ["void"] ∈ byValueR t := by
  induction h with
  | void => rfl
  | raw p _ ih =>
    simp only at ih
    simp only [C09.byValue, List.mem_singleton]
    exact ih.symm
  | arr t n _ ih => simpa only [C09.byValue] using ih
  | data t _ ih => simpa only [byValueR] using ih
  | struct p i res td rg hg hs hin hm _ ih =>
    exact absurd ih (hv p i res td rg hg hs hin hm)

def noVoidB (reg : Registry) : Bool :=
  reg.types.all fun e =>
    match e.2.state with
    | .res r =>
      match r.inner with
      | .type td => td.regions.all fun rg => !(byValueR rg.ty).contains ["void"]
      | .enum _ => true
    | .unres _ => true

theorem noVoidB_sound (reg : Registry) (h : noVoidB reg = true) : NoVoidByValue reg := by
  intro p i r td rg hg hs hin hm
  have hmem := C14.mem_of_lookup reg.types p i hg
  unfold noVoidB at h
  rw [List.all_eq_true] at h
  have := h (p, i) hmem
  simp only [hs, hin, List.all_eq_true] at this
  have := this rg hm
  simpa using this

theorem Lay.data_inv {reg : Registry} {t : DTy} {s a : Nat} (h : Lay reg (.rty (.data t)) s a) :
    Lay reg (.ty t) s a := by
  generalize hn : Node.rty (.data t) = n at h
  cases h <;> cases hn
  assumption

theorem Lay.raw_inv {reg : Registry} {p : Path} {s a : Nat} (h : Lay reg (.ty (.raw p)) s a) :
    Lay reg (.item p) s a := by
  generalize hn : Node.ty (.raw p) = n at h
  cases h <;> cases hn
  assumption

theorem Lay.item_inv {reg : Registry} {p : Path} {s a : Nat} (h : Lay reg (.item p) s a) :
    ∃ i, reg.get p = some i ∧
      ((i.cat = .predefined ∧ ((∃ name, p = [name] ∧ (name, s, a) ∈ primLayout) ∨ (p = ["void"] ∧ s = 1 ∧ a = 1))) ∨
       (∃ r, i.cat = .extern ∧ i.state = .res r ∧ s = r.size ∧ a = r.align) ∨
       (∃ r, i.cat = .defined ∧ i.state = .res r ∧
         ((∃ ed name, r.inner = .enum ed ∧ ed.ty = .raw [name] ∧ (name, s, a) ∈ primLayout) ∨
          (∃ td flds, r.inner = .type td ∧ flds.length = td.regions.length ∧
            (∀ k (h1 : k < td.regions.length) (h2 : k < flds.length),
              Lay reg (.rty (td.regions[k]).ty) (flds[k]).size (flds[k]).align) ∧
            s = RustSem.structSize td.packed (if td.packed then none else some r.align) flds ∧
            a = RustSem.structAlign td.packed (if td.packed then none else some r.align) flds)))) := by
  generalize hn : Node.item p = n at h
  cases h <;> cases hn
  · next name i hg hc _ hm => exact ⟨i, hg, .inl ⟨hc, .inl ⟨name, rfl, hm⟩⟩⟩
  · next i hg hc _ => exact ⟨i, hg, .inl ⟨hc, .inr ⟨rfl, rfl, rfl⟩⟩⟩
  · next i r hc hs hg => exact ⟨i, hg, .inr (.inl ⟨r, hc, hs, rfl, rfl⟩)⟩
  · next i r ed name hc hs hin hty hm hg => exact ⟨i, hg, .inr (.inr ⟨r, hc, hs, .inl ⟨ed, name, hin, hty, hm⟩⟩)⟩
  · next i r td flds hc hs hin hlen hf hg =>
    exact ⟨i, hg, .inr (.inr ⟨r, hc, hs, .inr ⟨td, flds, hin, hlen, hf, rfl, rfl⟩⟩)⟩

theorem Lay.void_inv {reg : Registry} {i : ItemDef} {s a : Nat} (h : Lay reg (.item ["void"]) s a)
    (hg : reg.get ["void"] = some i) (hc : i.cat = .predefined) : s = 1 ∧ a = 1 := by
  obtain ⟨i', hg', hrule⟩ := h.item_inv
  rw [hg] at hg'; cases hg'
  rcases hrule with ⟨_, ⟨name, hn, hm⟩ | ⟨_, h1, h2⟩⟩ | ⟨r, hc', _⟩ | ⟨r, hc', _⟩
  · cases hn; simp [primLayout] at hm
  · exact ⟨h1, h2⟩
  · rw [hc] at hc'; cases hc'
  · rw [hc] at hc'; cases hc'

theorem Lay.struct_inv {reg : Registry} {p : Path} {i : ItemDef} {r : Resolved} {td : TypeDefn} {s a : Nat}
    (h : Lay reg (.item p) s a) (hg : reg.get p = some i) (hc : i.cat = .defined) (hs : i.state = .res r)
    (hin : r.inner = .type td) :
    ∃ flds : List RustSem.Fld, flds.length = td.regions.length ∧
      (∀ k (h1 : k < td.regions.length) (h2 : k < flds.length),
        Lay reg (.rty (td.regions[k]).ty) (flds[k]).size (flds[k]).align) ∧
      s = RustSem.structSize td.packed (if td.packed then none else some r.align) flds ∧
      a = RustSem.structAlign td.packed (if td.packed then none else some r.align) flds := by
  obtain ⟨i', hg', hrule⟩ := h.item_inv
  rw [hg] at hg'; cases hg'
  rcases hrule with ⟨hc', _⟩ | ⟨_, hc', _⟩ | ⟨r', _, hs', ⟨ed, _, hin', _⟩ | ⟨td', flds, hin', hlen, hf, e1, e2⟩⟩
  · rw [hc] at hc'; cases hc'
  · rw [hc] at hc'; cases hc'
  · rw [hs] at hs'; cases hs'; rw [hin] at hin'; cases hin'
  · rw [hs] at hs'; cases hs'; rw [hin] at hin'; cases hin'
    exact ⟨flds, hlen, hf, e1, e2⟩

theorem alignUp_ge (o a : Nat) : o ≤ RustSem.alignUp o a := by
  unfold RustSem.alignUp
  split
  · exact Nat.le_refl _
  · next ha =>
    have h1 := Nat.div_add_mod (o + a - 1) a
    have h2 := Nat.mod_lt (o + a - 1) (Nat.pos_of_ne_zero ha)
    rw [Nat.mul_comm] at h1
    omega

theorem structSize_single_pos (packed : Bool) (al : Option Nat) (f : RustSem.Fld) (hf : f.size = 1) :
    0 < RustSem.structSize packed al [f] := by
  unfold RustSem.structSize
  refine Nat.lt_of_lt_of_le ?_ (alignUp_ge _ _)
  simp only [RustSem.endOf]
  split
  · omega
  · have := alignUp_ge 0 f.align
    omega

theorem primLayout_fun : ∀ e1 ∈ primLayout, ∀ e2 ∈ primLayout, e1.1 = e2.1 → e1 = e2 := by decide

theorem prim_unique {name : String} {s a s' a' : Nat} (h1 : (name, s, a) ∈ primLayout) (h2 : (name, s', a') ∈ primLayout) :
    s = s' ∧ a = a' := by
  have := primLayout_fun _ h1 _ h2 rfl
  simp only [Prod.mk.injEq, true_and] at this
  exact this

theorem fld_ext (f g : RustSem.Fld) (h1 : f.size = g.size) (h2 : f.align = g.align) : f = g := by
  cases f; cases g; simp_all

/-- the judgement is functional: the compiler gives a node at most one layout.  For an item the entry decides which
    rule applies (`Lay.item_inv`), so two derivations end in the same rule; for a struct the layouts of the fields
    agree by induction. -/
theorem Lay.unique {reg : Registry} {n : Node} {s a s' a' : Nat} (h1 : Lay reg n s a) (h2 : Lay reg n s' a') :
    s = s' ∧ a = a' := by
  induction h1 generalizing s' a' with
  | prim name i s a hg hc hr hm =>
    obtain ⟨i', hg', hrule⟩ := h2.item_inv
    rw [hg] at hg'; cases hg'
    rcases hrule with ⟨_, ⟨name', hn, hm'⟩ | ⟨hn, _, _⟩⟩ | ⟨_, hc', _⟩ | ⟨_, hc', _⟩
    · cases hn; exact prim_unique hm hm'
    · cases hn; simp [primLayout] at hm
    · rw [hc] at hc'; cases hc'
    · rw [hc] at hc'; cases hc'
  | void i hg hc hr => exact (Lay.void_inv h2 hg hc).imp Eq.symm Eq.symm
  | «extern» p i res hg hc hs =>
    obtain ⟨i', hg', hrule⟩ := h2.item_inv
    rw [hg] at hg'; cases hg'
    rcases hrule with ⟨hc', _⟩ | ⟨r, _, hs', e1, e2⟩ | ⟨_, hc', _⟩
    · rw [hc] at hc'; cases hc'
    · rw [hs] at hs'; cases hs'; exact ⟨e1.symm, e2.symm⟩
    · rw [hc] at hc'; cases hc'
  | «enum» p i res ed name s a hg hc hs hin hty hm =>
    obtain ⟨i', hg', hrule⟩ := h2.item_inv
    rw [hg] at hg'; cases hg'
    rcases hrule with ⟨hc', _⟩ | ⟨_, hc', _⟩ | ⟨r, _, hs', ⟨ed', name', hin', hty', hm'⟩ | ⟨_, _, hin', _⟩⟩
    · rw [hc] at hc'; cases hc'
    · rw [hc] at hc'; cases hc'
    · rw [hs] at hs'; cases hs'; rw [hin] at hin'; cases hin'; rw [hty] at hty'; cases hty'
      exact prim_unique hm hm'
    · rw [hs] at hs'; cases hs'; rw [hin] at hin'; cases hin'
  | struct p i res td flds hg hc hs hin hlen _ ih =>
    obtain ⟨flds', hlen', hf', rfl, rfl⟩ := Lay.struct_inv h2 hg hc hs hin
    have e : flds = flds' := by
      apply List.ext_getElem (by omega)
      intro k h1 h2
      have := ih k (by omega) h1 (hf' k (by omega) h2)
      exact fld_ext _ _ this.1 this.2
    subst e
    exact ⟨rfl, rfl⟩
  | raw p s a _ ih => exact ih (Lay.raw_inv h2)
  | cptr t =>
    generalize hn : Node.ty (.cptr t) = n at h2
    cases h2 <;> cases hn
    exact ⟨rfl, rfl⟩
  | mptr t =>
    generalize hn : Node.ty (.mptr t) = n at h2
    cases h2 <;> cases hn
    exact ⟨rfl, rfl⟩
  | arr t n s a _ ih =>
    generalize hn : Node.ty (.arr t n) = m at h2
    cases h2 <;> cases hn
    next s2 h2 =>
    obtain ⟨rfl, rfl⟩ := ih h2
    exact ⟨rfl, rfl⟩
  | data t s a _ ih => exact ih (Lay.data_inv h2)
  | fn cc args ret =>
    generalize hn : Node.rty (.fn cc args ret) = n at h2
    cases h2 <;> cases hn
    exact ⟨rfl, rfl⟩

end PyxisVerif.C02
