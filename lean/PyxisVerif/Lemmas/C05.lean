import PyxisVerif.Spec.C05
import PyxisVerif.Lemmas.Build
/-! `declAddress` is `declInt "address"`; `specArgs` is what `mapM' buildArg` collects; `readHex` undoes `{:X}` -/
namespace PyxisVerif.C05
open Gen C15

theorem declAddress_eq (f : G.Func) : declAddress f = declInt "address" f.attrs := by
  unfold declAddress declInt
  congr 1
  funext acc a
  split
  · rfl
  · next h =>
    split
    · next n v => rw [if_neg]; rintro rfl; exact h v rfl
    · rfl

theorem specArgs_of_mapM (reg : Registry) (scope : List Path) (as : List G.Arg) (args : List SArg)
    (h : Res.mapM' (buildArg reg scope) as = .ok args) : specArgs reg scope as = some args := by
  refine Res.mapM'_induct (P := fun as args => specArgs reg scope as = some args) rfl ?_ h
  intro a b as bs hb _ ih
  cases a with
  | constSelf => cases hb; simp [specArgs, ih]
  | mutSelf => cases hb; simp [specArgs, ih]
  | named n t =>
    simp only [buildArg] at hb
    split at hb
    · next t' ht => cases hb; simp [specArgs, ht, ih]
    all_goals cases hb

theorem hexDigit_upper : ∀ d : Fin 16, hexDigit (Char.toUpper (Nat.digitChar d.val)) = some d.val := by
  decide

theorem readHex_toDigits (n : Nat) : readHex ((Nat.toDigits 16 n).map Char.toUpper) = some n := by
  induction n using Nat.strongRecOn with
  | _ n ih =>
    rw [Nat.toDigits_eq_if (by decide)]
    split
    · next h =>
      have := hexDigit_upper ⟨n, h⟩
      simp only at this
      simp [readHex, this]
    · next h =>
      have hlt : n / 16 < n := Nat.div_lt_self (by omega) (by decide)
      have := ih _ hlt
      unfold readHex at this ⊢
      rw [List.map_append, List.foldl_append, this]
      have hd := hexDigit_upper ⟨n % 16, Nat.mod_lt _ (by decide)⟩
      simp only at hd
      simp only [List.map_cons, List.map_nil, List.foldl_cons, List.foldl_nil, hd, Option.some.injEq]
      omega

end PyxisVerif.C05
