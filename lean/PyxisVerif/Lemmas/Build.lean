import PyxisVerif.Spec.C08
import PyxisVerif.Spec.C13
import PyxisVerif.Spec.C15
import PyxisVerif.Spec.C16
import PyxisVerif.Lemmas.Res
import PyxisVerif.Lemmas.Pipeline
/-!
# What the functions of `Model/Build.lean` compute, and what they have done when they return `ok`

One inversion per model function (`…_ok`, and `TypeBuild`, `EnumBuild` for the two build functions), and for the
attribute loops the value of every field of the loop state in terms of the attribute list (against the declarative
folds of the specifications: `declInt`, `declaredCC`, `hasIdent`).  Where proofs compare two runs, the function is
first written as an equation in its stages (`stmtStep_field`, `stmtStep_vftable`, `resolveRegions_head`,
`buildType_btOf`), and the inversion is read off the equation.  The property files project what they need out of these.
-/
namespace PyxisVerif
open Gen

/-! ## the last `#[name(v)]`, taken through `usize::try_from` -/
namespace C15
variable {β : Type}

def declStep (name : String) (acc : Option Int) (a : G.Attr) : Option Int :=
  match a with | .fn n [.int v] => if n = name then some v else acc | _ => acc

theorem declInt_eq (name : String) (attrs : List G.Attr) :
    declInt name attrs = attrs.foldl (declStep name) none := rfl

/-- `o` holds the `usize` conversion of the declared integer `ai`, wrapped by `g` -/
def Rel (g : Nat → β) (o : Option β) (ai : Option Int) : Prop :=
  match ai with
  | some a => 0 ≤ a ∧ o = some (g a.toNat)
  | none => o = none

theorem Rel.hit {g : Nat → β} {name : String} {ai : Option Int} {v : Int} {n : Nat} (h : tryUsize v = some n) :
    Rel g (some (g n)) (declStep name ai (.fn name [.int v])) := by
  unfold tryUsize at h
  split at h
  · next hv => cases h; simpa [declStep, Rel] using hv
  · cases h

theorem declStep_fn_ne {name n : String} (h : n ≠ name) (ai : Option Int) (args : List G.Expr) :
    declStep name ai (.fn n args) = ai := by
  unfold declStep
  split
  · next hn => rw [if_neg]; cases hn; exact h
  · rfl

theorem declStep_miss {name : String} {a : G.Attr} (h : ∀ v, a ≠ .fn name [.int v]) (ai : Option Int) :
    declStep name ai a = ai := by
  unfold declStep
  split
  · next n v =>
    split
    · next hn => exact absurd (hn ▸ rfl) (h v)
    · rfl
  · rfl

theorem Rel.fold {σ : Type} {g : Nat → β} {f : σ → G.Attr → Res σ} {proj : σ → Option β} {name : String}
    (step : ∀ st a st', f st a = .ok st' → ∀ ai, Rel g (proj st) ai → Rel g (proj st') (declStep name ai a))
    {attrs : List G.Attr} {st st' : σ} (h : Res.foldlM f st attrs = .ok st') (h0 : proj st = none) :
    Rel g (proj st') (declInt name attrs) :=
  declInt_eq name attrs ▸
    Res.foldlM_rel (R := fun st => Rel g (proj st)) (fun b a b' c hr hs => step b a b' hs c hr) h h0

end C15
open C15

/-! ## `type_definition::build`, `enum_definition::build`: the attribute loops -/

theorem typeAttrStep_ok {st st' : TypeAttrs} {a : G.Attr} (h : typeAttrStep st a = .ok st') :
    (∀ ai, Rel id st.targetSize ai → Rel id st'.targetSize (declStep "size" ai a)) ∧
    (∀ ai, Rel id st.singleton ai → Rel id st'.singleton (declStep "singleton" ai a)) ∧
    (∀ ai, Rel id st.align ai → Rel id st'.align (declStep "align" ai a)) ∧
    st'.copyable = (st.copyable || a == .ident "copyable") ∧
    st'.cloneable = (st.cloneable || (a == .ident "copyable" || a == .ident "cloneable")) ∧
    st'.defaultable = (st.defaultable || a == .ident "defaultable") ∧
    st'.packed = (st.packed || a == .ident "packed") := by
  unfold typeAttrStep at h
  split at h
  · split at h
    · next n hn =>
      cases h
      simp (disch := decide) only [declStep_fn_ne]
      exact ⟨fun _ _ => .hit hn, fun _ hr => hr, fun _ hr => hr, by simp⟩
    · cases h
  · split at h
    · next n hn =>
      cases h
      simp (disch := decide) only [declStep_fn_ne]
      exact ⟨fun _ hr => hr, fun _ _ => .hit hn, fun _ hr => hr, by simp⟩
    · cases h
  · split at h
    · next n hn =>
      cases h
      simp (disch := decide) only [declStep_fn_ne]
      exact ⟨fun _ hr => hr, fun _ hr => hr, fun _ _ => .hit hn, by simp⟩
    · cases h
  · cases h; exact ⟨fun _ hr => hr, fun _ hr => hr, fun _ hr => hr, by simp⟩
  · cases h; exact ⟨fun _ hr => hr, fun _ hr => hr, fun _ hr => hr, by simp⟩
  · cases h; exact ⟨fun _ hr => hr, fun _ hr => hr, fun _ hr => hr, by simp⟩
  · cases h; exact ⟨fun _ hr => hr, fun _ hr => hr, fun _ hr => hr, by simp⟩
  · next h1 h2 h3 h4 h5 h6 h7 =>
    cases h
    simp only [declStep_miss h1, declStep_miss h2, declStep_miss h3]
    simp only [beq_eq_false_iff_ne.mpr h4, beq_eq_false_iff_ne.mpr h5, beq_eq_false_iff_ne.mpr h6,
      beq_eq_false_iff_ne.mpr h7, Bool.or_false, and_true]
    exact ⟨fun _ hr => hr, fun _ hr => hr, fun _ hr => hr⟩

theorem enumAttrStep_ok {st st' : EnumAttrs} {a : G.Attr} (h : enumAttrStep st a = .ok st') :
    (∀ ai, Rel id st.singleton ai → Rel id st'.singleton (declStep "singleton" ai a)) ∧
    st'.copyable = (st.copyable || a == .ident "copyable") ∧
    st'.cloneable = (st.cloneable || (a == .ident "copyable" || a == .ident "cloneable")) ∧
    st'.defaultable = (st.defaultable || a == .ident "defaultable") := by
  unfold enumAttrStep at h
  split at h
  · cases h; exact ⟨fun _ hr => hr, by simp⟩
  · cases h; exact ⟨fun _ hr => hr, by simp⟩
  · cases h; exact ⟨fun _ hr => hr, by simp⟩
  · split at h
    · next n hn => cases h; exact ⟨fun _ _ => .hit hn, by simp⟩
    · cases h
  · next h1 h2 h3 h4 =>
    cases h
    simp only [declStep_miss h4, beq_eq_false_iff_ne.mpr h1, beq_eq_false_iff_ne.mpr h2,
      beq_eq_false_iff_ne.mpr h3, Bool.or_false, and_true]
    exact fun _ hr => hr

theorem any_or {α : Type} (l : List α) (p q : α → Bool) : l.any (fun a => p a || q a) = (l.any p || l.any q) := by
  induction l with
  | nil => rfl
  | cons a l ih => simp only [List.any_cons, ih, Bool.or_assoc, Bool.or_left_comm]

open C17 (hasIdent)

theorem typeAttrs_ok {attrs : List G.Attr} {ta : TypeAttrs} (h : Res.foldlM typeAttrStep {} attrs = .ok ta) :
    Rel id ta.targetSize (declInt "size" attrs) ∧ Rel id ta.singleton (declInt "singleton" attrs) ∧
    Rel id ta.align (declInt "align" attrs) ∧
    ta.copyable = hasIdent attrs "copyable" ∧
    ta.cloneable = (hasIdent attrs "copyable" || hasIdent attrs "cloneable") ∧
    ta.defaultable = hasIdent attrs "defaultable" ∧ ta.packed = hasIdent attrs "packed" :=
  have hc : ta.cloneable = attrs.any fun a => a == .ident "copyable" || a == .ident "cloneable" :=
    Res.foldlM_any (flag := (·.cloneable)) (fun _ _ _ hs => (typeAttrStep_ok hs).2.2.2.2.1) h
  ⟨Rel.fold (proj := (·.targetSize)) (fun _ _ _ hs => (typeAttrStep_ok hs).1) h rfl,
    Rel.fold (proj := (·.singleton)) (fun _ _ _ hs => (typeAttrStep_ok hs).2.1) h rfl,
    Rel.fold (proj := (·.align)) (fun _ _ _ hs => (typeAttrStep_ok hs).2.2.1) h rfl,
    Res.foldlM_any (flag := (·.copyable)) (fun _ _ _ hs => (typeAttrStep_ok hs).2.2.2.1) h,
    hc.trans (any_or attrs _ _),
    Res.foldlM_any (flag := (·.defaultable)) (fun _ _ _ hs => (typeAttrStep_ok hs).2.2.2.2.2.1) h,
    Res.foldlM_any (flag := (·.packed)) (fun _ _ _ hs => (typeAttrStep_ok hs).2.2.2.2.2.2) h⟩

theorem enumAttrs_ok {attrs : List G.Attr} {ea : EnumAttrs} (h : Res.foldlM enumAttrStep {} attrs = .ok ea) :
    Rel id ea.singleton (declInt "singleton" attrs) ∧
    ea.copyable = hasIdent attrs "copyable" ∧
    ea.cloneable = (hasIdent attrs "copyable" || hasIdent attrs "cloneable") ∧
    ea.defaultable = hasIdent attrs "defaultable" :=
  have hc : ea.cloneable = attrs.any fun a => a == .ident "copyable" || a == .ident "cloneable" :=
    Res.foldlM_any (flag := (·.cloneable)) (fun _ _ _ hs => (enumAttrStep_ok hs).2.2.1) h
  ⟨Rel.fold (proj := (·.singleton)) (fun _ _ _ hs => (enumAttrStep_ok hs).1) h rfl,
    Res.foldlM_any (flag := (·.copyable)) (fun _ _ _ hs => (enumAttrStep_ok hs).2.1) h,
    hc.trans (any_or attrs _ _),
    Res.foldlM_any (flag := (·.defaultable)) (fun _ _ _ hs => (enumAttrStep_ok hs).2.2.2) h⟩

/-! ## `function::build` -/

theorem fnAttrStep_ok {isV : Bool} {st st' : FnAttrSt} {a : G.Attr} (h : fnAttrStep isV st a = .ok st') :
    (∃ v n, a = .fn "address" [.int v] ∧ isV = false ∧ tryUsize v = some n ∧ st' = { st with body := some (.addr n) }) ∨
    (∃ s c, a = .fn "calling_convention" [.str s] ∧ CC.fromStr s = some c ∧ st' = { st with cc := some c }) ∨
    ((∀ v, a ≠ .fn "address" [.int v]) ∧ (∀ s, a ≠ .fn "calling_convention" [.str s]) ∧ st' = st) := by
  unfold fnAttrStep at h
  split at h
  · next v =>
    split at h
    · cases h
    · next hv =>
      split at h
      · next n hn => cases h; exact .inl ⟨v, n, rfl, by simpa using hv, hn, rfl⟩
      · cases h
  · split at h
    · cases h
    · cases h; exact .inr (.inr ⟨by simp, by simp, rfl⟩)
  · next s =>
    split at h
    · next c hc => cases h; exact .inr (.inl ⟨s, c, rfl, hc, rfl⟩)
    · cases h
  · next h1 _ h3 => cases h; exact .inr (.inr ⟨h1, h3, rfl⟩)

namespace C16

def ccStep (acc : Option String) (a : G.Attr) : Option String :=
  match a with | .fn "calling_convention" [.str s] => some s | _ => acc

theorem declaredCC_eq (attrs : List G.Attr) : declaredCC attrs = attrs.foldl ccStep none := rfl

theorem ccStep_miss {a : G.Attr} (h : ∀ s, a ≠ .fn "calling_convention" [.str s]) (acc : Option String) :
    ccStep acc a = acc := by
  unfold ccStep
  split
  · next s => exact absurd rfl (h s)
  · rfl

/-- `o` is the convention named by the declared string `acc`, which is one of the known names -/
def CCRel (o : Option CC) (acc : Option String) : Prop :=
  match acc with
  | none => o = none
  | some s => ∃ c, o = some c ∧ CC.fromStr s = some c

end C16
open C16 (ccStep CCRel)

theorem fnAttrs_ok {isV : Bool} {b0 : Option FBody} {attrs : List G.Attr} {st : FnAttrSt}
    (h : Res.foldlM (fnAttrStep isV) ⟨b0, none⟩ attrs = .ok st) :
    (isV = true → st.body = b0) ∧
    (isV = false → b0 = none → Rel FBody.addr st.body (declInt "address" attrs)) ∧
    CCRel st.cc (C16.declaredCC attrs) := by
  refine ⟨fun hv => ?_, fun hv h0 => ?_, ?_⟩
  · refine Res.foldlM_induct (P := fun st => st.body = b0) rfl (fun st a st' _ hb hs => ?_) h
    rcases fnAttrStep_ok hs with ⟨_, _, _, hf, _⟩ | ⟨_, _, _, _, rfl⟩ | ⟨_, _, rfl⟩
    · rw [hv] at hf; cases hf
    · exact hb
    · exact hb
  · refine Rel.fold (proj := (·.body)) (fun st a st' hs ai hr => ?_) h h0
    rcases fnAttrStep_ok hs with ⟨v, n, rfl, _, hn, rfl⟩ | ⟨s, _, rfl, _, rfl⟩ | ⟨h1, _, rfl⟩
    · exact .hit hn
    · rwa [declStep_fn_ne (by decide)]
    · rwa [declStep_miss h1]
  · rw [C16.declaredCC_eq]
    refine Res.foldlM_rel (R := fun st => CCRel st.cc) (g := ccStep) (fun st a st' acc hr hs => ?_) h
      (show CCRel none none from rfl)
    rcases fnAttrStep_ok hs with ⟨v, n, rfl, _, _, rfl⟩ | ⟨s, c, rfl, hc, rfl⟩ | ⟨_, h2, rfl⟩
    · exact hr
    · exact ⟨c, rfl, hc⟩
    · rwa [C16.ccStep_miss h2]

theorem buildFunction_inv {reg : Registry} {scope : List Path} {isV : Bool} {f : G.Func} {sf : SFunc}
    (h : buildFunction reg scope isV f = .ok sf) :
    ∃ doc st body args ret, G.docOf f.attrs = some doc ∧
      Res.foldlM (fnAttrStep isV) ⟨if isV then some (.vft f.name) else none, none⟩ f.attrs = .ok st ∧
      st.body = some body ∧ Res.mapM' (buildArg reg scope) f.args = .ok args ∧
      (match f.ret with
       | none => ret = none
       | some t => ∃ t', reg.resolveTy scope t = .ok t' ∧ ret = some t') ∧
      sf = { vis := f.vis, name := f.name, doc, body, args, ret,
             cc := match st.cc with
               | some c => c
               | none => if args.any SArg.isSelf then ccDefaultSelf else ccDefaultNoSelf } := by
  unfold buildFunction at h
  split at h
  · cases h
  · next doc hdoc =>
    split at h
    · next st hst =>
      split at h
      · cases h
      · next body hbody =>
        split at h
        · next args hargs =>
          refine ⟨doc, st, body, args, ?_⟩
          cases hret : f.ret with
          | none =>
            simp only [hret] at h
            cases h
            exact ⟨none, hdoc, hst, hbody, hargs, rfl, rfl⟩
          | some t =>
            simp only [hret] at h
            cases hr : reg.resolveTy scope t with
            | ok t' =>
              simp only [hr] at h
              cases h
              exact ⟨some t', hdoc, hst, hbody, hargs, ⟨t', hr, rfl⟩, rfl⟩
            | _ => rw [hr] at h; cases h
        · exact absurd h (Res.cast_ne_ok _ _)
    · exact absurd h (Res.cast_ne_ok _ _)

/-! ## `type_definition::build`: the statement loop -/

/-- the pending field that a field statement makes, before it is checked against the fields seen so far -/
def fieldEntry (reg : Registry) (scope : List Path) (attrs : List G.Attr) (vis : G.Vis) (name : String) (ty : G.Ty) :
    Res (Option Nat × Region) :=
  match G.docOf attrs with
  | none => .err "doc attribute must be a string literal"
  | some doc =>
    match Res.foldlM fieldAttrStep {} attrs with
    | .ok fa =>
      if fa.isBase && name == "_" then .err "a `#[base]` field has no name" else
      match reg.resolveTy scope ty with
      | .ok t => .ok (fa.address, { vis, name := if name != "_" then some name else none, doc, ty := .data t,
                                    isBase := fa.isBase })
      | e => e.cast
    | e => e.cast

def pushPending (acc : StmtAcc) (e : Option Nat × Region) : Res StmtAcc :=
  if e.2.name.isSome && acc.pending.any (fun p => p.2.name == e.2.name) then
    .err "type has more than one field of that name"
  else .ok { acc with pending := acc.pending ++ [e] }

/-- the virtual functions of a `vftable` block, which must be the first statement -/
def vftBlock (reg : Registry) (scope : List Path) (idx : Nat) (attrs : List G.Attr) (fns : List G.Func) :
    Res (List SFunc) :=
  if idx != 0 then .err "vftable field must be the first field"
  else if fns.any (fun f => !(f.args.any fun a => match a with | .named .. => false | _ => true)) then
    .err "virtual function has no `&self` or `&mut self` argument"
  else (vftableSizeAttr attrs).bind fun size => convertVfuncs reg scope size fns

theorem stmtStep_field (reg : Registry) (scope : List Path) (acc : StmtAcc) (idx : Nat) (st : G.Stmt)
    (vis : G.Vis) (name : String) (ty : G.Ty) (hf : st.field = .field vis name ty) :
    stmtStep reg scope acc (idx, st) = (fieldEntry reg scope st.attrs vis name ty).bind (pushPending acc) := by
  unfold stmtStep fieldEntry
  simp only [hf]
  cases G.docOf st.attrs with
  | none => rfl
  | some doc =>
    simp only []
    cases Res.foldlM fieldAttrStep {} st.attrs with
    | ok fa =>
      simp only []
      split
      · rfl
      · cases reg.resolveTy scope ty <;> rfl
    | _ => rfl

theorem stmtStep_vftable (reg : Registry) (scope : List Path) (acc : StmtAcc) (idx : Nat) (st : G.Stmt)
    (fns : List G.Func) (hf : st.field = .vftable fns) :
    stmtStep reg scope acc (idx, st)
      = (vftBlock reg scope idx st.attrs fns).bind fun sfs => .ok { acc with vfns := some sfs } := by
  unfold stmtStep vftBlock
  simp only [hf]
  split
  · rfl
  · split
    · next h2 => rw [if_pos (by exact h2)]; rfl
    · next h2 =>
      rw [if_neg (by exact h2)]
      cases vftableSizeAttr st.attrs with
      | ok size => simp only [Res.bind]; cases convertVfuncs reg scope size fns <;> rfl
      | _ => rfl

theorem fieldEntry_ok {reg : Registry} {scope : List Path} {attrs : List G.Attr} {vis : G.Vis} {name : String}
    {ty : G.Ty} {e : Option Nat × Region} (h : fieldEntry reg scope attrs vis name ty = .ok e) :
    ∃ doc fa t, G.docOf attrs = some doc ∧ Res.foldlM fieldAttrStep {} attrs = .ok fa ∧
      (fa.isBase && name == "_") = false ∧ reg.resolveTy scope ty = .ok t ∧
      e = (fa.address, { vis, name := if name != "_" then some name else none, doc, ty := .data t,
                         isBase := fa.isBase }) := by
  unfold fieldEntry at h
  split at h
  · cases h
  · next doc hdoc =>
    split at h
    · next fa hfa =>
      split at h
      · cases h
      · next hb =>
        split at h
        · next t ht => cases h; exact ⟨doc, fa, t, hdoc, hfa, Bool.eq_false_iff.mpr hb, ht, rfl⟩
        · exact absurd h (Res.cast_ne_ok _ _)
    · exact absurd h (Res.cast_ne_ok _ _)

theorem pushPending_ok {acc acc' : StmtAcc} {e : Option Nat × Region} (h : pushPending acc e = .ok acc') :
    (e.2.name.isSome && acc.pending.any (fun p => p.2.name == e.2.name)) = false ∧
    acc' = { acc with pending := acc.pending ++ [e] } := by
  unfold pushPending at h
  split at h
  · cases h
  · next hdup => cases h; exact ⟨Bool.eq_false_iff.mpr hdup, rfl⟩

theorem vftBlock_ok {reg : Registry} {scope : List Path} {idx : Nat} {attrs : List G.Attr} {fns : List G.Func}
    {sfs : List SFunc} (h : vftBlock reg scope idx attrs fns = .ok sfs) :
    idx = 0 ∧ (∀ f ∈ fns, C13.hasReceiver f = true) ∧
    ∃ size, vftableSizeAttr attrs = .ok size ∧ convertVfuncs reg scope size fns = .ok sfs := by
  unfold vftBlock at h
  split at h
  · cases h
  · next hidx =>
    split at h
    · cases h
    · next hany =>
      refine ⟨by simpa using hidx, fun f hfm => ?_, Res.bind_eq_ok.mp h⟩
      have := List.any_eq_false.mp (Bool.eq_false_iff.mpr hany) f hfm
      simp only [Bool.not_eq_true, Bool.not_eq_false'] at this
      exact this

theorem stmtStep_ok {reg : Registry} {scope : List Path} {acc acc' : StmtAcc} {idx : Nat} {st : G.Stmt}
    (h : stmtStep reg scope acc (idx, st) = .ok acc') :
    (∃ vis name ty doc fa t ident, st.field = .field vis name ty ∧ G.docOf st.attrs = some doc ∧
      Res.foldlM fieldAttrStep {} st.attrs = .ok fa ∧ (fa.isBase && name == "_") = false ∧
      reg.resolveTy scope ty = .ok t ∧ ident = (if name != "_" then some name else none) ∧
      (ident.isSome && acc.pending.any (fun p => p.2.name == ident)) = false ∧
      acc' = { acc with pending := acc.pending ++
        [(fa.address, { vis, name := ident, doc, ty := .data t, isBase := fa.isBase })] }) ∨
    (∃ fns size sfs, st.field = .vftable fns ∧ idx = 0 ∧ (∀ f ∈ fns, C13.hasReceiver f = true) ∧
      vftableSizeAttr st.attrs = .ok size ∧ convertVfuncs reg scope size fns = .ok sfs ∧
      acc' = { acc with vfns := some sfs }) := by
  cases hf : st.field with
  | field vis name ty =>
    rw [stmtStep_field reg scope acc idx st vis name ty hf] at h
    obtain ⟨e, he, hp⟩ := Res.bind_eq_ok.mp h
    obtain ⟨doc, fa, t, hdoc, hfa, hb, ht, rfl⟩ := fieldEntry_ok he
    obtain ⟨hdup, rfl⟩ := pushPending_ok hp
    exact .inl ⟨vis, name, ty, doc, fa, t, _, rfl, hdoc, hfa, hb, ht, rfl, hdup, rfl⟩
  | vftable fns =>
    rw [stmtStep_vftable reg scope acc idx st fns hf] at h
    obtain ⟨sfs, hb, hs⟩ := Res.bind_eq_ok.mp h
    obtain ⟨hidx, hrecv, size, hsize, hsfs⟩ := vftBlock_ok hb
    cases hs
    exact .inr ⟨fns, size, sfs, rfl, hidx, hrecv, hsize, hsfs, rfl⟩

namespace CaseLift

/-- what a field statement contributes to the pending fields: its visibility, its name (none for `_`), its docs, its
    resolved type, `#[base]` and `#[address]` -/
def FieldOf (reg : Registry) (scope : List Path) (st : G.Stmt) (q : Option Nat × Region) : Prop :=
  ∃ (vis : Vis) (name : String) (ty : G.Ty) (fa : FieldAttrs) (t : DTy),
    st.field = .field vis name ty ∧ G.docOf st.attrs = some q.2.doc ∧ Res.foldlM fieldAttrStep {} st.attrs = .ok fa ∧
    reg.resolveTy scope ty = .ok t ∧
    q = (fa.address, { vis := vis, name := if name != "_" then some name else none, doc := q.2.doc, ty := .data t,
                       isBase := fa.isBase })

theorem stmts_pending_src {reg : Registry} {scope : List Path} {stmts : List G.Stmt} {sa : StmtAcc}
    (h : Res.foldlM (stmtStep reg scope) {} (stmts.zipIdx.map fun q => (q.2, q.1)) = .ok sa) :
    ∀ q ∈ sa.pending, ∃ st ∈ stmts, FieldOf reg scope st q := by
  refine Res.foldlM_induct (P := fun a => ∀ q ∈ a.pending, ∃ st ∈ stmts, FieldOf reg scope st q)
    (fun q hq => by cases hq) ?_ h
  intro a e a' he ha hstep q hq
  obtain ⟨x, hx, rfl⟩ := List.mem_map.mp he
  rcases stmtStep_ok hstep with ⟨vis, name, ty, doc, fa, t, _, hf, hdoc, hfa, _, ht, rfl, _, rfl⟩ | ⟨_, _, _, _, _, _, _, _, rfl⟩
  · rcases List.mem_append.mp hq with h1 | h1
    · exact ha q h1
    · rw [List.mem_singleton] at h1
      subst h1
      exact ⟨x.1, (List.mem_zipIdx hx).2.2 ▸ List.getElem_mem _, vis, name, ty, fa, t, hf, hdoc, hfa, ht, rfl⟩
  · exact ha q hq

end CaseLift

namespace C12

def PendOk (acc : StmtAcc) : Prop := ∀ p ∈ acc.pending, p.2.isBase = true → p.2.name.isSome = true

theorem stmtStep_pend (reg : Registry) (scope : List Path) (acc acc' : StmtAcc) (ist : Nat × G.Stmt)
    (ha : PendOk acc) (h : stmtStep reg scope acc ist = .ok acc') : PendOk acc' := by
  obtain ⟨idx, st⟩ := ist
  rcases stmtStep_ok h with ⟨vis, name, ty, doc, fa, t, _, _, _, _, hbase, _, rfl, _, rfl⟩ | ⟨_, _, _, _, _, _, _, _, rfl⟩
  · intro p hp hb
    rcases List.mem_append.mp hp with hp | hp
    · exact ha p hp hb
    · rw [List.mem_singleton.mp hp] at hb ⊢
      simp only at hb
      simp only [hb, Bool.true_and, beq_eq_false_iff_ne] at hbase
      simp [hbase]
  · exact ha

end C12

def C17.renamed (off : Nat) (r : Region) : Region :=
  match r.name with
  | some _ => r
  | none => { vis := .priv, name := some (fmtPaddingField (toHexLower off)), doc := none, ty := r.ty, isBase := false }

/-- naming goes region by region: each placed region stands for its source, or for a private `[u8; n]` padding
    region, and an unnamed one is renamed after its offset -/
theorem nameRegions_ok {reg : Registry} {off : Nat} {placed : List (Layout.Placed Region)} {regions : List Region}
    (h : nameRegions reg off placed = .ok regions) :
    regions.length = placed.length ∧
    ∀ k (hk : k < placed.length) (hk' : k < regions.length), ∃ r o,
      (placed[k].src = some r ∨ placed[k].src = none ∧ ∃ t, reg.paddingType placed[k].size = .ok t ∧
        r = { vis := .priv, name := none, doc := none, ty := .data t, isBase := false }) ∧
      regions[k] = C17.renamed o r := by
  induction placed generalizing off regions with
  | nil => cases h; exact ⟨rfl, fun k hk => absurd hk (Nat.not_lt_zero k)⟩
  | cons p ps ih =>
    unfold nameRegions at h
    split at h
    · next r hr =>
      simp only at h
      split at h
      · next rs hrs =>
        cases h
        obtain ⟨i1, i2⟩ := ih hrs
        refine ⟨by rw [List.length_cons, List.length_cons, i1], fun k hk hk' => ?_⟩
        cases k with
        | succ k => exact i2 k _ _
        | zero =>
          refine ⟨r, off, ?_, rfl⟩
          split at hr
          · next r0 hsrc => cases hr; exact .inl hsrc
          · next hsrc =>
            split at hr
            · next t ht => cases hr; exact .inr ⟨hsrc, t, ht, rfl⟩
            · exact absurd hr (Res.cast_ne_ok _ _)
      · next hne => exact absurd h (hne _)
    · exact absurd h (Res.cast_ne_ok _ _)

/-! ## `get_region_name_and_type_definition` -/

/-- an answer: the region is a named field whose type is a registered path; `none` while that item is unresolved,
    else the field's name and the struct the item resolved to -/
theorem regionNameAndTypeDef_ok {reg : Registry} {r : Region} {x : Option (String × TypeDefn)}
    (h : regionNameAndTypeDef reg r = .ok x) :
    ∃ name p item, r.name = some name ∧ r.ty = .data (.raw p) ∧ reg.get p = some item ∧
      ((x = none ∧ item.resolved? = none) ∨
        ∃ res td, item.resolved? = some res ∧ res.inner = .type td ∧ x = some (name, td)) := by
  unfold regionNameAndTypeDef at h
  split at h
  · cases h
  · next name hname =>
    split at h
    · next p hty =>
      split at h
      · cases h
      · next item hg =>
        refine ⟨name, p, item, hname, hty, hg, ?_⟩
        split at h
        · next hres => cases h; exact .inl ⟨rfl, hres⟩
        · next res hres =>
          split at h
          · next td hin => cases h; exact .inr ⟨res, td, hres, hin, rfl⟩
          · cases h
    · cases h

/-! ## `resolve_regions`, `type_definition::build`: the stages as equations

A stage gives a new state and an answer; `bindS` and `liftS` continue after a stage that may or may not touch the
state.  `resolveRegions_head` and `buildType_btOf` write the two functions in these terms, so that a proof about two
runs rewrites both sides, and a proof about an accepted run takes the stages apart one by one (`bindS_ok`,
`liftS_ok`). -/
namespace C20
open Layout

def bindS {α β} (x : State × Res α) (k : State → α → Res β) : State × Res β :=
  match x with
  | (s1, .ok a) => (s1, k s1 a)
  | (s1, e) => (s1, e.cast)

theorem bindS_mk {α β} (s1 : State) (x : Res α) (k : State → α → Res β) :
    bindS (s1, x) k = (s1, x.bind (k s1)) := by
  cases x <;> rfl

theorem bindS_ok {α β} {x : State × Res α} {k : State → α → Res β} {s1 : State} {b : β}
    (h : bindS x k = (s1, .ok b)) : ∃ a, x = (s1, .ok a) ∧ k s1 a = .ok b := by
  obtain ⟨s', r⟩ := x
  cases r with
  | ok a =>
    obtain ⟨rfl, hk⟩ := Prod.mk.inj h
    exact ⟨a, rfl, hk⟩
  | _ => exact absurd (Prod.mk.inj h).2 (Res.cast_ne_ok _ _)

def liftS {α β} (s : State) (x : Res α) (k : α → State × Res β) : State × Res β :=
  match x with
  | .ok a => k a
  | e => (s, e.cast)

theorem liftS_ok {α β} {s : State} {x : Res α} {k : α → State × Res β} {s1 : State} {b : β}
    (h : liftS s x k = (s1, .ok b)) : ∃ a, x = .ok a ∧ k a = (s1, .ok b) := by
  cases x with
  | ok a => exact ⟨a, rfl, h⟩
  | _ => exact absurd (Prod.mk.inj h).2 (Res.cast_ne_ok _ _)

abbrev RROut := List Region × Option Vft × Nat × List (Placed Region)

/-- nothing is laid out before the size of the first base is known -/
def baseGate {α} (s : State) (fb : Option Region) (k : State × Res α) : State × Res α :=
  match (match fb with | some b => b.ty.size s.reg | none => .ok (some 0)) with
  | .ok none => (s, .defer)
  | .defer => (s, .defer)
  | .err m => (s, .err m)
  | .panic m => (s, .panic m)
  | .ok (some _) => k

theorem bindS_baseGate {α β} (s : State) (fb : Option Region) (x : State × Res α) (k : State → α → Res β) :
    bindS (baseGate s fb x) k = baseGate s fb (bindS x k) := by
  unfold baseGate
  cases (match fb with | some b => b.ty.size s.reg | none => Res.ok (some 0)) with
  | ok o => cases o <;> rfl
  | _ => rfl

theorem baseGate_ok {α} {s : State} {fb : Option Region} {k : State × Res α} {s1 : State} {a : α}
    (h : baseGate s fb k = (s1, .ok a)) : k = (s1, .ok a) := by
  unfold baseGate at h
  split at h
  · cases h
  · cases h
  · cases h
  · cases h
  · exact h

/-- `resolve_regions` up to the vftable: the first base must be resolved, then `vftable::build` -/
def rrHead (s : State) (owner : Path) (vis : Vis) (fb : Option Region) (vfns : Option (List SFunc)) :
    State × Res (Option Vft × Option Region) :=
  baseGate s fb (buildVftable s owner vis fb vfns)

/-- … and from there: the layout and the names of the regions, which depend on the declared size and on
    the addresses of the pending fields -/
def rrTail (reg : Registry) (pending : List (Option Nat × Region)) (target : Option Nat)
    (vft : Option Vft) (vregion : Option Region) : Res RROut :=
  match Layout.resolve (vregion.map (toPField reg none)) (pending.map fun p => toPField reg p.1 p.2) target with
  | .ok (placed, size) =>
    match nameRegions reg 0 placed with
    | .ok regions => .ok (regions, vft, size, placed)
    | e => e.cast
  | e => e.cast

theorem rrTail_ok {reg : Registry} {pending : List (Option Nat × Region)} {target : Option Nat} {vft vft' : Option Vft}
    {vregion : Option Region} {regions : List Region} {size : Nat} {placed : List (Placed Region)}
    (h : rrTail reg pending target vft vregion = .ok (regions, vft', size, placed)) :
    vft' = vft ∧
    Layout.resolve (vregion.map (toPField reg none)) (pending.map fun p => toPField reg p.1 p.2) target
      = .ok (placed, size) ∧
    nameRegions reg 0 placed = .ok regions := by
  unfold rrTail at h
  split at h
  · next placed' size' hr =>
    split at h
    · next regions' hn => cases h; exact ⟨rfl, hr, hn⟩
    · exact absurd h (Res.cast_ne_ok _ _)
  · exact absurd h (Res.cast_ne_ok _ _)

theorem resolveRegions_head (s : State) (owner : Path) (vis : Vis) (target : Option Nat)
    (pending : List (Option Nat × Region)) (vfns : Option (List SFunc)) :
    resolveRegions s owner vis target pending vfns
      = bindS (rrHead s owner vis ((pending.map (·.2)).find? (·.isBase)) vfns)
          (fun s1 v => rrTail s1.reg pending target v.1 v.2) := by
  have fin : ∀ fb, (match buildVftable s owner vis fb vfns with
      | (s1, .ok (vft, vregion)) => (s1, rrTail s1.reg pending target vft vregion)
      | (s1, e) => (s1, e.cast))
      = bindS (buildVftable s owner vis fb vfns) (fun s1 v => rrTail s1.reg pending target v.1 v.2) := by
    intro fb
    cases buildVftable s owner vis fb vfns with
    | mk s1 res => cases res <;> rfl
  unfold rrHead
  rw [bindS_baseGate]
  unfold resolveRegions baseGate
  simp only []
  cases (pending.map (·.2)).find? (·.isBase) with
  | none => exact fin none
  | some b =>
    simp only []
    cases b.ty.size s.reg with
    | ok o =>
      cases o with
      | none => rfl
      | some n => exact fin (some b)
    | _ => rfl

/-- what `type_definition::build` does after `resolve_regions` has answered -/
def btAfter (s1 : State) (path : Path) (doc : Option String) (ta : TypeAttrs) (x : RROut) : Res Resolved :=
  match s1.moduleFor path with
  | none => .panic "get_module_for_path(..).unwrap()"
  | some module1 =>
    let used0 : List String := match x.2.1 with | some v => v.fns.map (·.name) | none => []
    match injectBases s1.reg x.1 { fns := [], used := used0 } with
    | .ok acc1 =>
      match addImplFns s1.reg module1.scope (module1.implFor path) acc1 with
      | .ok acc2 =>
        match (if ta.defaultable then checkDefaultable s1.reg x.1 else .ok ()) with
        | .ok () =>
          match Layout.alignCheck s1.reg.ps ta.packed ta.align x.2.2.2 x.2.2.1 with
          | .ok alignment =>
            .ok { size := x.2.2.1, align := alignment,
                  inner := .type { regions := x.1, doc, fns := acc2.fns, vft := x.2.1, singleton := ta.singleton,
                                   copyable := ta.copyable, cloneable := ta.cloneable,
                                   defaultable := ta.defaultable, packed := ta.packed } }
          | e => e.cast
        | e => e.cast
      | e => e.cast
    | e => e.cast

theorem btAfter_ok {s1 : State} {path : Path} {doc : Option String} {ta : TypeAttrs} {regions : List Region}
    {vft : Option Vft} {size : Nat} {placed : List (Placed Region)} {r : Resolved}
    (h : btAfter s1 path doc ta (regions, vft, size, placed) = .ok r) :
    ∃ module1 acc1 acc2 alignment, s1.moduleFor path = some module1 ∧
      injectBases s1.reg regions
        { fns := [], used := match vft with | some v => v.fns.map (·.name) | none => [] } = .ok acc1 ∧
      addImplFns s1.reg module1.scope (module1.implFor path) acc1 = .ok acc2 ∧
      (ta.defaultable = true → checkDefaultable s1.reg regions = .ok ()) ∧
      Layout.alignCheck s1.reg.ps ta.packed ta.align placed size = .ok alignment ∧
      r = { size, align := alignment,
            inner := .type { regions, doc, fns := acc2.fns, vft, singleton := ta.singleton, copyable := ta.copyable,
                             cloneable := ta.cloneable, defaultable := ta.defaultable, packed := ta.packed } } := by
  unfold btAfter at h
  split at h
  · cases h
  · next module1 hmod1 =>
    simp only [] at h
    split at h
    · next acc1 hacc1 =>
      split at h
      · next acc2 hacc2 =>
        split at h
        · next hck =>
          split at h
          · next alignment hal =>
            cases h
            exact ⟨module1, acc1, acc2, alignment, hmod1, hacc1, hacc2,
              fun hdef => by rw [if_pos hdef] at hck; exact hck, hal, rfl⟩
          · exact absurd h (Res.cast_ne_ok _ _)
        · exact absurd h (Res.cast_ne_ok _ _)
      · exact absurd h (Res.cast_ne_ok _ _)
    · exact absurd h (Res.cast_ne_ok _ _)

/-- `type_definition::build` after the attribute and statement loops, with the declared size `target` -/
def btCore (s : State) (path : Path) (vis : Vis) (doc : Option String) (ta : TypeAttrs) (target : Option Nat)
    (sa : StmtAcc) : State × Res Resolved :=
  bindS (resolveRegions s path vis target sa.pending sa.vfns) (fun s1 x => btAfter s1 path doc ta x)

abbrev stmtFold (reg : Registry) (scope : List Path) (stmts : List G.Stmt) : Res StmtAcc :=
  Res.foldlM (stmtStep reg scope) {} (stmts.zipIdx.map fun p => (p.2, p.1))

/-- `type_definition::build`, stage by stage -/
def btOf (s : State) (path : Path) (vis : Vis) (td : G.TypeDef) : State × Res Resolved :=
  match s.moduleFor path with
  | none => (s, .err "failed to get module for path")
  | some module =>
    match G.docOf td.attrs with
    | none => (s, .err "doc attribute must be a string literal")
    | some doc =>
      liftS s (Res.foldlM typeAttrStep {} td.attrs) fun ta =>
        liftS s (stmtFold s.reg module.scope td.stmts) fun sa => btCore s path vis doc ta ta.targetSize sa

theorem buildType_btOf (s : State) (path : Path) (vis : Vis) (td : G.TypeDef) :
    buildType s path vis td = btOf s path vis td := by
  unfold buildType btOf
  cases s.moduleFor path with
  | none => rfl
  | some module =>
    cases G.docOf td.attrs with
    | none => rfl
    | some doc =>
      simp only []
      cases Res.foldlM typeAttrStep {} td.attrs with
      | ok ta =>
        simp only [liftS, stmtFold]
        cases Res.foldlM (stmtStep s.reg module.scope) {} (td.stmts.zipIdx.map fun p => (p.2, p.1)) with
        | ok sa =>
          simp only [btCore]
          cases resolveRegions s path vis ta.targetSize sa.pending sa.vfns with
          | mk s1 res =>
            cases res with
            | ok x => obtain ⟨regions, vft, size, placed⟩ := x; rfl
            | _ => rfl
        | _ => rfl
      | _ => rfl

end C20

/-! ## `resolve_regions`, `type_definition::build`: an accepted run -/

open Layout in
/-- an accepted `resolve_regions`: `vftable::build` answered for the first `#[base]` field, the layout core placed
    the pointer region it asked for and the pending fields, and the placed regions were named -/
theorem resolveRegions_ok {s s1 : State} {owner : Path} {vis : Vis} {target : Option Nat}
    {pending : List (Option Nat × Region)} {vfns : Option (List SFunc)} {regions : List Region} {vft : Option Vft}
    {size : Nat} {placed : List (Placed Region)}
    (h : resolveRegions s owner vis target pending vfns = (s1, .ok (regions, vft, size, placed))) :
    ∃ vregion : Option Region,
      buildVftable s owner vis ((pending.map (·.2)).find? (·.isBase)) vfns = (s1, .ok (vft, vregion)) ∧
      resolve (vregion.map (toPField s1.reg none)) (pending.map fun p => toPField s1.reg p.1 p.2) target
        = .ok (placed, size) ∧
      nameRegions s1.reg 0 placed = .ok regions := by
  rw [C20.resolveRegions_head] at h
  obtain ⟨⟨vft', vregion⟩, hv, ht⟩ := C20.bindS_ok h
  obtain ⟨rfl, hr, hn⟩ := C20.rrTail_ok ht
  exact ⟨vregion, C20.baseGate_ok hv, hr, hn⟩

namespace CaseLift
open Layout

/-- an accepted `type_definition::build` of `d` at `p` in state `s` (post-state `s1`, result `r` with definition `td`),
    taken apart: the stored module before and after, the documentation, the attribute loop, the statement loop,
    `resolve_regions` and in it `vftable::build`, the layout core and the naming of the placed regions, the alignment
    block, `injectBases`, the function block of the type, the defaultable check, the flags -/
structure TypeBuild (s s1 : State) (p : Path) (vis : Vis) (d : G.TypeDef) (r : Resolved) (td : TypeDefn)
    (module module1 : Mod) (ta : TypeAttrs) (sa : StmtAcc) (vptr : Option Region) (placed : List (Placed Region))
    (acc1 acc2 : InjAcc) : Prop where
  mod : s.moduleFor p = some module
  mod1 : s1.moduleFor p = some module1
  doc : G.docOf d.attrs = some td.doc
  attrs : Res.foldlM typeAttrStep {} d.attrs = .ok ta
  stmts : Res.foldlM (stmtStep s.reg module.scope) {} (d.stmts.zipIdx.map fun q => (q.2, q.1)) = .ok sa
  regions : resolveRegions s p vis ta.targetSize sa.pending sa.vfns = (s1, .ok (td.regions, td.vft, r.size, placed))
  vft : buildVftable s p vis ((sa.pending.map (·.2)).find? (·.isBase)) sa.vfns = (s1, .ok (td.vft, vptr))
  layout : resolve (vptr.map (toPField s1.reg none)) (sa.pending.map fun q => toPField s1.reg q.1 q.2) ta.targetSize
    = .ok (placed, r.size)
  named : nameRegions s1.reg 0 placed = .ok td.regions
  align : alignCheck s1.reg.ps td.packed ta.align placed r.size = .ok r.align
  inject : injectBases s1.reg td.regions
    { fns := [], used := match td.vft with | some v => v.fns.map (·.name) | none => [] } = .ok acc1
  impl : addImplFns s1.reg module1.scope (module1.implFor p) acc1 = .ok acc2
  fns : td.fns = acc2.fns
  checked : td.defaultable = true → checkDefaultable s1.reg td.regions = .ok ()
  singleton : td.singleton = ta.singleton
  copyable : td.copyable = ta.copyable
  cloneable : td.cloneable = ta.cloneable
  defaultable : td.defaultable = ta.defaultable
  packed : td.packed = ta.packed

theorem buildType_ok_inv {s s1 : State} {p : Path} {vis : Vis} {d : G.TypeDef} {r : Resolved}
    (h : buildType s p vis d = (s1, .ok r)) :
    ∃ td module module1 ta sa vptr placed acc1 acc2, r.inner = .type td ∧
      TypeBuild s s1 p vis d r td module module1 ta sa vptr placed acc1 acc2 := by
  rw [C20.buildType_btOf] at h
  unfold C20.btOf at h
  split at h
  · cases h
  · next module hmod =>
    split at h
    · cases h
    · next doc hdoc =>
      obtain ⟨ta, hta, h⟩ := C20.liftS_ok h
      obtain ⟨sa, hsa, h⟩ := C20.liftS_ok h
      obtain ⟨⟨regions, vft, size, placed⟩, hrr, ha⟩ := C20.bindS_ok h
      obtain ⟨module1, acc1, acc2, alignment, hmod1, hacc1, hacc2, hck, hal, rfl⟩ := C20.btAfter_ok ha
      obtain ⟨vregion, hb, hr, hn⟩ := resolveRegions_ok hrr
      exact ⟨_, module, module1, ta, sa, vregion, placed, acc1, acc2, rfl, hmod, hmod1, hdoc, hta, hsa, hrr, hb, hr, hn,
        hal, hacc1, hacc2, rfl, hck, rfl, rfl, rfl, rfl, rfl⟩

theorem TypeBuild.of_ok {s s1 : State} {p : Path} {vis : Vis} {d : G.TypeDef} {r : Resolved} {td : TypeDefn}
    (h : buildType s p vis d = (s1, .ok r)) (hin : r.inner = .type td) :
    ∃ module module1 ta sa vptr placed acc1 acc2,
      TypeBuild s s1 p vis d r td module module1 ta sa vptr placed acc1 acc2 := by
  obtain ⟨td', module, module1, ta, sa, vptr, placed, acc1, acc2, hin', B⟩ := buildType_ok_inv h
  rw [hin] at hin'
  cases hin'
  exact ⟨module, module1, ta, sa, vptr, placed, acc1, acc2, B⟩

end CaseLift

namespace C01
open Layout

theorem resolveRegions_inv (s s1 : State) (owner : Path) (vis : Vis) (target : Option Nat)
    (pending : List (Option Nat × Region)) (vfns : Option (List SFunc))
    (regions : List Region) (vft : Option Vft) (size : Nat) (placed : List (Placed Region))
    (h : resolveRegions s owner vis target pending vfns = (s1, .ok (regions, vft, size, placed))) :
    ∃ vregion : Option Region,
      resolve (vregion.map (toPField s1.reg none)) (pending.map fun p => toPField s1.reg p.1 p.2) target
        = .ok (placed, size) ∧
      nameRegions s1.reg 0 placed = .ok regions :=
  let ⟨vregion, _, hr, hn⟩ := resolveRegions_ok h
  ⟨vregion, hr, hn⟩

theorem buildType_inv (s s1 : State) (path : Path) (vis : Vis) (d : G.TypeDef) (r : Resolved)
    (h : buildType s path vis d = (s1, .ok r)) :
    ∃ (module : Mod) (ta : TypeAttrs) (sa : StmtAcc) (regions : List Region) (vft : Option Vft)
      (placed : List (Placed Region)) (td : TypeDefn),
      Res.foldlM (stmtStep s.reg module.scope) {} (d.stmts.zipIdx.map fun p => (p.2, p.1)) = .ok sa ∧
      resolveRegions s path vis ta.targetSize sa.pending sa.vfns = (s1, .ok (regions, vft, r.size, placed)) ∧
      alignCheck s1.reg.ps ta.packed ta.align placed r.size = .ok r.align ∧
      r.inner = .type td ∧ td.regions = regions ∧ td.packed = ta.packed :=
  let ⟨td, module, _, ta, sa, _, placed, _, _, hin, B⟩ := CaseLift.buildType_ok_inv h
  ⟨module, ta, sa, td.regions, td.vft, placed, td, B.stmts, B.regions, B.packed ▸ B.align, hin, rfl, B.packed⟩

end C01

/-! ## `enum_definition::build` -/
namespace C08

/-- the `#[default]` loop of one case: at most one marker, which sets the index -/
theorem defaultLoop (k : Nat) (attrs : List G.Attr) (di di' : Option Nat)
    (h : Res.foldlM (fun (di : Option Nat) (a : G.Attr) =>
        match a with
        | .ident "default" => if di.isSome then Res.err "enum has multiple default variants" else .ok (some k)
        | _ => .ok di) di attrs = .ok di') :
    if attrs.any (· == .ident "default") then di = none ∧ di' = some k else di' = di := by
  induction attrs generalizing di with
  | nil => rw [Res.foldlM_nil_ok.mp h]; exact rfl
  | cons a as ih =>
    obtain ⟨di1, h1, h2⟩ := Res.foldlM_cons_ok.mp h
    have ih1 := ih di1 h2
    split at h1
    · split at h1
      · cases h1
      · next hn =>
        cases h1
        have hd : di = none := by simpa using hn
        simp only [List.any_cons, beq_self_eq_true, Bool.true_or, if_true]
        split at ih1
        · exact absurd ih1.1 nofun
        · exact ⟨hd, ih1⟩
    · next hne =>
      cases h1
      rwa [List.any_cons, beq_eq_false_iff_ne.mpr hne, Bool.false_or]

theorem enumStmtStep_ok (range : Int × Int) (acc acc' : EnumAcc) (st : G.EnumStmt)
    (h : enumStmtStep range acc st = .ok acc') :
    ∃ value, (st.expr = some (.int value) ∨ (st.expr = none ∧ acc.last = some value)) ∧
      range.1 ≤ value ∧ value ≤ range.2 ∧
      acc'.fields = acc.fields ++ [(st.name, value)] ∧
      acc'.last = (if value + 1 > isizeMax then none else some (value + 1)) ∧
      (if hasMarker st then acc.defaultIdx = none ∧ acc'.defaultIdx = some acc.fields.length
       else acc'.defaultIdx = acc.defaultIdx) ∧
      acc.fields.any (fun nv => nv.1 == st.name || nv.2 == value) = false := by
  unfold enumStmtStep at h
  split at h
  · next value hv =>
    refine ⟨value, ?_, ?_⟩
    · split at hv
      · next he => cases hv; exact .inl he
      · cases hv
      · next he =>
        split at hv
        · next hl => cases hv; exact .inr ⟨he, hl⟩
        · cases hv
    · split at h
      · cases h
      · next hr =>
        split at h
        · cases h
        · next hdup =>
          simp only at h
          split at h
          · next di hdi =>
            cases h
            have hd := defaultLoop _ _ _ _ hdi
            simp only [Bool.or_eq_true, decide_eq_true_eq, not_or, Int.not_lt] at hr
            refine ⟨hr.1, by omega, rfl, rfl, ?_, Bool.eq_false_iff.mpr hdup⟩
            simpa [hasMarker] using hd
          · exact absurd h (Res.cast_ne_ok _ _)
  · exact absurd h (Res.cast_ne_ok _ _)

end C08

namespace CaseLift

/-- an accepted `enum_definition::build` of `d` at `p` in state `s` (result `r` with definition `ed`), taken apart: the
    stored module, the base type resolved in its scope – a built-in integer type, whose size and alignment are the
    result's –, the statement loop over at least one case, the attribute loop, the documentation, the flags;
    `#[defaultable]` is declared exactly when a case is marked `#[default]` -/
structure EnumBuild (s : State) (p : Path) (d : G.EnumDef) (r : Resolved) (ed : EnumDefn) (module : Mod)
    (rng : Int × Int) (acc : EnumAcc) (ea : EnumAttrs) : Prop where
  mod : s.moduleFor p = some module
  ty : s.reg.resolveTy module.scope d.ty = .ok ed.ty
  range : intTypeRange ed.ty = some rng
  size : DTy.size s.reg ed.ty = .ok (some r.size)
  align : DTy.align s.reg ed.ty = some r.align
  nonempty : d.stmts.isEmpty = false
  stmts : Res.foldlM (enumStmtStep rng) {} d.stmts = .ok acc
  attrs : Res.foldlM enumAttrStep {} d.attrs = .ok ea
  doc : G.docOf d.attrs = some ed.doc
  marked : ea.defaultable = acc.defaultIdx.isSome
  fields : ed.fields = acc.fields
  singleton : ed.singleton = ea.singleton
  copyable : ed.copyable = ea.copyable
  cloneable : ed.cloneable = ea.cloneable
  defaultable : ed.defaultable = ea.defaultable
  defaultIdx : ed.defaultIdx = acc.defaultIdx

theorem buildEnum_ok_inv {s : State} {p : Path} {d : G.EnumDef} {r : Resolved} (h : buildEnum s p d = .ok r) :
    ∃ ed module rng acc ea, r.inner = .enum ed ∧ EnumBuild s p d r ed module rng acc ea := by
  unfold buildEnum at h
  split at h
  · cases h
  · rename_i module hmod
    split at h
    · rename_i ty hty
      split at h
      · cases h
      · rename_i size hsize
        split at h
        · cases h
        · rename_i range hrange
          split at h
          · cases h
          · rename_i hne
            split at h
            · rename_i acc hacc
              split at h
              · cases h
              · rename_i doc hdoc
                split at h
                · rename_i ea hea
                  split at h
                  · cases h
                  · rename_i hc1
                    split at h
                    · cases h
                    · rename_i hc2
                      split at h
                      · cases h
                      · rename_i al hal
                        cases h
                        refine ⟨_, module, range, acc, ea, rfl, hmod, hty, hrange, hsize, hal, Bool.eq_false_iff.mpr hne,
                          hacc, hea, hdoc, ?_, rfl, rfl, rfl, rfl, rfl, rfl⟩
                        cases hd : ea.defaultable <;> cases hi : acc.defaultIdx <;> simp [hd, hi] at hc1 hc2 ⊢
                · exact absurd h (Res.cast_ne_ok _ _)
            · exact absurd h (Res.cast_ne_ok _ _)
      · exact absurd h (Res.cast_ne_ok _ _)
    · exact absurd h (Res.cast_ne_ok _ _)

theorem EnumBuild.of_ok {s : State} {p : Path} {d : G.EnumDef} {r : Resolved} {ed : EnumDefn}
    (h : buildEnum s p d = .ok r) (hin : r.inner = .enum ed) :
    ∃ module rng acc ea, EnumBuild s p d r ed module rng acc ea := by
  obtain ⟨ed', module, rng, acc, ea, hin', E⟩ := buildEnum_ok_inv h
  rw [hin] at hin'
  cases hin'
  exact ⟨module, rng, acc, ea, E⟩

end CaseLift

end PyxisVerif

namespace PyxisVerif.C15

theorem declInt_mem {name : String} {attrs : List G.Attr} {a : Int} (h : declInt name attrs = some a) :
    G.Attr.fn name [.int a] ∈ attrs := by
  have : ∀ acc, attrs.foldl (declStep name) acc = some a → acc = some a ∨ G.Attr.fn name [.int a] ∈ attrs := by
    clear h
    induction attrs with
    | nil => exact fun acc h => .inl h
    | cons x xs ih =>
      intro acc h
      rcases ih _ h with h1 | h1
      · unfold declStep at h1
        split at h1
        · split at h1
          · next hn => cases h1; exact .inr (hn ▸ List.mem_cons_self)
          · exact .inl h1
        · exact .inl h1
      · exact .inr (List.mem_cons_of_mem _ h1)
  exact (this none (declInt_eq name attrs ▸ h)).resolve_left nofun

/-- a converted attribute value is the `usize` of a literal of the list, so a bound on those literals bounds it -/
theorem Rel.le {name : String} {attrs : List G.Attr} {o : Option Nat} {B : Int} (hr : Rel id o (declInt name attrs))
    (hb : ∀ args z, G.Attr.fn name args ∈ attrs → G.Expr.int z ∈ args → z ≤ B) (x : Nat) (hx : o = some x) :
    (x : Int) ≤ B := by
  unfold Rel at hr
  split at hr
  · next a ha =>
    obtain ⟨h0, rfl⟩ := hr
    cases hx
    have := hb _ a (declInt_mem ha) List.mem_cons_self
    simp only [id]
    omega
  · rw [hr] at hx; cases hx

theorem vftableSizeAttr_rel {attrs : List G.Attr} {o : Option Nat} (h : vftableSizeAttr attrs = .ok o) :
    Rel id o (declInt "size" attrs) := by
  refine Rel.fold (proj := id) (fun st a st' hs ai hr => ?_) h rfl
  split at hs
  · split at hs
    · next n hn => cases hs; exact .hit hn
    · cases hs
  · next hm => cases hs; rwa [declStep_miss hm]

theorem xtypeAttrs_align {attrs : List G.Attr} {xa : XTypeAttrs} (h : Res.foldlM xtypeAttrStep {} attrs = .ok xa) :
    Rel id xa.align (declInt "align" attrs) := by
  refine Rel.fold (proj := (·.align)) (fun st a st' hs ai hr => ?_) h rfl
  unfold xtypeAttrStep at hs
  split at hs
  · split at hs
    · cases hs; rwa [declStep_fn_ne (by decide)]
    · cases hs
  · split at hs
    · next n hn => cases hs; exact .hit hn
    · cases hs
  · next h1 h2 => cases hs; rwa [declStep_miss h2]

end PyxisVerif.C15
