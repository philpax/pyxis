import PyxisVerif.Lemmas.TypeBuild
/-!
# From per-item theorems to every accepted case: the provenance of every resolved item

The invariant `AllGood` says of *every* entry of the registry:

* an unresolved entry is a definition written in a module of the case, registered under
  `module path ++ [name]` with the declared visibility (`Declared`);
* a resolved entry has an `Origin`: a predefined type, an extern type, a generated vftable struct, the result of an
  accepted `type_definition::build` of the definition registered under its path, or the result of an accepted
  `enum_definition::build` of the definition registered under its path – the last two in a state whose predefined
  types are intact, whose stored modules are modules of the case (`ModsGood (ModOf c)`: each extern value is the
  conversion of an extern value written in the case, the `use` list and the function blocks are those of a module
  written in the case under that path) and whose (post-)registry the registry extends.

`J` is what a run carries (`Case.run_induct`); `case_built` / `case_type_origin` / `case_enum_origin` / `case_xvals` are
the whole-run theorems: with `Lemmas/TypeBuild.lean`, every emitted struct of the final registry is a generated vftable
struct or a `TypeBuild` of a definition written in the case.  `Props/Exec.lean`, `Props/CaseLift.lean` and
`Props/CaseLift2.lean` lift the per-item theorems with them to the final registry and the emitted files of every
accepted case.

Not carried: "every resolved item of the registry is listed in the definition paths of its module".  It is false when
two modules of a case have the same path (`add_module` replaces the stored module, whose definition paths start empty
again, while the registry keeps the earlier module's items), so the statements about emitted files go from the files to
the registry (`files_items`), not the other way round.

## Specification part (definitions only)
-/
namespace PyxisVerif.CaseLift
open Gen Layout CaseLift2

/-- `item` is a definition written in a module of the case, and `p` is the path it is registered under -/
def Declared (c : Case) (p : Path) (item : G.Item) : Prop :=
  ∃ path file m, ModEnt.ast path file m ∈ c.modules ∧ item ∈ m.defs ∧ p = path ++ [item.name]

/-- the registry entry `add_module` creates for a definition -/
def declItem (p : Path) (item : G.Item) : ItemDef :=
  { vis := item.vis, path := p, state := .unres item, cat := .defined }

/-- … and what a successful attempt turns it into -/
def builtItem (p : Path) (item : G.Item) (r : Resolved) : ItemDef :=
  { vis := item.vis, path := p, state := .res r, cat := .defined }

/-- `i`, registered under `p`, is an item `vftable::build_type` generates -/
def GenVft (p : Path) (i : ItemDef) : Prop :=
  ∃ (reg0 : Registry) (owner : Path) (vis : Vis) (fns : List SFunc), buildVftableItem reg0 owner vis fns = some i ∧ i.path = p

/-- where a resolved entry `(p, i)` of registry `reg`, with resolved part `r`, comes from.
    `D` says which definitions are declared, `Q` is what is known of the state an item was built in
    (besides that its predefined types are intact). -/
inductive Origin (D : Path → G.Item → Prop) (Q : State → Prop) (reg : Registry) (p : Path) (i : ItemDef)
    (r : Resolved) : Prop
  /-- `SemanticState::new` -/
  | predef (nm : String × Nat) (hm : nm ∈ predefinedTypes) (hp : p = [nm.1]) (hi : i = C02.predefItem nm)
  /-- an `extern type` of a module -/
  | extern (size align : Nat)
      (hi : i = { vis := .pub, path := p, state := .res { size, align, inner := .type {} }, cat := .extern })
  /-- `vftable::build_type`: the generated `<T>Vftable` struct of `owner` -/
  | vftable (reg0 : Registry) (owner : Path) (vis : Vis) (fns : List SFunc)
      (hi : buildVftableItem reg0 owner vis fns = some i) (hp : i.path = p)
  /-- an accepted `type_definition::build` of the declared definition `item` registered under `p`, in state `s`
      (post-state `s1`, which `reg` extends) -/
  | type (s s1 : State) (item : G.Item) (d : G.TypeDef)
      (hp : C02.PrimsOk s.reg) (hQ : Q s) (hD : D p item)
      (hget : s.reg.get p = some (declItem p item)) (hd : item.inner = .type d)
      (hb : buildType s p item.vis d = (s1, .ok r)) (he : C02.Ext s1.reg reg) (hi : i = builtItem p item r)
  /-- an accepted `enum_definition::build` of the declared definition `item` registered under `p`, in state `s`
      (which `reg` extends) -/
  | enum (s : State) (item : G.Item) (d : G.EnumDef)
      (hp : C02.PrimsOk s.reg) (hQ : Q s) (hD : D p item)
      (hget : s.reg.get p = some (declItem p item)) (hd : item.inner = .enum d)
      (hb : buildEnum s p d = .ok r) (he : C02.Ext s.reg reg) (hi : i = builtItem p item r)

/-- the invariant on one registry entry -/
def Good (D : Path → G.Item → Prop) (Q : State → Prop) (reg : Registry) (p : Path) (i : ItemDef) : Prop :=
  (∀ item, i.state = .unres item → D p item ∧ i = declItem p item) ∧
  (∀ r, i.state = .res r → Origin D Q reg p i r)

/-- **provenance, registry-wide** -/
def AllGood (D : Path → G.Item → Prop) (Q : State → Prop) (reg : Registry) : Prop :=
  ∀ p i, reg.get p = some i → Good D Q reg p i

/-- an extern value written in a module of the case -/
def DeclaredX (c : Case) (path : Path) (gx : G.XVal) : Prop :=
  ∃ file m, ModEnt.ast path file m ∈ c.modules ∧ gx ∈ m.xvals

/-- a function block (`impl`) written in a module of the case -/
def DeclaredImpl (c : Case) (path : Path) (blk : G.Impl) : Prop :=
  ∃ file m, ModEnt.ast path file m ∈ c.modules ∧ blk ∈ m.impls

/-- a function written in a function block for the type registered under `p`, in a module of the case -/
def DeclaredFn (c : Case) (p : Path) (gf : G.Func) : Prop :=
  ∃ path blk, DeclaredImpl c path blk ∧ p = path ++ [blk.name] ∧ gf ∈ blk.fns

/-- the stored extern value `x` is the conversion of the written extern value `gx`: the declared (non-negative)
    address, the same name, visibility and written type -/
def XvOf (gx : G.XVal) (x : XValue) : Prop :=
  ∃ a : Int, C15.declInt "address" gx.attrs = some a ∧ 0 ≤ a ∧ x.addr = a.toNat ∧ x.name = gx.name ∧
    x.vis = gx.vis ∧ x.gty = gx.ty

/-- the stored module under `path` is the initial root module, or `add_module` of a module written in the case under
    that path: the same path, `use` list and function blocks (keyed by the path of the type they name) -/
def ModSrc (c : Case) (path : Path) (md : Mod) : Prop :=
  (path = [] ∧ md.path = [] ∧ md.uses = [] ∧ md.impls = []) ∨
  ∃ file m, ModEnt.ast path file m ∈ c.modules ∧ md.path = path ∧ md.uses = m.uses ∧
    md.impls = m.impls.map (fun f => (path ++ [f.name], f))

/-- what a stored module has from the case: every extern value is the conversion of one written in the case under the
    module's path, and the module itself is one written in the case under that path (`ModSrc`) -/
def ModOf (c : Case) (path : Path) (md : Mod) : Prop :=
  (∀ x ∈ md.xvals, ∃ gx, DeclaredX c path gx ∧ XvOf gx x) ∧ ModSrc c path md

def ModsGood (P : Path → Mod → Prop) (s : State) : Prop := ∀ e ∈ s.modules, P e.1 e.2

/-- `P` does not look at the definition paths of a module (the only thing `add_item` changes) -/
def DefPathsBlind (P : Path → Mod → Prop) : Prop := ∀ path m dp, P path m → P path { m with defPaths := dp }

/-- the items of an abstract file: what follows the inner-doc node -/
def fileItems : Sexp → List Sexp
  | .list [.sym "file", _, .list (.sym "rs" :: _ :: items)] => items
  | _ => []

/-! ## Lemma part -/

theorem itemItems_type (reg : Registry) (i : ItemDef) (r : Resolved) (td : TypeDefn) (hc : i.cat = .defined)
    (hs : i.state = .res r) (hin : r.inner = .type td) :
    Emit.itemItems reg i = Emit.typeItems reg i.path r.size r.align i.vis td := by
  unfold Emit.itemItems
  simp only [hc, ItemDef.resolved?, hs, hin]

theorem itemItems_enum (reg : Registry) (i : ItemDef) (r : Resolved) (ed : EnumDefn) (hc : i.cat = .defined)
    (hs : i.state = .res r) (hin : r.inner = .enum ed) :
    Emit.itemItems reg i = Emit.enumItems i.path r.size i.vis ed := by
  unfold Emit.itemItems
  simp only [hc, ItemDef.resolved?, hs, hin]

/-- the `impl` item `build_type` prints for an emitted struct: the accessor, then the wrappers of all functions and of all
    vftable functions whose name does not start with `_` -/
theorem impl_mem_itemItems (reg : Registry) (i : ItemDef) (r : Resolved) (td : TypeDefn) (hc : i.cat = .defined)
    (hs : i.state = .res r) (hin : r.inner = .type td) :
    Sexp.mk "impl" (.str (i.path.getLast?.getD "") ::
      Sexp.ofOpt (fun (v : Vft) => Sexp.mk "vftacc" [.str (Emit.tyStr v.ty), Sexp.ofOpt .str v.baseField]) td.vft ::
      ((td.fns.filter (!·.isInternal)).map Emit.methodS ++
        (match td.vft with | some v => (v.fns.filter (!·.isInternal)).map Emit.methodS | none => [])))
      ∈ Emit.itemItems reg i := by
  rw [itemItems_type reg i r td hc hs hin]
  unfold Emit.typeItems
  simp only [List.mem_append, List.mem_singleton]
  exact Or.inl (Or.inl (Or.inr rfl))

theorem itemItems_inv (reg : Registry) (i : ItemDef) (x : Sexp) (hx : x ∈ Emit.itemItems reg i) :
    i.cat = .defined ∧ ∃ r, i.state = .res r := by
  unfold Emit.itemItems at hx
  split at hx
  · next r hc hr => exact ⟨hc, r, C02.resolved?_eq hr⟩
  · cases hx

theorem fileItems_moduleFile (s : State) (key : Path) (m : Mod) :
    fileItems (Emit.moduleFile s key m) =
      ((let pro := (m.backendsFor "rust").filterMap (·.prologue)
        if pro.isEmpty then [] else [Sexp.mk "opaque-block" [.str ("\n".intercalate pro)]]) ++
       (Emit.sortBy (fun (a b : ItemDef) => Path.le a.path b.path) (m.defPaths.filterMap s.reg.get)).flatMap (Emit.itemItems s.reg) ++
       (Emit.sortBy (fun (a b : XValue) => a.name ≤ b.name) m.xvals).map Emit.xvalItem ++
       (let epi := (m.backendsFor "rust").filterMap (·.epilogue)
        if epi.isEmpty then [] else [Sexp.mk "opaque-block" [.str ("\n".intercalate epi)]])) := rfl

/-- **every item of every emitted file** is a backend block, one of the items `build_item` prints for an entry of the
    registry listed in the module's definition paths, or the accessor of one of the module's extern values -/
theorem files_items (s : State) (f : Sexp) (hf : f ∈ Emit.files s) (x : Sexp) (hx : x ∈ fileItems f) :
    ∃ e ∈ s.modules, e.1 ≠ [] ∧ f = Emit.moduleFile s e.1 e.2 ∧
      (Sexp.head? x = some "opaque-block" ∨
       (∃ q ∈ e.2.defPaths, ∃ i, s.reg.get q = some i ∧ x ∈ Emit.itemItems s.reg i) ∨
       (∃ xv ∈ e.2.xvals, x = Emit.xvalItem xv)) := by
  obtain ⟨e, he, hne, rfl⟩ := C14.files_mem s f hf
  refine ⟨e, he, hne, rfl, ?_⟩
  rw [fileItems_moduleFile] at hx
  simp only [List.mem_append] at hx
  rcases hx with ((hx | hx) | hx) | hx
  · left
    split at hx
    · cases hx
    · simp only [List.mem_singleton] at hx; subst hx; rfl
  · right; left
    simp only [List.mem_flatMap, Emit.sortBy, List.mem_mergeSort, List.mem_filterMap] at hx
    obtain ⟨i, ⟨q, hq, hg⟩, hxi⟩ := hx
    exact ⟨q, hq, i, hg, hxi⟩
  · right; right
    simp only [List.mem_map, Emit.sortBy, List.mem_mergeSort] at hx
    obtain ⟨xv, hxv, rfl⟩ := hx
    exact ⟨xv, hxv, rfl⟩
  · left
    split at hx
    · cases hx
    · simp only [List.mem_singleton] at hx; subst hx; rfl

/-- what `build_type` prints: the singleton getter of the type's singleton address, or an item of another kind -/
theorem typeItems_kinds (reg : Registry) (path : Path) (size align : Nat) (vis : Vis) (td : TypeDefn) :
    ∀ x ∈ Emit.typeItems reg path size align vis td,
      (∃ a, td.singleton = some a ∧ x = Sexp.mk "singleton-struct" [.str (path.getLast?.getD ""), Emit.visS vis, .int a]) ∨
      Sexp.head? x ∈ [some "struct", some "sizecheck", some "impl", some "conflict", some "asref", some "asmut"] := by
  intro x hx
  unfold Emit.typeItems at hx
  simp only [List.mem_append, List.mem_singleton, List.mem_flatMap] at hx
  rcases hx with ((((hx | hx) | hx) | hx) | hx) | hx
  · subst hx; right; rw [C15.head_mk]; decide
  · split at hx
    · rw [List.mem_singleton] at hx; subst hx; right; rw [C15.head_mk]; decide
    · cases hx
  · split at hx
    · next a ha =>
      rw [List.mem_singleton] at hx
      exact Or.inl ⟨a, ha, hx⟩
    · cases hx
  · subst hx; right; rw [C15.head_mk]; decide
  · obtain ⟨e, _, hx⟩ := hx
    right
    split at hx
    · rw [List.mem_singleton] at hx; subst hx; rw [C15.head_mk]; decide
    · simp only [List.mem_cons, List.not_mem_nil, or_false] at hx
      rcases hx with hx | hx <;> (subst hx; rw [C15.head_mk]; decide)
  · right
    simp only [List.mem_cons, List.not_mem_nil, or_false] at hx
    rcases hx with hx | hx <;> (subst hx; rw [C15.head_mk]; decide)

/-- what `build_enum` prints: the singleton getter of the enum's singleton address, or an item of another kind -/
theorem enumItems_kinds (path : Path) (size : Nat) (vis : Vis) (ed : EnumDefn) :
    ∀ x ∈ Emit.enumItems path size vis ed,
      (∃ a, ed.singleton = some a ∧ x = Sexp.mk "singleton-enum" [.str (path.getLast?.getD ""), Emit.visS vis, .int a]) ∨
      Sexp.head? x ∈ [some "enum", some "sizecheck"] := by
  intro x hx
  unfold Emit.enumItems at hx
  simp only [List.mem_append, List.mem_singleton] at hx
  rcases hx with (hx | hx) | hx
  · subst hx; right; rw [C15.head_mk]; decide
  · split at hx
    · rw [List.mem_singleton] at hx; subst hx; right; rw [C15.head_mk]; decide
    · cases hx
  · split at hx
    · next a ha =>
      rw [List.mem_singleton] at hx
      exact Or.inl ⟨a, ha, hx⟩
    · cases hx

theorem head_ne (t t' : String) (xs : List Sexp) (hne : t ≠ t') : Sexp.head? (Sexp.mk t xs) ≠ some t' := by
  rw [C15.head_mk]
  intro h
  cases h
  exact hne rfl

theorem fieldOffset_inv (reg : Registry) (td : TypeDefn) (b : String) (o : Nat)
    (h : Exec.fieldOffset reg td b = some o) :
    ∃ k offs, Exec.fieldIndex td b = some k ∧ Exec.fieldOffsets reg td = some offs ∧ offs[k]? = some o := by
  unfold Exec.fieldOffset at h
  cases hk : Exec.fieldIndex td b with
  | none => simp [hk] at h
  | some k =>
    cases ho : Exec.fieldOffsets reg td with
    | none => simp [hk, ho] at h
    | some offs =>
      simp only [hk, ho] at h
      exact ⟨k, offs, rfl, rfl, h⟩

theorem addItem_mods {P : Path → Mod → Prop} (hP : DefPathsBlind P) (s s' : State) (i : ItemDef)
    (hs : ModsGood P s) (h : s.addItem i = .ok s') : ModsGood P s' := by
  obtain ⟨parent, m, _, hm, rfl⟩ := C14.addItem_inv s s' i h
  intro e he
  simp only [List.mem_map] at he
  obtain ⟨e0, he0, rfl⟩ := he
  by_cases hk : (e0.1 == parent) = true
  · rw [if_pos hk]
    have hmem := C14.mem_of_lookup s.modules parent m hm
    have := hP _ _ (if m.defPaths.contains i.path then m.defPaths else i.path :: m.defPaths) (hs (parent, m) hmem)
    have hp : e0.1 = parent := by simpa using hk
    simpa [hp] using this
  · rw [if_neg hk]
    exact hs e0 he0

/-- the registry plays no part in `ModsGood`, and `add_item` changes only definition paths -/
theorem modsGood_closed {P : Path → Mod → Prop} (hP : DefPathsBlind P) : CaseLift2.Closed (ModsGood P) :=
  ⟨addItem_mods hP, fun _ _ _ h => h⟩

theorem modOf_blind (c : Case) : DefPathsBlind (ModOf c) := fun _ _ _ h => h

theorem modOf_root (c : Case) : ModOf c [] {} :=
  ⟨fun x hx => (by cases hx), Or.inl ⟨rfl, rfl, rfl, rfl⟩⟩

theorem modOf_new (c : Case) (path : Path) (file : String) (m : G.Module) (hm : ModEnt.ast path file m ∈ c.modules)
    (xvals : List XValue) (doc : Option String) (hx : Res.mapM' C14.xvalStep m.xvals = .ok xvals) :
    ModOf c path (C14.newMod m path xvals doc) := by
  refine ⟨?_, Or.inr ⟨file, m, hm, rfl, rfl, rfl⟩⟩
  intro x hxm
  obtain ⟨gx, hgx, hstep⟩ := mapM'_mem _ _ _ hx x hxm
  exact ⟨gx, ⟨file, m, hm, hgx⟩, C15.xvalStep_ok gx x hstep⟩

theorem new_mods (c : Case) : ModsGood (ModOf c) (State.new c.ps) := by
  refine (modsGood_closed (modOf_blind c)).init c.ps ?_
  intro e he
  simp only [List.mem_singleton] at he
  subst he
  exact modOf_root c

theorem addModule_mods (c : Case) {s s' : State} {path : Path} {file : String} {m : G.Module}
    (hm : ModEnt.ast path file m ∈ c.modules) (hs : ModsGood (ModOf c) s) (h : s.addModule m path = .ok s') :
    ModsGood (ModOf c) s' := by
  refine (modsGood_closed (modOf_blind c)).addMod s s' m path ?_ h
  intro xvals doc hx e he
  simp only [State.putModule, List.mem_cons, List.mem_filter] at he
  rcases he with rfl | ⟨he, _⟩
  · exact modOf_new c path file m hm xvals doc hx
  · exact hs e he

theorem ModSrc.impl_mem {c : Case} {path : Path} {md : Mod} (h : ModSrc c path md) :
    ∀ ib ∈ md.impls, ∃ blk, DeclaredImpl c path blk ∧ ib = (path ++ [blk.name], blk) := by
  intro ib hib
  rcases h with ⟨_, _, _, hi⟩ | ⟨file, m, hm, _, _, hi⟩
  · rw [hi] at hib; cases hib
  · rw [hi] at hib
    obtain ⟨blk, hblk, rfl⟩ := List.mem_map.mp hib
    exact ⟨blk, ⟨file, m, hm, hblk⟩, rfl⟩

theorem declaredFn_of_impl (c : Case) (s : State) (hQ : ModsGood (ModOf c) s) (p : Path) (item : G.Item)
    (hD : Declared c p item) (m : Mod) (hm : s.moduleFor p = some m) :
    ∀ gf ∈ ((m.implFor p).map (·.fns)).getD [], DeclaredFn c p gf := by
  intro gf hgf
  obtain ⟨path, _, _, _, _, rfl⟩ := hD
  unfold State.moduleFor at hm
  rw [Path.parent?_concat] at hm
  simp only [] at hm
  obtain ⟨_, hsrc⟩ := hQ (path, m) (C14.mem_of_lookup s.modules path m hm)
  cases him : m.implFor (path ++ [item.name]) with
  | none => rw [him] at hgf; cases hgf
  | some im =>
    rw [him] at hgf
    obtain ⟨ib, hib, hk, hgf'⟩ := implFor_mem m _ im him gf hgf
    obtain ⟨blk, hblk, rfl⟩ := hsrc.impl_mem ib hib
    exact ⟨path, blk, hblk, hk.symm, hgf'⟩

theorem Origin.mono {D : Path → G.Item → Prop} {Q : State → Prop} {r r' : Registry} (he : C02.Ext r r') {p : Path}
    {i : ItemDef} {res : Resolved} (h : Origin D Q r p i res) : Origin D Q r' p i res := by
  cases h with
  | predef nm hm hp hi => exact .predef nm hm hp hi
  | extern size align hi => exact .extern size align hi
  | vftable reg0 owner vis fns hi hp => exact .vftable reg0 owner vis fns hi hp
  | type s s1 item d hp hQ hD hget hd hb he' hi => exact .type s s1 item d hp hQ hD hget hd hb (he'.trans he) hi
  | enum s item d hp hQ hD hget hd hb he' hi => exact .enum s item d hp hQ hD hget hd hb (he'.trans he) hi

theorem Good.mono {D : Path → G.Item → Prop} {Q : State → Prop} {r r' : Registry} (he : C02.Ext r r') {p : Path}
    {i : ItemDef} (h : Good D Q r p i) : Good D Q r' p i :=
  ⟨h.1, fun res hr => (h.2 res hr).mono he⟩

theorem AllGood.step {D : Path → G.Item → Prop} {Q : State → Prop} {r r' : Registry} (h : AllGood D Q r)
    (he : C02.Ext r r') (hnew : ∀ p i, r'.get p = some i → r.get p = some i ∨ Good D Q r' p i) : AllGood D Q r' := by
  intro p i hg
  rcases hnew p i hg with ho | hn
  · exact (h p i ho).mono he
  · exact hn

theorem AllGood.addItem {D : Path → G.Item → Prop} {Q : State → Prop} (s s' : State) (i : ItemDef)
    (hs : AllGood D Q s.reg) (h : s.addItem i = .ok s')
    (hfree : s.reg.get i.path = none ∨ s.reg.get i.path = some i)
    (hi : Good D Q s'.reg i.path i) : AllGood D Q s'.reg := by
  obtain ⟨he, hn⟩ := C02.addItem_ext s s' i h hfree
  refine hs.step he ?_
  intro p j hj
  rcases hn p j hj with ho | ⟨rfl, rfl⟩
  · exact Or.inl ho
  · exact Or.inr hi

theorem new_good (D : Path → G.Item → Prop) (Q : State → Prop) (ps : Nat) : AllGood D Q (State.new ps).reg := by
  intro p i hg
  obtain ⟨nm, hnm, rfl, rfl⟩ := C02.new_get_inv ps p i hg
  exact ⟨fun item hst => (by cases hst), fun r _ => .predef nm hnm rfl rfl⟩

theorem defStep_good {D : Path → G.Item → Prop} {Q : State → Prop} (path : Path) (s s' : State) (d : G.Item)
    (hs : AllGood D Q s.reg) (hD : D (path ++ [d.name]) d) (h : C14.defStep path s d = .ok s') :
    AllGood D Q s'.reg := by
  obtain ⟨hfree, ha⟩ := C14.defStep_ok_inv h
  refine AllGood.addItem s s' _ hs ha (Or.inl hfree) ⟨?_, ?_⟩
  · intro item hst
    simp only [IState.unres.injEq] at hst
    subst hst
    exact ⟨hD, rfl⟩
  · intro r hst; cases hst

theorem xtypeStep_good {D : Path → G.Item → Prop} {Q : State → Prop} (path : Path) (s s' : State)
    (xt : String × List G.Attr) (hs : AllGood D Q s.reg) (h : C14.xtypeStep path s xt = .ok s') :
    AllGood D Q s'.reg := by
  obtain ⟨_, _, _, _, _, _, hfree, ha⟩ := C14.xtypeStep_ok_inv h
  refine AllGood.addItem s s' _ hs ha (Or.inl hfree) ⟨?_, ?_⟩
  · intro item hst; cases hst
  · intro r _
    exact .extern _ _ rfl

theorem addModule_good {D : Path → G.Item → Prop} {Q : State → Prop} (s s' : State) (m : G.Module) (path : Path)
    (hs : AllGood D Q s.reg) (hD : ∀ d ∈ m.defs, D (path ++ [d.name]) d) (h : s.addModule m path = .ok s') :
    AllGood D Q s'.reg :=
  State.addModule_induct (P := fun t => AllGood D Q t.reg) (fun _ _ _ => hs)
    (fun b b' d hd hb hstep => defStep_good path b b' d hb (hD d hd) hstep)
    (fun b b' xt _ hb hstep => xtypeStep_good path b b' xt hb hstep) h

theorem reach2_good {D : Path → G.Item → Prop} {Q : State → Prop} {s s1 : State} {owner : Path}
    (hr : C02.Reach2 s s1 owner) (hs : AllGood D Q s.reg) : AllGood D Q s1.reg := by
  rcases hr with rfl | ⟨vis, fns, item, hi, hfree, ha⟩
  · exact hs
  · refine AllGood.addItem s s1 item hs ha hfree ⟨?_, ?_⟩
    · intro it hst
      obtain ⟨vtd, hstate, _⟩ := C04.vftable_item s.reg owner vis fns item hi
      rw [hstate] at hst; cases hst
    · intro r _
      exact .vftable s.reg owner vis fns hi rfl

theorem setState_good {D : Path → G.Item → Prop} {Q : State → Prop} (reg : Registry) (p : Path) (res : Resolved)
    (i : ItemDef) (d : G.Item) (hs : AllGood D Q reg) (hi : reg.get p = some i) (hu : i.state = .unres d)
    (hp : Origin D Q (reg.setState p (.res res)) p { i with state := .res res } res) :
    AllGood D Q (reg.setState p (.res res)) := by
  refine hs.step (C02.setState_ext reg p res i d hi hu) ?_
  intro q j hq
  simp only [C12.get_setState] at hq
  by_cases e : q = p
  · subst e
    rw [if_pos rfl, hi] at hq
    simp only [Option.map_some, Option.some.injEq] at hq
    subst hq
    right
    refine ⟨fun item hst => (by cases hst), ?_⟩
    intro r' hr'
    simp only [IState.res.injEq] at hr'
    subst hr'
    exact hp
  · rw [if_neg e] at hq
    exact Or.inl hq

/-- an attempt keeps provenance: what it resolves was a declared definition, built in the state of the attempt -/
theorem attemptItem_good {D : Path → G.Item → Prop} {Q : State → Prop} (s : State) (p : Path)
    (hp : C02.PrimsOk s.reg) (hQ : Q s) (hs : AllGood D Q s.reg) : AllGood D Q (attemptItem s p).1.reg := by
  refine attemptItem_induct (P := fun t => AllGood D Q t.reg) hs
    (fun _ d _ _ => reach2_good (attemptDef_reach2 s p d) hs) ?_
  intro i d s1 r hg hd hb h1
  obtain ⟨hD, hitem⟩ := (hs p i hg).1 d hd
  have hi : s1.reg.get p = some i := ((congrArg Prod.fst hb) ▸ attemptDef_reach2 s p d).get hg
  refine setState_good s1.reg p r i d h1 hi hd ?_
  have hext := C02.setState_ext s1.reg p r i d hi hd
  unfold C20.attemptDef at hb
  split at hb
  · next td htd => exact .type s s1 d td hp hQ hD (by rw [hg, hitem]) htd hb hext (by rw [hitem]; rfl)
  · next ed hed =>
    simp only [Prod.mk.injEq] at hb
    obtain ⟨rfl, hb⟩ := hb
    exact .enum s d ed hp hQ hD (by rw [hg, hitem]) hed hb hext (by rw [hitem]; rfl)

/-- what a run carries: the invariants of C12 and C02, the invariant on the stored modules, and provenance (every
    built item was built in a state whose modules satisfy that invariant) -/
structure J (c : Case) (s : State) : Prop where
  ok : C12.StateOkB s
  sound : C02.RegSound s
  mods : ModsGood (ModOf c) s
  good : AllGood (Declared c) (ModsGood (ModOf c)) s.reg

theorem J.new (c : Case) (hps : c.ps = 4 ∨ c.ps = 8) : J c (State.new c.ps) :=
  ⟨C12.new_okB c.ps hps, C02.new_sound_lem c.ps, new_mods c, new_good _ _ c.ps⟩

theorem J.addModule {c : Case} (hb : C12.CaseBounded c) {s s' : State} {path : Path} {file : String} {m : G.Module}
    (hm : ModEnt.ast path file m ∈ c.modules) (hs : J c s) (h : s.addModule m path = .ok s') : J c s' :=
  ⟨C12.addModule_okB s s' m path hs.ok (hb path file m hm) h, C02.addModule_sound_lem s s' m path hs.sound h,
   addModule_mods c hm hs.mods h,
   addModule_good s s' m path hs.good (fun _ hd => ⟨path, file, m, hm, hd, rfl⟩) h⟩

theorem J.attempt {c : Case} {s : State} (hs : J c s) (p : Path) : J c (attemptItem s p).1 :=
  ⟨C12.attemptItem_ok s p hs.ok, C02.attemptItem_sound s p (C02.ps_pos_of_ok hs.ok.ok) hs.sound,
   (modsGood_closed (modOf_blind c)).attempt s p hs.mods, attemptItem_good s p hs.sound.prims hs.mods hs.good⟩

theorem initialState_J (c : Case) (hps : c.ps = 4 ∨ c.ps = 8) (hb : C12.CaseBounded c) (s : State)
    (h : c.initialState = .ok s) : J c s :=
  Case.initialState_induct (J.new c hps) (fun _ _ _ _ _ hm hs ha => hs.addModule hb hm ha) h

/-- the state in which the resolution loop of an accepted case ended (before the extern values are typed) -/
theorem case_J (c : Case) (hps : c.ps = 4 ∨ c.ps = 8) (hb : C12.CaseBounded c) (s : State) (h : c.run = .ok s) :
    ∃ s1 ms, J c s1 ∧ Res.mapM' (C20.xvalPass s1.reg) s1.modules = .ok ms ∧ s = { s1 with modules := ms } :=
  Case.run_induct (J.new c hps) (fun _ _ _ _ _ hm hs ha => hs.addModule hb hm ha) (fun _ p hs => hs.attempt p) h

/-- `resolve_extern_values` keeps every extern value and only fills in its type, resolved in the module's scope -/
theorem resolveXVals_inv (reg : Registry) (m m' : Mod) (h : resolveXVals reg m = .ok m') :
    m'.scope = m.scope ∧ m'.defPaths = m.defPaths ∧ m'.impls = m.impls ∧
    ∀ x' ∈ m'.xvals, ∃ x ∈ m.xvals, ∃ t, reg.resolveTy m.scope x.gty = .ok t ∧ x' = { x with ty := some t } := by
  unfold resolveXVals at h
  split at h
  · next xvals hx =>
    simp only [Res.ok.injEq] at h
    subst h
    refine ⟨rfl, rfl, rfl, ?_⟩
    intro x' hx'
    obtain ⟨x, hxm, hstep⟩ := mapM'_mem _ _ _ hx x' hx'
    refine ⟨x, hxm, ?_⟩
    split at hstep
    · next t ht =>
      simp only [Res.ok.injEq] at hstep
      exact ⟨t, ht, hstep.symm⟩
    · cases hstep
    · exact (Res.cast_ne_ok _ _ hstep).elim
  · exact (Res.cast_ne_ok _ _ h).elim

/-- **extern values of every accepted case**: every extern value of every module of the final state is the conversion
    of an extern value written in a module of the case (under that module's path), with its type resolved in the
    module's scope in the final registry.  (Needs neither the pointer width nor the literal bound.) -/
theorem case_xvals (c : Case) (s : State) (h : c.run = .ok s) :
    ∀ e ∈ s.modules, ∀ x ∈ e.2.xvals, ∃ gx, DeclaredX c e.1 gx ∧ XvOf gx x ∧
      ∃ t, s.reg.resolveTy e.2.scope x.gty = .ok t ∧ x.ty = some t := by
  obtain ⟨s1, ms, h1, hms, rfl⟩ :=
    Case.run_induct (new_mods c) (fun _ _ _ _ _ hm hs ha => addModule_mods c hm hs ha)
      (modsGood_closed (modOf_blind c)).attempt h
  intro e he x hx
  obtain ⟨e0, he0, hstep⟩ := mapM'_mem _ _ _ hms e he
  obtain ⟨m', hm', rfl⟩ := xvalPass_ok_inv hstep
  obtain ⟨hsc, _, _, hall⟩ := resolveXVals_inv s1.reg e0.2 m' hm'
  obtain ⟨x0, hx0, t, ht, rfl⟩ := hall x hx
  obtain ⟨gx, hgx, hof⟩ := (h1 e0 he0).1 x0 hx0
  exact ⟨gx, hgx, hof, t, by rw [hsc]; exact ht, rfl⟩

/-- a generated vftable struct is a plain struct of function pointers: no doc, no methods, no table, no singleton,
    no derives, not packed; it carries the owner's visibility -/
theorem vftable_item_td (reg0 : Registry) (owner : Path) (vis : Vis) (fns : List SFunc) (i : ItemDef) (r : Resolved)
    (td : TypeDefn) (h : buildVftableItem reg0 owner vis fns = some i) (hs : i.state = .res r) (hin : r.inner = .type td) :
    td = { regions := fns.map (functionToRegion owner) } ∧ i.vis = vis ∧ i.cat = .defined ∧
      r.size = fns.length * reg0.ps ∧ r.align = reg0.ps := by
  unfold buildVftableItem at h
  cases hvp : vftablePath owner with
  | none => simp [hvp] at h
  | some q =>
    simp only [hvp, Option.map_some, Option.some.injEq] at h
    subst h
    simp only [IState.res.injEq] at hs
    subst hs
    simp only [SInner.type.injEq] at hin
    subst hin
    simp

theorem vftable_item_typeDefn {reg0 reg : Registry} {owner : Path} {vis : Vis} {fns : List SFunc} {vi : ItemDef}
    (h : buildVftableItem reg0 owner vis fns = some vi) (hg : reg.get vi.path = some vi) :
    Exec.typeDefn? reg vi.path = some { regions := fns.map (functionToRegion owner) } := by
  obtain ⟨vtd, hstate, _⟩ := C04.vftable_item reg0 owner vis fns vi h
  obtain ⟨htd, _⟩ := vftable_item_td reg0 owner vis fns vi _ vtd h hstate rfl
  rw [← htd]
  exact Exec.typeDefn?_of_get reg _ vi _ vtd hg hstate rfl

/-- the resolved struct `i` registered under `p` is a generated `<T>Vftable` struct: one function-pointer field per
    slot, with the owner's visibility -/
theorem GenVft.td {p : Path} {i : ItemDef} {r : Resolved} {td : TypeDefn} (h : GenVft p i) (hs : i.state = .res r)
    (hin : r.inner = .type td) :
    ∃ (reg0 : Registry) (owner : Path) (vis : Vis) (fns : List SFunc),
      buildVftableItem reg0 owner vis fns = some i ∧ i.path = p ∧ i.vis = vis ∧
      td = { regions := fns.map (functionToRegion owner) } := by
  obtain ⟨reg0, owner, vis, fns, hv, hp⟩ := h
  obtain ⟨htd, hvis, _⟩ := vftable_item_td reg0 owner vis fns i r td hv hs hin
  exact ⟨reg0, owner, vis, fns, hv, hp, hvis, htd⟩

theorem GenVft.plain {p : Path} {i : ItemDef} {r : Resolved} {td : TypeDefn} (h : GenVft p i) (hs : i.state = .res r)
    (hin : r.inner = .type td) : td.fns = [] ∧ td.vft = none := by
  obtain ⟨_, _, _, _, _, _, _, htd⟩ := h.td hs hin
  rw [htd]
  exact ⟨rfl, rfl⟩

theorem GenVft.not_base {p : Path} {i : ItemDef} {r : Resolved} {td : TypeDefn} (h : GenVft p i) (hs : i.state = .res r)
    (hin : r.inner = .type td) : ∀ rg ∈ td.regions, rg.isBase = false := by
  obtain ⟨_, _, _, _, _, _, _, htd⟩ := h.td hs hin
  intro rg hrg
  rw [htd] at hrg
  obtain ⟨f, _, rfl⟩ := List.mem_map.mp hrg
  rfl

theorem predefItem_inner (nm : String × Nat) (r : Resolved) (h : (C02.predefItem nm).state = .res r) :
    ∃ td, r.inner = .type td := by
  simp only [C02.predefItem, IState.res.injEq] at h
  subst h
  exact ⟨_, rfl⟩

/-- **provenance for every accepted case**: in the final registry every unresolved entry is a declared definition, and
    every resolved entry has an `Origin` -/
theorem case_good (c : Case) (hps : c.ps = 4 ∨ c.ps = 8) (hb : C12.CaseBounded c) (s : State)
    (h : c.run = .ok s) : AllGood (Declared c) (ModsGood (ModOf c)) s.reg := by
  obtain ⟨s1, ms, hJ, _, rfl⟩ := case_J c hps hb s h
  exact hJ.good

theorem case_regOk (c : Case) (hps : c.ps = 4 ∨ c.ps = 8) (hb : C12.CaseBounded c) (s : State)
    (h : c.run = .ok s) : C12.RegOk s.reg := by
  obtain ⟨s1, ms, hJ, _, rfl⟩ := case_J c hps hb s h
  exact hJ.ok.ok.reg

/-- **every emitted struct** of the final registry of an accepted case is a generated vftable struct or the result of an
    accepted `type_definition::build` of a definition *written in the case*, registered under its path with the declared
    visibility, in a state `s0` whose predefined types are intact and whose stored modules are modules of the case; the
    final registry extends the post-state -/
theorem case_type_origin (c : Case) (hps : c.ps = 4 ∨ c.ps = 8) (hb : C12.CaseBounded c) (s : State)
    (h : c.run = .ok s) (p : Path) (i : ItemDef) (r : Resolved) (td : TypeDefn)
    (hg : s.reg.get p = some i) (hs : i.state = .res r) (hin : r.inner = .type td) (hc : i.cat = .defined) :
    GenVft p i ∨
    ∃ (s0 s1 : State) (item : G.Item) (d : G.TypeDef),
      C02.PrimsOk s0.reg ∧ ModsGood (ModOf c) s0 ∧ Declared c p item ∧ s0.reg.get p = some (declItem p item) ∧
      item.inner = .type d ∧ buildType s0 p item.vis d = (s1, .ok r) ∧ C02.Ext s1.reg s.reg ∧
      i = builtItem p item r := by
  cases (case_good c hps hb s h p i hg).2 r hs with
  | predef nm hm hp hi => subst hi; cases hc
  | extern size align hi => subst hi; cases hc
  | vftable reg0 owner vis fns hi hp => exact Or.inl ⟨reg0, owner, vis, fns, hi, hp⟩
  | type s0 s1 item d hp hQ hD hget hd hb' he hi => exact Or.inr ⟨s0, s1, item, d, hp, hQ, hD, hget, hd, hb', he, hi⟩
  | enum s0 item d hp hQ hD hget hd hb' he hi =>
    obtain ⟨ed, _, hin', _⟩ := C02.buildEnum_inv s0 p d r hb'
    rw [hin'] at hin; cases hin

/-- **every resolved enum** of the final registry of an accepted case is the result of an accepted
    `enum_definition::build` of a definition *written in the case*, registered under its path with the declared
    visibility, in a state `s0` whose stored modules are modules of the case and which the final registry extends -/
theorem case_enum_origin (c : Case) (hps : c.ps = 4 ∨ c.ps = 8) (hb : C12.CaseBounded c) (s : State)
    (h : c.run = .ok s) (p : Path) (i : ItemDef) (r : Resolved) (ed : EnumDefn)
    (hg : s.reg.get p = some i) (hs : i.state = .res r) (hin : r.inner = .enum ed) :
    ∃ (s0 : State) (item : G.Item) (d : G.EnumDef),
      ModsGood (ModOf c) s0 ∧ Declared c p item ∧ item.inner = .enum d ∧ buildEnum s0 p d = .ok r ∧
      C02.Ext s0.reg s.reg ∧ i = builtItem p item r := by
  cases (case_good c hps hb s h p i hg).2 r hs with
  | predef nm hm hp hi =>
    subst hi
    obtain ⟨td, htd⟩ := predefItem_inner nm r hs
    rw [htd] at hin; cases hin
  | extern size align hi =>
    subst hi
    simp only [IState.res.injEq] at hs
    subst hs
    cases hin
  | vftable reg0 owner vis fns hi hp =>
    obtain ⟨vtd, hstate, _⟩ := C04.vftable_item reg0 owner vis fns i hi
    rw [hstate] at hs
    simp only [IState.res.injEq] at hs
    subst hs
    cases hin
  | type s0 s1 item d hp hQ hD hget hd hb' he hi =>
    obtain ⟨td, _, _, _, _, _, htd, _⟩ := C01.buildType_layout s0 s1 p item.vis d r hb'
    rw [htd] at hin; cases hin
  | enum s0 item d hp hQ hD hget hd hb' he hi => exact ⟨s0, item, d, hQ, hD, hd, hb', he, hi⟩

/-- **every emitted struct** of the final registry of an accepted case is a generated vftable struct, or an accepted
    `type_definition::build` (`TypeBuild`) of a definition `item` written in the case, in a state `s0` whose predefined
    types are intact and whose stored modules are modules of the case; the final registry extends the post-state `s1` -/
theorem case_built (c : Case) (hps : c.ps = 4 ∨ c.ps = 8) (hb : C12.CaseBounded c) (s : State)
    (h : c.run = .ok s) (p : Path) (i : ItemDef) (r : Resolved) (td : TypeDefn)
    (hg : s.reg.get p = some i) (hs : i.state = .res r) (hin : r.inner = .type td) (hc : i.cat = .defined) :
    GenVft p i ∨
    ∃ (item : G.Item) (d : G.TypeDef) (s0 s1 : State) (module module1 : Mod) (ta : TypeAttrs) (sa : StmtAcc)
      (vptr : Option Region) (placed : List (Placed Region)) (acc1 acc2 : InjAcc),
      Declared c p item ∧ item.inner = .type d ∧ i = builtItem p item r ∧ C02.PrimsOk s0.reg ∧ ModsGood (ModOf c) s0 ∧
      C02.Ext s1.reg s.reg ∧ TypeBuild s0 s1 p item.vis d r td module module1 ta sa vptr placed acc1 acc2 := by
  rcases case_type_origin c hps hb s h p i r td hg hs hin hc with hv | ⟨s0, s1, item, d, hp, hQ, hD, _, hd, hbt, he, hi⟩
  · exact Or.inl hv
  · obtain ⟨module, module1, ta, sa, vptr, placed, acc1, acc2, B⟩ := TypeBuild.of_ok hbt hin
    exact Or.inr ⟨item, d, s0, s1, module, module1, ta, sa, vptr, placed, acc1, acc2, hD, hd, hi, hp, hQ, he, B⟩

end PyxisVerif.CaseLift
