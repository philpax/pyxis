import PyxisVerif.Lemmas.Mono
import PyxisVerif.Lemmas.C09Case
import PyxisVerif.Lemmas.C19
/-!
# C10, globally: why an attempt defers, where a build gets stuck, and when it cannot

`WaitsOn s p c` reads the dependencies of the unresolved item `p` off its definition (`c`: a name that is not defined,
an item it embeds by value, a size beyond `usize`); `Active` says that the cause is still there in `s`.  A deferred
attempt has an active cause (`defer_has_cause` in `Props/C10Global.lean`; that nothing else of the build answers
`Ok(None)` is the `D := False`, `S := AnySite` reading of the `…_only` lemmas of `Lemmas/C12.lean`), so the items named by
a build that gives up wait on one another or on something missing (`stuck_has_cause_lem`).  Conversely, a state whose
names are all defined and whose by-value dependencies are acyclic is ranked; the dependency relation of every later
state is that of the initial state (without generated items here, under `NoGenRefs` in `Lemmas/C10GlobalVft.lean`), and
a ranked run cannot be stuck unless a size overflows.  The causes are also computed (`activeCauses`), for the examples.
-/
namespace PyxisVerif.C10
open C09 Layout

/-! ## Part 1: the statement loop -/

theorem cast_defer {α β} {e : Res α} (h : (e.cast : Res β) = .defer) : e = .defer := by
  cases e <;> simp [Res.cast] at h ⊢

/-- the identifier a type expression is built around (`unknown<N>` has none) -/
def tyName : G.Ty → Option String
  | .cptr t => tyName t
  | .mptr t => tyName t
  | .arr t _ => tyName t
  | .ident s => some s
  | .unk _ => none

/-- **a type expression defers exactly for an undefined name**: `resolve_grammar_type` answers `None`
    only when the identifier inside does not resolve in the scope -/
theorem resolveTy_defer (r : Registry) (scope : List Path) (t : G.Ty) (h : r.resolveTy scope t = .defer) :
    ∃ n, tyName t = some n ∧ r.resolveString scope n = none := by
  induction t with
  | cptr t ih | mptr t ih | arr t _ ih =>
    unfold Registry.resolveTy at h
    split at h
    · cases h
    · exact ih h
  | ident s =>
    unfold Registry.resolveTy at h
    split at h
    · cases h
    · next hn => exact ⟨s, rfl, hn⟩
  | unk n => exact absurd h (C12.paddingType_nd r n)

/-- **the statement loop defers only for an undefined field type name**: a `vftable` block with an
    undefined name in a signature is a hard error (`function::build` turns `None` into an error) -/
theorem stmts_fold_defer (reg : Registry) (scope : List Path) (stmts : List G.Stmt)
    (h : Res.foldlM (stmtStep reg scope) {} (stmts.zipIdx.map fun p => (p.2, p.1)) = .defer) :
    ∃ st ∈ stmts, ∃ v n t, st.field = .field v n t ∧ reg.resolveTy scope t = .defer :=
  (C12.Only.foldlM (S := C12.AnySite) (fun acc ist hist =>
    C12.stmtStep_only acc ist (fun _ => C12.PO.any) (.inl trivial)
      (fun v n t hf ht => ⟨ist.2, C01.mem_zipIdx_swap hist, v, n, t, hf, ht⟩)) {}).1 h

/-- a successful statement loop resolved the type of every field statement and queued it -/
def Covers (reg : Registry) (scope : List Path) (done : List G.Stmt) (acc : StmtAcc) : Prop :=
  ∀ st ∈ done, ∀ v n t, st.field = .field v n t →
    ∃ dt, reg.resolveTy scope t = .ok dt ∧ ∃ f ∈ acc.pending, f.2.ty = .data dt

theorem stmts_fold_covers_aux (reg : Registry) (scope : List Path) (l : List (Nat × G.Stmt)) (acc acc' : StmtAcc)
    (h : Res.foldlM (stmtStep reg scope) acc l = .ok acc') :
    (∀ f ∈ acc.pending, f ∈ acc'.pending) ∧ Covers reg scope (l.map (·.2)) acc' := by
  induction l generalizing acc with
  | nil =>
    simp only [Res.foldlM, Res.ok.injEq] at h
    subst h
    exact ⟨fun f hf => hf, fun st hst => by cases hst⟩
  | cons x l ih =>
    obtain ⟨idx, st0⟩ := x
    obtain ⟨acc1, h1, h2⟩ := Res.foldlM_cons_ok.mp h
    obtain ⟨i1, i2⟩ := ih acc1 h2
    rcases stmtStep_ok h1 with ⟨v0, n0, t0, _, _, dt, _, hf0, _, _, _, hdt, rfl, _, rfl⟩ | ⟨fns, _, _, hf0, _, _, _, _, rfl⟩
    · refine ⟨fun f hf => i1 f (List.mem_append_left _ hf), ?_⟩
      intro st hst v n t hft
      rcases List.mem_cons.mp hst with rfl | hst
      · rw [hf0] at hft
        cases hft
        exact ⟨dt, hdt, _, i1 _ (List.mem_append_right _ (List.mem_singleton.mpr rfl)), rfl⟩
      · exact i2 st hst v n t hft
    · refine ⟨i1, ?_⟩
      intro st hst v n t hft
      rcases List.mem_cons.mp hst with rfl | hst
      · rw [hf0] at hft; cases hft
      · exact i2 st hst v n t hft

theorem stmts_fold_covers (reg : Registry) (scope : List Path) (stmts : List G.Stmt) (sa : StmtAcc)
    (h : Res.foldlM (stmtStep reg scope) {} (stmts.zipIdx.map fun p => (p.2, p.1)) = .ok sa) :
    Covers reg scope stmts sa := by
  have := (stmts_fold_covers_aux reg scope _ {} sa h).2
  rw [C01.zipIdx_swap_snd] at this
  exact this

/-! ### the placement loop defers only for an unknown size or an offset beyond `usize::MAX` -/

/-- the size the registry answered for a pending field (0 when unknown) -/
def fsz {β} (f : PField β) : Nat := match f.size with | .ok (some n) => n | _ => 0

def Known {β} (f : PField β) : Prop := ∃ n, f.size = .ok (some n)

theorem push_known {β} (st : St β) (n : Nat) (al : Option Nat) (arr : Bool) (src : Option β) :
    (∃ st', push st (.ok (some n)) al arr src = .ok st' ∧ st'.2 = st.2 + n) ∨
    (push st (.ok (some n)) al arr src = .defer ∧ usizeMax < st.2 + n) := by
  unfold push
  simp only []
  split
  · next h0 => left; exact ⟨st, rfl, by omega⟩
  · split
    · left; exact ⟨_, rfl, rfl⟩
    · right; exact ⟨rfl, by omega⟩

theorem pushField_known {β} (st : St β) (f : PField β) (hk : Known f) :
    (∃ st', pushField st f = .ok st' ∧ st'.2 = st.2 + fsz f) ∨
    (pushField st f = .defer ∧ usizeMax < st.2 + fsz f) := by
  obtain ⟨n, hn⟩ := hk
  have : fsz f = n := by simp [fsz, hn]
  unfold pushField
  rw [hn, this]
  exact push_known st n _ _ _

theorem placeStep_known {β} (st : St β) (f : PField β) (hk : Known f) :
    (∃ st', C20.placeStep st f = .ok st' ∧ st'.2 ≤ st.2 + (f.addr.getD 0 + fsz f)) ∨
    (C20.placeStep st f = .defer ∧ usizeMax < st.2 + (f.addr.getD 0 + fsz f)) ∨
    (∃ m, C20.placeStep st f = .err m) := by
  unfold C20.placeStep
  cases ha : f.addr with
  | none =>
    simp only [Option.getD_none]
    rcases pushField_known st f hk with ⟨st', h1, h2⟩ | ⟨h1, h2⟩
    · left; exact ⟨st', h1, by omega⟩
    · right; left; exact ⟨h1, by omega⟩
  | some a =>
    simp only [Option.getD_some]
    split
    · right; right; exact ⟨_, rfl⟩
    · next hlt =>
      unfold pushPad
      rcases push_known st (a - st.2) (some 1) true none with ⟨st1, h1, h2⟩ | ⟨h1, h2⟩
      · rw [h1]
        rcases pushField_known st1 f hk with ⟨st', h3, h4⟩ | ⟨h3, h4⟩
        · left; exact ⟨st', h3, by omega⟩
        · right; left; exact ⟨h3, by omega⟩
      · rw [h1]
        right; left; exact ⟨rfl, by omega⟩

/-- declared offsets plus sizes of a list of pending fields -/
def fieldsExtent {β} (fs : List (PField β)) : Nat := (fs.map fun f => f.addr.getD 0 + fsz f).sum

theorem place_known {β} (fs : List (PField β)) (st : St β) (hk : ∀ f ∈ fs, Known f) :
    (∃ st', place st fs = .ok st' ∧ st'.2 ≤ st.2 + fieldsExtent fs) ∨
    (place st fs = .defer ∧ usizeMax < st.2 + fieldsExtent fs) ∨
    (∃ m, place st fs = .err m) := by
  induction fs generalizing st with
  | nil => exact .inl ⟨st, by simp only [place], Nat.le_add_right _ _⟩
  | cons f fs ih =>
    rw [C20.place_cons]
    simp only [fieldsExtent, List.map_cons, List.sum_cons]
    rcases placeStep_known st f (hk f List.mem_cons_self) with ⟨st1, h1, h2⟩ | ⟨h1, h2⟩ | ⟨m, h1⟩
    · rw [h1]
      have ih := ih st1 (fun g hg => hk g (List.mem_cons_of_mem _ hg))
      simp only [fieldsExtent] at ih
      rcases ih with ⟨st', h3, h4⟩ | ⟨h3, h4⟩ | ⟨m, h3⟩
      · exact .inl ⟨st', h3, by omega⟩
      · exact .inr (.inl ⟨h3, by omega⟩)
      · exact .inr (.inr ⟨m, h3⟩)
    · rw [h1]; exact .inr (.inl ⟨rfl, by omega⟩)
    · rw [h1]; exact .inr (.inr ⟨m, rfl⟩)

/-- the size of the vftable pointer region, if the type owns one -/
def vsz {β} (vptr : Option (PField β)) : Nat := match vptr with | some v => fsz v | none => 0

theorem resolveFrom_defer_big {β} (start : Res (St β)) (fields : List (PField β)) (target : Option Nat) (v : Nat)
    (hs : (∃ st0, start = .ok st0 ∧ st0.2 = v) ∨ (start = .defer ∧ usizeMax < v)) (hk : ∀ f ∈ fields, Known f)
    (h : C20.resolveFrom start fields target = .defer) :
    usizeMax < v + fieldsExtent fields + target.getD 0 := by
  rcases hs with ⟨st0, rfl, h0⟩ | ⟨_, hbig⟩
  · unfold C20.resolveFrom at h
    simp only [] at h
    rcases place_known fields st0 hk with ⟨st1, hp, hle⟩ | ⟨_, hbig⟩ | ⟨m, hp⟩
    · rw [hp] at h
      simp only [] at h
      split at h
      · split at h
        · split at h <;> cases h
        · cases h
      · next hpad =>
        -- the padding up to the declared size
        cases target with
        | none => simp only [padTail] at hpad; cases hpad
        | some t =>
          simp only [padTail] at hpad
          split at hpad
          · rcases push_known st1 (t - st1.2) (some 1) true none with ⟨st2, h1, h2⟩ | ⟨h1, h2⟩
            · unfold pushPad at hpad
              rw [h1] at hpad
              cases hpad
            · simp only [Option.getD_some]
              omega
          · cases hpad
      · cases h
      · cases h
    · omega
    · rw [hp] at h; cases h
  · omega

/-- **the layout defers only beyond `usize::MAX`** when every size is known: the vftable pointer, the
    declared offsets, the field sizes and the declared size add up to more than `usize::MAX` -/
theorem resolve_defer_big {β} (vptr : Option (PField β)) (fields : List (PField β)) (target : Option Nat)
    (hv : ∀ v, vptr = some v → Known v) (hk : ∀ f ∈ fields, Known f)
    (h : Layout.resolve vptr fields target = .defer) :
    usizeMax < vsz vptr + fieldsExtent fields + target.getD 0 := by
  rw [C20.resolve_eq] at h
  refine resolveFrom_defer_big _ fields target _ ?_ hk h
  cases vptr with
  | none => exact .inl ⟨_, rfl, rfl⟩
  | some v => simpa [vsz] using pushField_known ([], 0) v (hv v rfl)

/-- the only region `vftable::build` asks to push is a pointer -/
theorem buildVftable_vregion (s s1 : State) (owner : Path) (vis : Vis) (fb : Option Region)
    (vfns : Option (List SFunc)) (vft : Option Vft) (r : Region)
    (h : buildVftable s owner vis fb vfns = (s1, .ok (vft, some r))) : ∃ t, r.ty = .data (.cptr t) := by
  rcases buildVftable_ok h with ⟨_, _, hp, _⟩ | ⟨_, _, _, _, hp, _⟩ |
    ⟨_, _, _, _, _, _, ⟨_, hp, _⟩ | ⟨_, _, _, _, hp, _⟩⟩
  · cases hp
  · cases hp
  · cases hp
    exact ⟨_, rfl⟩
  · cases hp

/-! ## Part 2: what an unresolved item waits on -/

/-- the type expressions the attempt on a definition waits for: the field types of a type definition,
    the base type of an enum.  The signatures of functions (`vftable` blocks, `impl` blocks) are NOT among
    them: `function::build` turns an undefined name into a hard error. -/
def usedTys (d : G.Item) : List G.Ty :=
  match d.inner with
  | .type td => td.stmts.filterMap fun st => match st.field with | .field _ _ t => some t | .vftable _ => none
  | .enum ed => [ed.ty]

/-- `Module::scope` of the module an item lives in -/
def scopeOf (s : State) (p : Path) : Option (List Path) := (s.moduleFor p).map Mod.scope

/-- why the attempt on an unresolved item answers "try again later" -/
inductive Cause where
  /-- a type name that does not resolve in the scope of the item's module -/
  | missing (name : String)
  /-- an item that is embedded by value (field, `#[base]` field, array element, enum base type) and
      must be resolved first -/
  | waitsFor (q : Path)
  /-- a size that does not fit in a `usize`: pyxis treats `checked_mul` / `checked_add` overflow as
      "size not known yet" -/
  | overflow
deriving DecidableEq, Repr

/-- `p` is an unresolved item of the registry with definition `d`, in a module with scope `sc` -/
def Pend (s : State) (p : Path) (d : G.Item) (sc : List Path) : Prop :=
  ∃ i, s.reg.get p = some i ∧ i.state = .unres d ∧ scopeOf s p = some sc

/-- **the dependency relation read off the definition**: `p` uses the name `n` in a by-value relevant
    position / embeds `q` by value (through the resolution of names in the current key set) / may overflow -/
inductive WaitsOn (s : State) (p : Path) : Cause → Prop
  | missing (d : G.Item) (sc : List Path) (t : G.Ty) (n : String) :
      Pend s p d sc → t ∈ usedTys d → tyName t = some n → WaitsOn s p (.missing n)
  | waitsFor (d : G.Item) (sc : List Path) (t : G.Ty) (dt : DTy) (q : Path) :
      Pend s p d sc → t ∈ usedTys d → s.reg.resolveTy sc t = .ok dt → q ∈ byValue dt → WaitsOn s p (.waitsFor q)
  | overflow (d : G.Item) (sc : List Path) : Pend s p d sc → WaitsOn s p .overflow

/-- the size the registry answers for a region type (0 when unknown) -/
def rsz (r : Registry) (t : RTy) : Nat := match t.size r with | .ok (some n) => n | _ => 0

/-- declared offsets plus sizes of the pending fields of a type -/
def pendExtent (r : Registry) (pending : List (Option Nat × Region)) : Nat :=
  (pending.map fun f => f.1.getD 0 + rsz r f.2.ty).sum

/-- **a size of `p` does not fit in a `usize`**: an array type of `p` has all its by-value dependencies
    resolved and still no size (`checked_mul` failed), or all fields of `p` have a known size and the
    pointer size, the declared offsets, the field sizes and the declared size add up to more than
    `usize::MAX` (a `checked_add` in the placement loop failed) -/
inductive Overflow (s : State) (p : Path) : Prop
  | array (d : G.Item) (sc : List Path) (t : G.Ty) (dt : DTy) :
      Pend s p d sc → t ∈ usedTys d → s.reg.resolveTy sc t = .ok dt →
      (∀ q ∈ byValue dt, ∃ j, s.reg.get q = some j ∧ j.isResolved = true) →
      dt.size s.reg = .ok none → Overflow s p
  | extent (d : G.Item) (sc : List Path) (td : G.TypeDef) (ta : TypeAttrs) (sa : StmtAcc) :
      Pend s p d sc → d.inner = .type td →
      Res.foldlM typeAttrStep {} td.attrs = .ok ta →
      Res.foldlM (stmtStep s.reg sc) {} (td.stmts.zipIdx.map fun p => (p.2, p.1)) = .ok sa →
      (∀ f ∈ sa.pending, ∃ n, f.2.ty.size s.reg = .ok (some n)) →
      usizeMax < s.reg.ps + pendExtent s.reg sa.pending + ta.targetSize.getD 0 → Overflow s p

/-- the cause is what blocks `p` right now, in state `s` -/
def Active (s : State) (p : Path) : Cause → Prop
  | .missing n => ∃ sc, scopeOf s p = some sc ∧ s.reg.resolveString sc n = none
  | .waitsFor q => ∃ j, s.reg.get q = some j ∧ j.isResolved = false
  | .overflow => Overflow s p

/-! ## Part 3: a deferred attempt has a cause -/

/-- an unknown size of a resolved type expression: a by-value dependency is unresolved, or all are
    resolved (and the array size overflowed) -/
theorem unknown_size_cause (s : State) (p : Path) (d : G.Item) (sc : List Path) (t : G.Ty) (dt : DTy)
    (hp : Pend s p d sc) (ht : t ∈ usedTys d) (hr : s.reg.resolveTy sc t = .ok dt)
    (hsz : dt.size s.reg = .ok none) : ∃ c, WaitsOn s p c ∧ Active s p c := by
  by_cases h : ∃ q ∈ byValue dt, ∃ j, s.reg.get q = some j ∧ j.isResolved = false
  · obtain ⟨q, hq, j, hj, hu⟩ := h
    exact ⟨.waitsFor q, .waitsFor d sc t dt q hp ht hr hq, j, hj, hu⟩
  · refine ⟨.overflow, .overflow d sc hp, .array d sc t dt hp ht hr (fun q hq => ?_) hsz⟩
    have hc : (s.reg.get q).isSome = true := (resolveTy_byValue hr q hq).1
    obtain ⟨j, hj⟩ := Option.isSome_iff_exists.mp hc
    cases hjr : j.isResolved with
    | true => exact ⟨j, hj, hjr⟩
    | false => exact absurd ⟨q, hq, j, hj, hjr⟩ h

theorem missing_name_cause (s : State) (p : Path) (d : G.Item) (sc : List Path) (t : G.Ty)
    (hp : Pend s p d sc) (ht : t ∈ usedTys d) (hr : s.reg.resolveTy sc t = .defer) :
    ∃ c, WaitsOn s p c ∧ Active s p c := by
  obtain ⟨n, hn, hnone⟩ := resolveTy_defer s.reg sc t hr
  obtain ⟨i, _, _, hsc⟩ := hp
  exact ⟨.missing n, .missing d sc t n ⟨i, ‹_›, ‹_›, hsc⟩ ht hn, sc, hsc, hnone⟩

/-- **an enum defers for an undefined base name, an unresolved base type, or an oversized one** -/
theorem buildEnum_defer_cause (s : State) (p : Path) (i : ItemDef) (d : G.Item) (ed : G.EnumDef)
    (hg : s.reg.get p = some i) (hu : i.state = .unres d) (hin : d.inner = .enum ed)
    (h : buildEnum s p ed = .defer) : ∃ c, WaitsOn s p c ∧ Active s p c := by
  refine (C12.buildEnum_only (S := C12.AnySite) s p ed (fun _ _ => C12.PO.any) ?_).1 h
  intro m hm hcase
  have hp : Pend s p d m.scope := ⟨i, hg, hu, by simp [scopeOf, hm]⟩
  have ht : ed.ty ∈ usedTys d := by simp [usedTys, hin]
  rcases hcase with hdefer | ⟨ty, hty, hsz⟩
  · exact missing_name_cause s p d m.scope ed.ty hp ht hdefer
  · exact unknown_size_cause s p d m.scope ed.ty ty hp ht hty hsz

/-- a known size reads resolved entries only, so it is the same in a registry that keeps every entry -/
theorem rsize_of_ext {r r' : Registry} (hps : r'.ps = r.ps) (hget : ∀ q i, r.get q = some i → r'.get q = some i)
    {t : RTy} {n : Nat} (hs : t.size r = .ok (some n)) : t.size r' = .ok (some n) := by
  rw [← hs]
  refine (rsize_congr hps fun q hq => Registry.seen_of_get ?_).1
  cases t with
  | fn cc args ret => cases hq
  | data d =>
    obtain ⟨i, _, hi, _⟩ := Mono.knownD_of_size r d n hs q hq
    rw [hi, hget q i hi]

theorem liftS_defer {α β} {s : State} {x : Res α} {k : α → State × Res β} (h : (C20.liftS s x k).2 = .defer) :
    x = .defer ∨ ∃ a, x = .ok a ∧ (k a).2 = .defer := by
  cases x with
  | ok a => exact .inr ⟨a, rfl, h⟩
  | defer => exact .inl rfl
  | _ => cases h

theorem bindS_defer {α β} {x : State × Res α} {k : State → α → Res β} (h : (C20.bindS x k).2 = .defer) :
    x.2 = .defer ∨ ∃ s1 a, x = (s1, .ok a) ∧ k s1 a = .defer := by
  obtain ⟨s1, r⟩ := x
  cases r with
  | ok a => exact .inr ⟨s1, a, rfl, h⟩
  | defer => exact .inl rfl
  | _ => cases h

theorem baseGate_open {α} {s : State} {fb : Option Region} (k : State × Res α)
    (h : ∀ b, fb = some b → ∃ n, b.ty.size s.reg = .ok (some n)) : C20.baseGate s fb k = k := by
  unfold C20.baseGate
  cases fb with
  | none => rfl
  | some b => obtain ⟨n, hn⟩ := h b rfl; simp only [hn]

theorem rrTail_defer_resolve {reg : Registry} {pending : List (Option Nat × Region)} {target : Option Nat}
    {vft : Option Vft} {vregion : Option Region} (h : C20.rrTail reg pending target vft vregion = .defer) :
    Layout.resolve (vregion.map (toPField reg none)) (pending.map fun p => toPField reg p.1 p.2) target
      = .defer := by
  unfold C20.rrTail at h
  split at h
  · split at h
    · cases h
    · exact absurd (cast_defer h) (C12.nameRegions_only _ _ _ (fun _ => C12.PO.any)).nd
  · exact cast_defer h

/-- **`resolve_regions` with all field sizes known defers only beyond `usize::MAX`** -/
theorem resolveRegions_defer_big (s : State) (owner : Path) (vis : Vis) (target : Option Nat)
    (pending : List (Option Nat × Region)) (vfns : Option (List SFunc))
    (hall : ∀ f ∈ pending, ∃ n, f.2.ty.size s.reg = .ok (some n))
    (h : (resolveRegions s owner vis target pending vfns).2 = .defer) :
    usizeMax < s.reg.ps + pendExtent s.reg pending + target.getD 0 := by
  have hfb : ∀ b, (pending.map (·.2)).find? (·.isBase) = some b → ∃ n, b.ty.size s.reg = .ok (some n) := by
    intro b hb
    obtain ⟨f, hf, rfl⟩ := List.mem_map.mp (List.mem_of_find?_eq_some hb)
    exact hall f hf
  rw [C20.resolveRegions_head, C20.rrHead, baseGate_open _ hfb] at h
  rcases bindS_defer h with hd | ⟨s1, ⟨vft, vregion⟩, hb, htail⟩
  · exact absurd hd (C12.buildVftable_only s owner vis _ vfns (fun _ _ _ => C12.PO.any)).nd
  have hreach := C02.buildVftable_reach2 s owner vis ((pending.map (·.2)).find? (·.isBase)) vfns
  rw [hb] at hreach
  have hps : s1.reg.ps = s.reg.ps := hreach.ps
  have hsize {t n} := rsize_of_ext (r' := s1.reg) (t := t) (n := n) hps (fun _ _ => hreach.get)
  -- the vftable pointer has the size of a pointer
  have hv : ∀ v, vregion.map (toPField s1.reg none) = some v → v.size = .ok (some s.reg.ps) := by
    intro v hv
    cases vregion with
    | none => cases hv
    | some r =>
      cases hv
      obtain ⟨t, ht⟩ := buildVftable_vregion s s1 owner vis _ vfns vft r hb
      simp only [toPField, ht, RTy.size, DTy.size, hps]
  have hk : ∀ f ∈ pending.map (fun p => toPField s1.reg p.1 p.2), Known f := by
    intro f hf
    obtain ⟨g, hg, rfl⟩ := List.mem_map.mp hf
    obtain ⟨n, hn⟩ := hall g hg
    exact ⟨n, hsize hn⟩
  have hbig := resolve_defer_big _ _ _ (fun v hv' => ⟨_, hv v hv'⟩) hk (rrTail_defer_resolve htail)
  have h1 : vsz (vregion.map (toPField s1.reg none)) ≤ s.reg.ps := by
    cases hvr : vregion.map (toPField s1.reg none) with
    | none => exact Nat.zero_le _
    | some v => simp only [vsz, fsz, hv v hvr]; exact Nat.le_refl _
  have h2 : fieldsExtent (pending.map fun p => toPField s1.reg p.1 p.2) = pendExtent s.reg pending := by
    unfold fieldsExtent pendExtent
    rw [List.map_map]
    congr 1
    apply List.map_congr_left
    intro g hg
    obtain ⟨n, hn⟩ := hall g hg
    simp only [Function.comp, toPField, fsz, rsz, hn, hsize hn]
  omega

theorem mem_usedTys_type {d : G.Item} {td : G.TypeDef} (hin : d.inner = .type td) {t : G.Ty} :
    t ∈ usedTys d ↔ ∃ st ∈ td.stmts, ∃ v n, st.field = .field v n t := by
  simp only [usedTys, hin, List.mem_filterMap]
  constructor
  · rintro ⟨st, hst, hft⟩
    cases hf : st.field with
    | vftable fns => rw [hf] at hft; cases hft
    | field v n ty => rw [hf] at hft; cases hft; exact ⟨st, hst, v, n, hf⟩
  · rintro ⟨st, hst, v, n, hf⟩
    exact ⟨st, hst, by rw [hf]⟩

/-- base function injection, the impl functions, the defaultable check and the alignment block never defer -/
theorem btAfter_ne_defer (s1 : State) (path : Path) (doc : Option String) (ta : TypeAttrs) (x : C20.RROut) :
    C20.btAfter s1 path doc ta x ≠ .defer := by
  intro h
  unfold C20.btAfter at h
  split at h
  · cases h
  · simp only [] at h
    split at h
    · split at h
      · split at h
        · split at h
          · cases h
          · exact (C12.alignCheck_only _ _ _ _ _ C12.PO.any C12.PO.any).nd (cast_defer h)
        · have hd := cast_defer h
          split at hd
          · exact (C12.checkDefaultable_only _ _).nd hd
          · cases hd
      · exact (C12.addImplFns_only _ _ _ _ (fun _ => C12.PO.any)).nd (cast_defer h)
    · exact (C12.injectBases_only _ _ _ (fun _ _ => C12.PO.any)).nd (cast_defer h)

/-- **a type defers for an undefined field type name, an unresolved by-value dependency, or a size
    beyond `usize::MAX`** – nothing else: pointers to unresolved types and function signatures never defer,
    nor does anything after `resolve_regions` -/
theorem buildType_defer_cause (s : State) (p : Path) (vis : Vis) (i : ItemDef) (d : G.Item) (td : G.TypeDef)
    (hg : s.reg.get p = some i) (hu : i.state = .unres d) (hin : d.inner = .type td)
    (h : (buildType s p vis td).2 = .defer) : ∃ c, WaitsOn s p c ∧ Active s p c := by
  rw [C20.buildType_btOf] at h
  unfold C20.btOf at h
  split at h
  · cases h
  next m hm =>
  have hp : Pend s p d m.scope := ⟨i, hg, hu, by simp [scopeOf, hm]⟩
  split at h
  · cases h
  rcases liftS_defer h with hta | ⟨ta, hta, h⟩
  · exact absurd hta (C12.Only.foldlM (fun b a _ => C12.typeAttrStep_only b a) _).nd
  rcases liftS_defer h with hsa | ⟨sa, hsa, h⟩
  · obtain ⟨st, hst, v, n, t, hfield, hres⟩ := stmts_fold_defer s.reg m.scope td.stmts hsa
    exact missing_name_cause s p d m.scope t hp ((mem_usedTys_type hin).mpr ⟨st, hst, v, n, hfield⟩) hres
  by_cases hno : ∃ f ∈ sa.pending, f.2.ty.size s.reg = .ok none
  · obtain ⟨f, hf, hsz⟩ := hno
    obtain ⟨st, hst, v, n, t, _, dt, hfield, _, _, hres, hty⟩ := CaseLift.stmts_pending_src hsa f hf
    rw [hty] at hsz
    exact unknown_size_cause s p d m.scope t dt hp ((mem_usedTys_type hin).mpr ⟨st, hst, v, n, hfield⟩) hres hsz
  · -- every field size is known: only the placement can have deferred
    have hall : ∀ f ∈ sa.pending, ∃ n, f.2.ty.size s.reg = .ok (some n) := by
      intro f hf
      obtain ⟨o, ho⟩ := RTy.size_ok s.reg f.2.ty
      cases o with
      | none => exact absurd ⟨f, hf, ho⟩ hno
      | some n => exact ⟨n, ho⟩
    rcases bindS_defer h with hrr | ⟨s1, x, _, hx⟩
    · have hbig := resolveRegions_defer_big s p vis ta.targetSize sa.pending sa.vfns hall hrr
      exact ⟨.overflow, .overflow d m.scope hp, .extent d m.scope td ta sa hp hin hta hsa hall hbig⟩
    · exact absurd hx (btAfter_ne_defer _ _ _ _ _)

/-- the attempt on the unresolved item `p` in state `t` answers "try again later" (`Ok(None)`) -/
def Deferred (t : State) (p : Path) : Prop :=
  ∃ i d, t.reg.get p = some i ∧ i.state = .unres d ∧
    (match d.inner with
     | .type td => (buildType t p d.vis td).2 = .defer
     | .enum ed => buildEnum t p ed = .defer)

theorem deferred_has_cause (t : State) (p : Path) (h : Deferred t p) : ∃ c, WaitsOn t p c ∧ Active t p c := by
  obtain ⟨i, d, hg, hu, h⟩ := h
  cases hin : d.inner with
  | type td => rw [hin] at h; exact buildType_defer_cause t p d.vis i d td hg hu hin h
  | enum ed => rw [hin] at h; exact buildEnum_defer_cause t p i d ed hg hu hin h

/-! ## Part 4: the last round of a build that gives up -/

theorem not_mem_ulist_setState (r : Registry) (p : Path) (x : Resolved) : p ∉ ulist (r.setState p (.res x)) := by
  intro hq
  simp only [ulist, Registry.setState, List.mem_map, List.mem_filter] at hq
  obtain ⟨e', ⟨⟨e, he, rfl⟩, hf⟩, hk⟩ := hq
  by_cases hk' : (e.1 == p) = true
  · simp [hk', ItemDef.isResolved, ItemDef.resolved?] at hf
  · simp only [hk'] at hk
    simp only [Bool.false_eq_true, if_false] at hk
    simp [hk] at hk'

theorem get_of_mem_ulist (r : Registry) (hn : (keys r).Nodup) (p : Path) (h : p ∈ ulist r) :
    ∃ j, r.get p = some j ∧ j.isResolved = false ∧ j.isPredefined = false := by
  simp only [ulist, List.mem_map, List.mem_filter] at h
  obtain ⟨e, ⟨he, hf⟩, rfl⟩ := h
  refine ⟨e.2, Mono.lookup_of_mem r.types hn e.1 e.2 he, ?_, ?_⟩
  · simp only [Bool.and_eq_true, Bool.not_eq_eq_eq_not, Bool.not_true] at hf; exact hf.2
  · simp only [Bool.and_eq_true, Bool.not_eq_eq_eq_not, Bool.not_true] at hf; exact hf.1

theorem mem_ulist_of_get (r : Registry) (p : Path) (j : ItemDef) (hg : r.get p = some j)
    (hr : j.isResolved = false) (hp : j.isPredefined = false) : p ∈ ulist r := by
  simp only [ulist, List.mem_map, List.mem_filter]
  exact ⟨(p, j), ⟨C14.mem_of_lookup _ _ _ hg, by simp [hr, hp]⟩, rfl⟩

theorem get_setState_self_resolved (r : Registry) (p : Path) (x : Resolved) (j : ItemDef)
    (h : (r.setState p (.res x)).get p = some j) : j.isResolved = true := by
  rcases C12.get_setState_some h with ⟨_, _, _, rfl⟩ | ⟨hne, _⟩
  · rfl
  · exact absurd rfl hne

/-- an attempt that answers `Ok` and leaves the item unresolved was a deferred one, and the only thing it may
    have done to the state is registering the generated vftable item -/
theorem attempt_deferred (t t' : State) (p : Path)
    (h : attemptItem t p = (t', .ok ())) (hu : ∃ j, t'.reg.get p = some j ∧ j.isResolved = false) :
    Deferred t p ∧ Reach t t' p := by
  obtain ⟨j, hj, hjr⟩ := hu
  cases hg : t.reg.get p with
  | none => rw [attemptItem_of_none hg] at h; cases h
  | some item =>
    cases hd : item.state with
    | res r =>
      rw [attemptItem_of_res hg hd] at h
      cases h
      rw [hg] at hj; cases hj
      rw [C02.isResolved_of_res hd] at hjr; cases hjr
    | unres d =>
      have hreach := attemptDef_reach2 t p d
      rw [attemptItem_of_unres hg hd] at h
      cases hb : C20.attemptDef t p d with
      | mk s1 x =>
        rw [hb] at h hreach
        cases x with
        | ok r =>
          cases h
          rw [get_setState_self_resolved _ _ _ _ hj] at hjr
          cases hjr
        | defer =>
          cases h
          refine ⟨⟨item, d, hg, hd, ?_⟩, hreach.reach⟩
          unfold C20.attemptDef at hb
          cases hin : d.inner with
          | type td => simp only [hin] at hb ⊢; rw [hb]
          | enum ed => simp only [hin, Prod.mk.injEq] at hb ⊢; exact hb.2
        | err m => cases h
        | panic m => cases h

/-- two states the causes cannot tell apart: same entries, same pointer size, same module scopes (they may differ
    in the order of the registry entries and in the `defined paths` of the modules) -/
structure Same (s t : State) : Prop where
  get : ∀ q, t.reg.get q = s.reg.get q
  ps : t.reg.ps = s.reg.ps
  scope : ∀ q, scopeOf t q = scopeOf s q

theorem Same.refl (s : State) : Same s s := ⟨fun _ => rfl, rfl, fun _ => rfl⟩
theorem Same.symm {s t : State} (h : Same s t) : Same t s :=
  ⟨fun q => (h.get q).symm, h.ps.symm, fun q => (h.scope q).symm⟩
theorem Same.trans {s t u : State} (h1 : Same s t) (h2 : Same t u) : Same s u :=
  ⟨fun q => (h2.get q).trans (h1.get q), h2.ps.trans h1.ps, fun q => (h2.scope q).trans (h1.scope q)⟩

theorem Same.contains {s t : State} (h : Same s t) (q : Path) : t.reg.contains q = s.reg.contains q := by
  simp only [Registry.contains, h.get]

theorem addItem_scopeOf (s s' : State) (i : ItemDef) (h : s.addItem i = .ok s') (q : Path) :
    scopeOf s' q = scopeOf s q := by
  have key : ∀ pp, (s'.getModule pp).map Mod.scope = (s.getModule pp).map Mod.scope := by
    intro pp
    obtain ⟨parent, m0, _, hm0, rfl⟩ := C14.addItem_inv s s' i h
    unfold State.getModule at *
    simp only [C14.lookup_map_replace]
    by_cases hp : pp = parent
    · subst hp
      simp [hm0, Mod.scope]
    · have : (pp == parent) = false := by simpa using hp
      simp only [this]
      rfl
  unfold scopeOf State.moduleFor
  cases Path.parent? q with
  | none => rfl
  | some parent => exact key parent

theorem Reach.same {s s1 : State} {p : Path} (h : Reach s s1 p) (hn : (keys s.reg).Nodup)
    (hl : s1.reg.types.length = s.reg.types.length) : Same s s1 := by
  rcases h with rfl | ⟨item, _, _, hex, ha⟩
  · exact Same.refl _
  · have hreg := C14.addItem_reg s s1 item ha
    rcases hex with hnone | hsome
    · exfalso
      have hall : ∀ e ∈ s.reg.types, (e.1 != item.path) = true := by
        intro e he
        have : e.1 ≠ item.path := by
          intro heq
          have hc : s.reg.contains item.path = true :=
            (contains_iff_mem_keys s.reg item.path).mpr (heq ▸ List.mem_map.mpr ⟨e, he, rfl⟩)
          simp [Registry.contains, hnone] at hc
        simpa using this
      rw [hreg] at hl
      simp only [Registry.add, List.length_cons, List.filter_eq_self.mpr hall] at hl
      omega
    · refine ⟨?_, by rw [hreg]; rfl, addItem_scopeOf s s1 item ha⟩
      intro q
      rw [hreg, C14.get_add]
      split
      · next e => rw [e, hsome]
      · rfl

theorem Prog.length_le {r r' : Registry} {l : List Path} (h : Prog r r' l) (hn : (keys r).Nodup) :
    r.types.length ≤ r'.types.length := by
  have := nodup_subset_length (keys r) (keys r') hn (fun q hq =>
    (contains_iff_mem_keys r' q).mp (h.mono q ((contains_iff_mem_keys r q).mpr hq)))
  simpa [keys] using this

/-- **the last round**: if a whole round over `l` leaves every item of `l` unresolved and registers nothing,
    every attempt of the round was a deferred one, made in a state the causes cannot tell from the initial one -/
theorem stuck_round (l : List Path) (t t1 : State) (hn : (keys t.reg).Nodup)
    (hr : runRound t l = (t1, .ok ())) (hlen : t1.reg.types.length = t.reg.types.length)
    (hu : ∀ p ∈ l, p ∈ ulist t1.reg) :
    Same t t1 ∧ ∀ p ∈ l, ∃ t', Same t t' ∧ Deferred t' p := by
  induction l generalizing t with
  | nil =>
    simp only [runRound, Prod.mk.injEq, and_true] at hr
    subst hr
    exact ⟨Same.refl _, fun p hp => by cases hp⟩
  | cons p ps ih =>
    unfold runRound at hr
    split at hr
    · next s1 ha =>
      have hp1 := attemptItem_prog t p hn
      rw [ha] at hp1
      simp only [] at hp1
      have hp2 := runRound_prog ps s1 hp1.nodup
      rw [hr] at hp2
      simp only [] at hp2
      have l1 := hp1.length_le hn
      have l2 := hp2.length_le hp1.nodup
      have hpu : p ∈ ulist s1.reg := hp2.sub p (hu p List.mem_cons_self)
      obtain ⟨j, hj, hjr, _⟩ := get_of_mem_ulist s1.reg hp1.nodup p hpu
      obtain ⟨hdef, hreach⟩ := attempt_deferred t s1 p ha ⟨j, hj, hjr⟩
      have hsame : Same t s1 := hreach.same hn (by omega)
      obtain ⟨hs1, hrest⟩ := ih s1 hp1.nodup hr (by omega) (fun q hq => hu q (List.mem_cons_of_mem _ hq))
      refine ⟨hsame.trans hs1, ?_⟩
      intro q hq
      rcases List.mem_cons.mp hq with rfl | hq
      · exact ⟨t, Same.refl _, hdef⟩
      · obtain ⟨t', h1, h2⟩ := hrest q hq
        exact ⟨t', hsame.trans h1, h2⟩
    · next s1 e hne ha =>
      simp only [Prod.mk.injEq] at hr
      exact (hne hr.2).elim

/-! ### causes do not distinguish `Same` states -/

theorem Same.rsize {s t : State} (h : Same s t) (ty : RTy) : ty.size t.reg = ty.size s.reg :=
  (rsize_congr h.ps (fun q _ => Registry.seen_of_get (h.get q))).1

theorem Same.pend {s t : State} (h : Same s t) {p : Path} {d : G.Item} {sc : List Path} (hp : Pend t p d sc) :
    Pend s p d sc := by
  obtain ⟨i, hg, hu, hsc⟩ := hp
  exact ⟨i, by rw [← h.get p]; exact hg, hu, by rw [← h.scope p]; exact hsc⟩

/-- what an item waits on is read off its pending definition and what the types it uses resolve to -/
theorem WaitsOn.transport {s t : State} {p : Path} {c : Cause} (hw : WaitsOn t p c)
    (hpend : ∀ d sc, Pend t p d sc → Pend s p d sc)
    (hres : ∀ d sc ty, Pend s p d sc → ty ∈ usedTys d → t.reg.resolveTy sc ty = s.reg.resolveTy sc ty) :
    WaitsOn s p c := by
  cases hw with
  | missing d sc ty n hp ht hn => exact .missing d sc ty n (hpend d sc hp) ht hn
  | waitsFor d sc ty dt q hp ht hr hq =>
    have hp0 := hpend d sc hp
    exact .waitsFor d sc ty dt q hp0 ht (by rw [← hres d sc ty hp0 ht]; exact hr) hq
  | overflow d sc hp => exact .overflow d sc (hpend d sc hp)

theorem active_missing_transport {s t : State} {p : Path} {n : String} (hsc : scopeOf t p = scopeOf s p)
    (hres : ∀ sc, scopeOf s p = some sc → t.reg.resolveString sc n = s.reg.resolveString sc n)
    (ha : Active t p (.missing n)) : Active s p (.missing n) := by
  obtain ⟨sc, hsc', hnone⟩ := ha
  have hsc0 : scopeOf s p = some sc := hsc ▸ hsc'
  exact ⟨sc, hsc0, by rw [← hres sc hsc0]; exact hnone⟩

theorem Same.waitsOn {s t : State} (h : Same s t) {p : Path} {c : Cause} (hw : WaitsOn t p c) : WaitsOn s p c :=
  hw.transport (fun _ _ => h.pend) (fun _ _ _ _ _ => resolveTy_congr (fun q _ => h.contains q))

theorem Same.overflow {s t : State} (h : Same s t) {p : Path} (ho : Overflow t p) : Overflow s p := by
  cases ho with
  | array d sc ty dt hp ht hr hall hsz =>
    refine .array d sc ty dt (h.pend hp) ht (by rw [← resolveTy_congr (fun q _ => h.contains q)]; exact hr) ?_ ?_
    · intro q hq
      obtain ⟨j, hj, hres⟩ := hall q hq
      exact ⟨j, by rw [← h.get q]; exact hj, hres⟩
    · rw [← (dsize_congr h.ps (fun q _ => Registry.seen_of_get (h.get q))).1]; exact hsz
  | extent d sc td ta sa hp hin hta hsa hall hbig =>
    have hrsz : ∀ ty, rsz t.reg ty = rsz s.reg ty := fun ty => by simp only [rsz, h.rsize]
    refine .extent d sc td ta sa (h.pend hp) hin hta ?_ ?_ ?_
    · rw [← Mono.stmtStep_fun s.reg t.reg h.contains]; exact hsa
    · intro f hf
      obtain ⟨n, hn⟩ := hall f hf
      exact ⟨n, by rw [← h.rsize]; exact hn⟩
    · have : pendExtent t.reg sa.pending = pendExtent s.reg sa.pending := by simp only [pendExtent, hrsz]
      rw [← this, ← h.ps]; exact hbig

theorem Same.active {s t : State} (h : Same s t) {p : Path} {c : Cause} (ha : Active t p c) : Active s p c := by
  cases c with
  | missing n => exact active_missing_transport (h.scope p) (fun _ _ => resolveString_congr (fun q _ => h.contains q)) ha
  | waitsFor q =>
    obtain ⟨j, hj, hu⟩ := ha
    exact ⟨j, by rw [← h.get q]; exact hj, hu⟩
  | overflow => exact h.overflow ha

/-- `s'` is the state after some number of complete rounds of the resolution loop from `s`, each ending `Ok` -/
inductive Rounds (prio : List Path) : State → State → Prop
  | refl (s : State) : Rounds prio s s
  | head (s s1 s' : State) : runRound s (s.reg.unresolved prio) = (s1, .ok ()) → Rounds prio s1 s' → Rounds prio s s'

/-- the build gives up in `s'` with the list `l`: `l` is the (non-empty) list of unresolved items of `s'`, and a
    whole round over `l` from `s'` ended `Ok` with the same list and the same number of registered items -/
structure StuckAt (prio : List Path) (s' : State) (l : List Path) : Prop where
  list : l = s'.reg.unresolved prio
  ne : l ≠ []
  round : ∃ s1, runRound s' l = (s1, .ok ()) ∧ l = s1.reg.unresolved prio ∧
    s'.reg.types.length = s1.reg.types.length

theorem Rounds.induct {P : State → Prop} (round : ∀ s l, P s → P (runRound s l).1) {prio : List Path}
    {s s' : State} (h : Rounds prio s s') (h0 : P s) : P s' := by
  induction h with
  | refl s => exact h0
  | head s s1 s' hr _ ih =>
    have h1 := round s (s.reg.unresolved prio) h0
    rw [hr] at h1
    exact ih h1

theorem resolveLoop_nonterm_inv (prio : List Path) (fuel : Nat) (s : State) (l : List Path)
    (h : resolveLoop prio fuel s = .nonterm l) : ∃ s', Rounds prio s s' ∧ StuckAt prio s' l := by
  refine resolveLoop_rounds (P := fun _ s o => o = .nonterm l → ∃ s', Rounds prio s s' ∧ StuckAt prio s' l)
    (fun _ => nofun) (fun _ _ _ => nofun) ?_ ?_ (fun _ _ _ _ _ => nofun) (fun _ _ _ _ _ => nofun)
    (fun _ _ _ _ => nofun) fuel s h
  · intro n s s1 hne hr h1 h2 e
    cases e
    exact ⟨s, .refl s, rfl, hne, s1, hr, h1, h2⟩
  · intro n s s1 o _ hr _ ih e
    obtain ⟨s', h1, h2⟩ := ih e
    exact ⟨s', .head s s1 s' hr h1, h2⟩

theorem build_nonterm_inv (s : State) (prio : List Path) (l : List Path) (h : s.build prio = .nonterm l) :
    ∃ fuel, resolveLoop prio fuel s = .nonterm l := by
  rw [State.build_eq] at h
  refine ⟨2 * s.nUnres + 2, ?_⟩
  generalize resolveLoop prio (2 * s.nUnres + 2) s = o at h ⊢
  cases o with
  | ok s1 => simp only [C20.buildFinish] at h; split at h <;> cases h
  | _ => exact h

/-- predefined items are resolved (true of every state made by `SemanticState::new` and `add_module`) -/
def PredefResolved (s : State) : Prop :=
  ∀ q j, s.reg.get q = some j → j.isPredefined = true → j.isResolved = true

theorem PredefResolved.not_predef {s : State} (hp : PredefResolved s) {q : Path} {j : ItemDef}
    (hj : s.reg.get q = some j) (hu : j.isResolved = false) : j.isPredefined = false := by
  cases hpre : j.isPredefined with
  | false => rfl
  | true => rw [hp q j hj hpre] at hu; cases hu

theorem addItem_predef (s s' : State) (i : ItemDef) (hs : PredefResolved s)
    (hi : i.isPredefined = true → i.isResolved = true) (h : s.addItem i = .ok s') : PredefResolved s' := by
  intro q j hj hpre
  rw [C14.addItem_reg s s' i h] at hj
  rcases Registry.get_add_some hj with ⟨_, rfl⟩ | ⟨_, hj⟩
  · exact hi hpre
  · exact hs q j hj hpre

theorem setState_predef (s : State) (p : Path) (x : Resolved) (hp : PredefResolved s) :
    PredefResolved { s with reg := s.reg.setState p (.res x) } := by
  intro q j hj hpre
  rcases C12.get_setState_some hj with ⟨rfl, j0, _, rfl⟩ | ⟨_, hj⟩
  · rfl
  · exact hp q j hj hpre

theorem attemptItem_predef (s : State) (p : Path) (hp : PredefResolved s) : PredefResolved (attemptItem s p).1 := by
  refine attemptItem_induct hp (fun _ d _ _ => ?_) (fun _ _ s1 r _ _ _ h1 => setState_predef s1 p r h1)
  rcases attemptDef_reach2 s p d with e | ⟨vis, fns, item, hi, _, ha⟩
  · rw [e]; exact hp
  · refine addItem_predef s _ item hp (fun _ => ?_) ha
    unfold buildVftableItem at hi
    obtain ⟨_, _, rfl⟩ := Option.map_eq_some_iff.mp hi
    rfl

theorem Rounds.inv {prio : List Path} {s s' : State} (h : Rounds prio s s') (hs : C12.StateOkB s)
    (hp : PredefResolved s) : C12.StateOkB s' ∧ PredefResolved s' :=
  h.induct (P := fun s => C12.StateOkB s ∧ PredefResolved s)
    (runRound_induct fun s p h => ⟨C12.attemptItem_ok s p h.1, attemptItem_predef s p h.2⟩) ⟨hs, hp⟩

/-- **in the state where the build gives up, every listed item has an active cause, and an item it waits for is
    listed too** -/
theorem stuck_has_cause_at (prio : List Path) (s' : State) (l : List Path) (hs : C12.StateOkB s')
    (hp : PredefResolved s') (hst : StuckAt prio s' l) :
    ∀ p ∈ l, ∃ c, WaitsOn s' p c ∧ Active s' p c ∧ (match c with | .waitsFor q => q ∈ l | _ => True) := by
  obtain ⟨hl, _, s1, hr, hl1, hlen⟩ := hst
  have hn : (keys s'.reg).Nodup := hs.ok.reg.keys
  have hu : ∀ p ∈ l, p ∈ ulist s1.reg := by
    intro p hp
    rw [hl1, unresolved_eq, List.mem_mergeSort] at hp
    exact hp
  obtain ⟨_, hall⟩ := stuck_round l s' s1 hn hr hlen.symm hu
  intro p hpl
  obtain ⟨t', hsame, hdef⟩ := hall p hpl
  obtain ⟨c, hw, ha⟩ := deferred_has_cause t' p hdef
  have ha' := hsame.active ha
  refine ⟨c, hsame.waitsOn hw, ha', ?_⟩
  cases c with
  | missing n => trivial
  | overflow => trivial
  | waitsFor q =>
    obtain ⟨j, hj, hjr⟩ := ha'
    show q ∈ l
    rw [hl, unresolved_eq, List.mem_mergeSort]
    exact mem_ulist_of_get s'.reg q j hj hjr (hp.not_predef hj hjr)

theorem stuck_has_cause_lem (s : State) (prio : List Path) (hs : C12.StateOkB s) (hp : PredefResolved s)
    (l : List Path) (h : s.build prio = .nonterm l) :
    ∃ s', Rounds prio s s' ∧ StuckAt prio s' l ∧
      ∀ p ∈ l, ∃ c, WaitsOn s' p c ∧ Active s' p c ∧ (match c with | .waitsFor q => q ∈ l | _ => True) := by
  obtain ⟨fuel, hf⟩ := build_nonterm_inv s prio l h
  obtain ⟨s', hr, hst⟩ := resolveLoop_nonterm_inv prio fuel s l hf
  obtain ⟨hs', hp'⟩ := hr.inv hs hp
  exact ⟨s', hr, hst, stuck_has_cause_at prio s' l hs' hp' hst⟩

/-! ## Part 5: the converse, given that the dependency relation of every later state is the one of the initial state -/

/-- every type name used (in a field type / as enum base) by an unresolved definition resolves in its scope -/
def AllDefined (s : State) : Prop := ∀ p n, WaitsOn s p (.missing n) → ¬ Active s p (.missing n)

/-- the by-value dependency between the *definitions* of unresolved items: `p` embeds the unresolved `q` by value -/
def StaticWaits (s : State) (p q : Path) : Prop := WaitsOn s p (.waitsFor q) ∧ Active s p (.waitsFor q)

/-- by-value embedding among the unresolved items has no cycle -/
def Acyclic (s : State) : Prop := ∃ rank : Path → Nat, ∀ p q, StaticWaits s p q → rank q < rank p

theorem exists_min_rank (rank : Path → Nat) (l : List Path) (hne : l ≠ []) :
    ∃ p ∈ l, ∀ q ∈ l, rank p ≤ rank q := by
  induction l with
  | nil => exact absurd rfl hne
  | cons a l ih =>
    by_cases hl : l = []
    · subst hl
      exact ⟨a, List.mem_cons_self, fun q hq => by rw [List.mem_singleton.mp hq]; exact Nat.le_refl _⟩
    · obtain ⟨m, hm, hmin⟩ := ih hl
      by_cases hle : rank a ≤ rank m
      · refine ⟨a, List.mem_cons_self, fun q hq => ?_⟩
        rcases List.mem_cons.mp hq with rfl | hq
        · exact Nat.le_refl _
        · exact Nat.le_trans hle (hmin q hq)
      · refine ⟨m, List.mem_cons_of_mem _ hm, fun q hq => ?_⟩
        rcases List.mem_cons.mp hq with rfl | hq
        · omega
        · exact hmin q hq

/-- **names defined and by-value embedding acyclic ⇒ a build that gives up does so for a size beyond `usize::MAX`**,
    whenever what an item of a state the rounds reach waits on, and whether that is an undefined name or an
    unresolved dependency, can be read in the initial state (`T`): the item of least rank among the listed ones has
    no other cause left -/
theorem stuck_overflow_of_transport (s : State) (prio : List Path) (hs : C12.StateOkB s) (hp : PredefResolved s)
    (T : ∀ s', Rounds prio s s' → ∀ p c, WaitsOn s' p c →
      WaitsOn s p c ∧ (c ≠ .overflow → Active s' p c → Active s p c))
    (hdef : AllDefined s) (hacyc : Acyclic s) (l : List Path) (h : s.build prio = .nonterm l) :
    ∃ s', Rounds prio s s' ∧ StuckAt prio s' l ∧ ∃ p ∈ l, Overflow s' p := by
  obtain ⟨rank, hrank⟩ := hacyc
  obtain ⟨s', hr, hst, hcause⟩ := stuck_has_cause_lem s prio hs hp l h
  refine ⟨s', hr, hst, ?_⟩
  obtain ⟨p, hpl, hmin⟩ := exists_min_rank rank l hst.ne
  obtain ⟨c, hw, ha, hin⟩ := hcause p hpl
  obtain ⟨hw0, ha0⟩ := T s' hr p c hw
  cases c with
  | missing n => exact absurd (ha0 (by simp) ha) (hdef p n hw0)
  | waitsFor q =>
    have := hrank p q ⟨hw0, ha0 (by simp) ha⟩
    have := hmin q hin
    omega
  | overflow => exact ⟨p, hpl, ha⟩

/-! ### without `vftable` blocks: every later state has the keys and the unresolved entries of the initial state -/

/-- `s'` is `s` with some unresolved items resolved: same modules, same keys, every unresolved entry unchanged -/
structure Ext (s s' : State) : Prop where
  modules : s'.modules = s.modules
  keys : ∀ q, s'.reg.contains q = s.reg.contains q
  unres : ∀ q j, s'.reg.get q = some j → j.isResolved = false → s.reg.get q = some j

theorem stateOf_unres {s : State} {R : Work.Reg Path Resolved} {q : Path} {j : ItemDef}
    (hj : (Mono.stateOf s R).reg.get q = some j) (hu : j.isResolved = false) : s.reg.get q = some j := by
  rw [Mono.get_stateOf] at hj
  cases h0 : s.reg.get q with
  | none => rw [h0] at hj; cases hj
  | some i0 =>
    rw [h0] at hj
    simp only [Option.map_some, Option.some.injEq] at hj
    cases hst : i0.state with
    | res r => rw [Mono.resItem_res R q i0 r hst] at hj; rw [hj]
    | unres d =>
      cases hR : R q with
      | none => rw [Mono.resItem_none R q i0 hR] at hj; rw [hj]
      | some v =>
        rw [Mono.resItem_some R q i0 d v hst hR] at hj
        subst hj
        simp [ItemDef.isResolved, ItemDef.resolved?] at hu

theorem ext_stateOf (s : State) (R : Work.Reg Path Resolved) : Ext s (Mono.stateOf s R) :=
  ⟨rfl, fun q => by simp only [Registry.contains, Mono.get_stateOf, Option.isSome_map], fun _ _ => stateOf_unres⟩

theorem Ext.scopeOf {s s' : State} (h : Ext s s') (q : Path) : scopeOf s' q = scopeOf s q := by
  unfold C10.scopeOf
  rw [Mono.moduleFor_congr s s' h.modules q]

theorem Ext.pend {s s' : State} (h : Ext s s') {p : Path} {d : G.Item} {sc : List Path} (hp : Pend s' p d sc) :
    Pend s p d sc := by
  obtain ⟨i, hg, hu, hsc⟩ := hp
  exact ⟨i, h.unres p i hg (ItemDef.isResolved_of_unres hu), hu, by rw [← h.scopeOf p]; exact hsc⟩

theorem Ext.waitsOn {s s' : State} (h : Ext s s') {p : Path} {c : Cause} (hw : WaitsOn s' p c) : WaitsOn s p c :=
  hw.transport (fun _ _ => h.pend) (fun _ _ _ _ _ => resolveTy_congr (fun q _ => h.keys q))

theorem Ext.active {s s' : State} (h : Ext s s') {p : Path} {c : Cause} (hc : c ≠ .overflow) (ha : Active s' p c) :
    Active s p c := by
  cases c with
  | missing n => exact active_missing_transport (h.scopeOf p) (fun _ _ => resolveString_congr (fun q _ => h.keys q)) ha
  | waitsFor q =>
    obtain ⟨j, hj, hu⟩ := ha
    exact ⟨j, h.unres q j hj hu, hu⟩
  | overflow => exact absurd rfl hc

/-! ## `PredefResolved` holds for every state made by `SemanticState::new` and `add_module` -/

theorem new_predef (ps : Nat) : PredefResolved (State.new ps) := by
  intro q j hj _
  obtain ⟨nm, _, _, rfl⟩ := C02.new_get_inv ps q j hj
  rfl

theorem addModule_predef (s s' : State) (m : G.Module) (path : Path) (hs : PredefResolved s)
    (h : s.addModule m path = .ok s') : PredefResolved s' := by
  refine State.addModule_induct (P := PredefResolved) (fun _ _ _ => hs) ?_ ?_ h
  · intro t t' d _ ht hd
    exact addItem_predef t t' _ ht (fun hp => by cases hp) (C14.defStep_ok_inv hd).2
  · intro t t' xt _ ht hd
    obtain ⟨_, _, _, _, _, _, _, ha⟩ := C14.xtypeStep_ok_inv hd
    exact addItem_predef t t' _ ht (fun _ => rfl) ha

theorem initialState_predef (c : Case) (s : State) (h : c.initialState = .ok s) : PredefResolved s :=
  Case.initialState_induct (new_predef c.ps) (fun s s' path _ m _ hs h => addModule_predef s s' m path hs h) h

/-! ## Part 6: the causes, computed (an executable reading of `WaitsOn` / `Active`) -/

/-- a function of the pending definition of `p` and its scope, with a default when `p` has none -/
theorem pend_match {α} (s : State) (p : Path) (f : G.Item → List Path → α) (z : α) (P : α → Prop)
    (hz : P z) (hf : ∀ d sc, Pend s p d sc → P (f d sc)) :
    P (match s.reg.get p with
       | some i =>
         (match i.state with
          | .unres d => (match scopeOf s p with | some sc => f d sc | none => z)
          | .res _ => z)
       | none => z) := by
  split
  · next i hg =>
    split
    · next d hu =>
      split
      · next sc hsc => exact hf d sc ⟨i, hg, hu, hsc⟩
      · exact hz
    · exact hz
  · exact hz

/-- the causes the definition of `p` gives rise to, in the order of its statements -/
def causes (s : State) (p : Path) : List Cause :=
  match s.reg.get p with
  | some i =>
    match i.state with
    | .unres d =>
      match scopeOf s p with
      | some sc =>
        (usedTys d).filterMap (fun t => (tyName t).map Cause.missing) ++
        (usedTys d).flatMap (fun t => match s.reg.resolveTy sc t with
          | .ok dt => (byValue dt).map Cause.waitsFor
          | _ => []) ++ [Cause.overflow]
      | none => []
    | .res _ => []
  | none => []

theorem waitsOn_iff_mem_causes (s : State) (p : Path) (c : Cause) : WaitsOn s p c ↔ c ∈ causes s p := by
  constructor
  · intro h
    cases h with
    | missing d sc t n hp ht hn =>
      obtain ⟨i, hg, hu, hsc⟩ := hp
      simp only [causes, hg, hu, hsc, List.mem_append, List.mem_filterMap]
      exact .inl (.inl ⟨t, ht, by rw [hn]; rfl⟩)
    | waitsFor d sc t dt q hp ht hr hq =>
      obtain ⟨i, hg, hu, hsc⟩ := hp
      simp only [causes, hg, hu, hsc, List.mem_append, List.mem_flatMap]
      refine .inl (.inr ⟨t, ht, ?_⟩)
      rw [hr]
      exact List.mem_map.mpr ⟨q, hq, rfl⟩
    | overflow d sc hp =>
      obtain ⟨i, hg, hu, hsc⟩ := hp
      simp only [causes, hg, hu, hsc, List.mem_append, List.mem_singleton]
      exact .inr trivial
  · unfold causes
    refine pend_match s p _ [] (fun l => c ∈ l → WaitsOn s p c) (fun h => by cases h) (fun d sc hp h => ?_)
    simp only [List.mem_append, List.mem_filterMap, List.mem_flatMap, List.mem_singleton] at h
    rcases h with (⟨t, ht, hn⟩ | ⟨t, ht, hq⟩) | rfl
    · obtain ⟨n, hn', rfl⟩ := Option.map_eq_some_iff.mp hn
      exact .missing d sc t n hp ht hn'
    · split at hq
      · next dt hr =>
        obtain ⟨q, hq', rfl⟩ := List.mem_map.mp hq
        exact .waitsFor d sc t dt q hp ht hr hq'
      · cases hq
    · exact .overflow d sc hp

/-- `Overflow`, computed -/
def overflowB (s : State) (p : Path) : Bool :=
  match s.reg.get p with
  | some i =>
    match i.state with
    | .unres d =>
      match scopeOf s p with
      | some sc =>
        (usedTys d).any (fun t => match s.reg.resolveTy sc t with
          | .ok dt =>
            (byValue dt).all (fun q => match s.reg.get q with | some j => j.isResolved | none => false) &&
            decide (dt.size s.reg = .ok none)
          | _ => false) ||
        (match d.inner with
         | .type td =>
           match Res.foldlM typeAttrStep {} td.attrs,
                 Res.foldlM (stmtStep s.reg sc) {} (td.stmts.zipIdx.map fun p => (p.2, p.1)) with
           | .ok ta, .ok sa =>
             sa.pending.all (fun f => match f.2.ty.size s.reg with | .ok (some _) => true | _ => false) &&
             decide (usizeMax < s.reg.ps + pendExtent s.reg sa.pending + ta.targetSize.getD 0)
           | _, _ => false
         | .enum _ => false)
      | none => false
    | .res _ => false
  | none => false

theorem resolvedB_iff (r : Registry) (q : Path) :
    (match r.get q with | some j => j.isResolved | none => false) = true ↔ ∃ j, r.get q = some j ∧ j.isResolved = true := by
  cases r.get q with
  | none => simp
  | some j => simp

theorem knownB_iff (r : Registry) (ty : RTy) :
    (match ty.size r with | .ok (some _) => true | _ => false) = true ↔ ∃ n, ty.size r = .ok (some n) := by
  split
  · next n hn => simp only [true_iff]; exact ⟨n, hn⟩
  · next hne =>
    constructor
    · intro h; cases h
    · rintro ⟨n, hn⟩; exact absurd hn (hne n)

theorem overflow_iff (s : State) (p : Path) : Overflow s p ↔ overflowB s p = true := by
  constructor
  · intro h
    cases h with
    | array d sc t dt hp ht hr hall hsz =>
      obtain ⟨i, hg, hu, hsc⟩ := hp
      simp only [overflowB, hg, hu, hsc, Bool.or_eq_true, List.any_eq_true]
      refine .inl ⟨t, ht, ?_⟩
      rw [hr]
      simp only [Bool.and_eq_true, List.all_eq_true, decide_eq_true_eq]
      exact ⟨fun q hq => (resolvedB_iff s.reg q).mpr (hall q hq), hsz⟩
    | extent d sc td ta sa hp hin hta hsa hall hbig =>
      obtain ⟨i, hg, hu, hsc⟩ := hp
      simp only [overflowB, hg, hu, hsc, Bool.or_eq_true]
      refine .inr ?_
      rw [hin]
      simp only [hta, hsa, Bool.and_eq_true, List.all_eq_true, decide_eq_true_eq]
      exact ⟨fun f hf => (knownB_iff s.reg f.2.ty).mpr (hall f hf), hbig⟩
  · unfold overflowB
    refine pend_match s p _ false (fun b => b = true → Overflow s p) (fun h => by cases h) (fun d sc hp h => ?_)
    simp only [Bool.or_eq_true, List.any_eq_true] at h
    rcases h with ⟨t, ht, h⟩ | h
    · split at h
      · next dt hr =>
        simp only [Bool.and_eq_true, List.all_eq_true, decide_eq_true_eq] at h
        exact .array d sc t dt hp ht hr (fun q hq => (resolvedB_iff s.reg q).mp (h.1 q hq)) h.2
      · cases h
    · cases hin : d.inner with
      | enum ed => rw [hin] at h; cases h
      | type td =>
        rw [hin] at h
        simp only [] at h
        split at h
        · next ta sa hta hsa =>
          simp only [Bool.and_eq_true, List.all_eq_true, decide_eq_true_eq] at h
          exact .extent d sc td ta sa hp hin hta hsa (fun f hf => (knownB_iff s.reg f.2.ty).mp (h.1 f hf)) h.2
        · cases h

/-- `Active`, computed -/
def activeB (s : State) (p : Path) : Cause → Bool
  | .missing n => match scopeOf s p with | some sc => (s.reg.resolveString sc n).isNone | none => false
  | .waitsFor q => match s.reg.get q with | some j => !j.isResolved | none => false
  | .overflow => overflowB s p

theorem active_iff (s : State) (p : Path) (c : Cause) : Active s p c ↔ activeB s p c = true := by
  cases c with
  | missing n =>
    simp only [Active, activeB]
    cases scopeOf s p with
    | none => simp
    | some sc => simp
  | waitsFor q =>
    simp only [Active, activeB]
    cases s.reg.get q with
    | none => simp
    | some j => simp
  | overflow => exact overflow_iff s p

/-- the causes that block `p` in state `s`, computed -/
def activeCauses (s : State) (p : Path) : List Cause := (causes s p).filter (activeB s p)

theorem mem_activeCauses (s : State) (p : Path) (c : Cause) :
    c ∈ activeCauses s p ↔ WaitsOn s p c ∧ Active s p c := by
  simp only [activeCauses, List.mem_filter, waitsOn_iff_mem_causes, active_iff]

theorem WaitsOn.pend {s : State} {p : Path} {c : Cause} (h : WaitsOn s p c) : ∃ d sc, Pend s p d sc := by
  cases h with
  | missing d sc _ _ hp _ _ => exact ⟨d, sc, hp⟩
  | waitsFor d sc _ _ _ hp _ _ _ => exact ⟨d, sc, hp⟩
  | overflow d sc hp => exact ⟨d, sc, hp⟩

theorem WaitsOn.unres_key {s : State} {p : Path} {c : Cause} (h : WaitsOn s p c) :
    p ∈ (s.reg.types.filter (fun e => !e.2.isResolved)).map (·.1) := by
  obtain ⟨d, sc, i, hg, hu, _⟩ := h.pend
  refine List.mem_map.mpr ⟨(p, i), List.mem_filter.mpr ⟨C14.mem_of_lookup _ _ _ hg, ?_⟩, rfl⟩
  simp only [ItemDef.isResolved_of_unres hu, Bool.not_false]

theorem run_nonterm_inv (c : Case) (l : List Path) (h : c.run = .nonterm l) :
    ∃ s0, c.initialState = .ok s0 ∧ s0.build c.prio = .nonterm l := by
  unfold Case.run at h
  cases hi : c.initialState with
  | ok s0 => rw [hi] at h; exact ⟨s0, rfl, h⟩
  | defer => rw [hi] at h; cases h
  | err m => rw [hi] at h; cases h
  | panic m => rw [hi] at h; cases h

/-! ## Part 7: an accepted description has all names defined and no by-value cycle -/

theorem resolveTy_ok_name (r : Registry) (scope : List Path) (t : G.Ty) (dt : DTy) (n : String)
    (h : r.resolveTy scope t = .ok dt) (hn : tyName t = some n) : (r.resolveString scope n).isSome = true := by
  revert hn
  refine resolveTy_ok_induct (P := fun t _ => tyName t = some n → (r.resolveString scope n).isSome = true)
    ?_ ?_ ?_ ?_ ?_ h
  · intro s dt hs hn
    cases hn
    rw [hs]; rfl
  · intro _ _ _ hn; cases hn
  · intro _ _ ih; exact ih
  · intro _ _ ih; exact ih
  · intro _ _ _ ih; exact ih

theorem place_ok_known {β} (fs : List (PField β)) (st st' : St β) (h : place st fs = .ok st') :
    ∀ f ∈ fs, Known f := by
  induction fs generalizing st with
  | nil => intro f hf; cases hf
  | cons g fs ih =>
    -- with or without a declared address, `g` itself is pushed
    obtain ⟨st1, st2, h2, h3⟩ : ∃ st1 st2, pushField st1 g = .ok st2 ∧ place st2 fs = .ok st' := by
      rcases C01.place_cons_inv st st' g fs h with ⟨_, st2, h2, h3⟩ | ⟨_, _, _, st1, st2, _, h2, h3⟩
      · exact ⟨st, st2, h2, h3⟩
      · exact ⟨st1, st2, h2, h3⟩
    obtain ⟨n, hn, _⟩ := C02.push_ok_cases h2
    intro f hf
    rcases List.mem_cons.mp hf with rfl | hf
    · exact ⟨n, hn⟩
    · exact ih st2 h3 f hf

theorem resolve_ok_known {β} (vptr : Option (PField β)) (fields : List (PField β)) (target : Option Nat)
    (x : List (Placed β) × Nat) (h : Layout.resolve vptr fields target = .ok x) : ∀ f ∈ fields, Known f := by
  obtain ⟨_, st1, _, _, h1, _⟩ := C01.resolve_inv vptr fields target x.1 x.2 h
  exact place_ok_known fields _ st1 h1

theorem buildEnum_ok_deps (s : State) (p : Path) (ed : G.EnumDef) (r : Resolved) (h : buildEnum s p ed = .ok r) :
    ∃ m dt k, s.moduleFor p = some m ∧ s.reg.resolveTy m.scope ed.ty = .ok dt ∧ dt.size s.reg = .ok (some k) :=
  let ⟨e, m, _, _, _, _, E⟩ := CaseLift.buildEnum_ok_inv h
  ⟨m, e.ty, r.size, E.mod, E.ty, E.size⟩

theorem known_size_resolved (r : Registry) (dt : DTy) (k : Nat) (h : dt.size r = .ok (some k)) (q : Path)
    (hq : q ∈ byValue dt) : ∃ j, r.get q = some j ∧ j.isResolved = true := by
  obtain ⟨i, res, hi, hres⟩ := Mono.knownD_of_size r dt k h q hq
  exact ⟨i, hi, by simp [ItemDef.isResolved, hres]⟩

/-- the names the definition of `k` uses are defined, and the unresolved items it embeds by value are resolved in `R` -/
def DepsDone (s : State) (R : Work.Reg Path Resolved) (k : Path) : Prop :=
  (∀ n, WaitsOn s k (.missing n) → ¬ Active s k (.missing n)) ∧
  (∀ q, WaitsOn s k (.waitsFor q) → Active s k (.waitsFor q) → (R q).isSome = true)

/-- **what a successful attempt tells about the initial state**, given that in the state it ran in (the initial state
    with the items of `R` resolved) every type expression the definition of `k` uses resolved with a known size:
    every name the definition uses resolves, and every item it embeds by value that was unresolved initially
    has been resolved by the run before `k` -/
theorem done_deps_of_used {s : State} {R : Work.Reg Path Resolved} {k : Path} {i : ItemDef} {d : G.Item} {m : Mod}
    (hg : s.reg.get k = some i) (hst : i.state = .unres d) (hm : s.moduleFor k = some m)
    (hall : ∀ t ∈ usedTys d, ∃ dt n,
      (Mono.stateOf s R).reg.resolveTy m.scope t = .ok dt ∧ dt.size (Mono.stateOf s R).reg = .ok (some n)) :
    DepsDone s R k := by
  have hkeys := (ext_stateOf s R).keys
  have hpend : ∀ d' sc', Pend s k d' sc' → d' = d ∧ sc' = m.scope := by
    intro d' sc' ⟨i', hg', hu', hsc'⟩
    rw [hg] at hg'; cases hg'
    rw [hst] at hu'; cases hu'
    simp only [scopeOf, hm, Option.map_some, Option.some.injEq] at hsc'
    exact ⟨rfl, hsc'.symm⟩
  constructor
  · intro n hw ⟨sc, hsc, hnone⟩
    cases hw with
    | missing d' sc' t _ hp ht hn =>
      obtain ⟨rfl, rfl⟩ := hpend d' sc' hp
      simp only [scopeOf, hm, Option.map_some, Option.some.injEq] at hsc
      subst hsc
      obtain ⟨dt, _, hdt, _⟩ := hall t ht
      rw [resolveTy_congr (fun q _ => hkeys q)] at hdt
      have := resolveTy_ok_name s.reg m.scope t dt n hdt hn
      rw [hnone] at this
      cases this
  · intro q hw ⟨j, hj, hjr⟩
    cases hw with
    | waitsFor d' sc' t dt' _ hp ht hr hq =>
      obtain ⟨rfl, rfl⟩ := hpend d' sc' hp
      obtain ⟨dt, n, hdt, hsz⟩ := hall t ht
      rw [resolveTy_congr (fun q _ => hkeys q), hr] at hdt
      cases hdt
      -- `q` is resolved in the state the attempt ran in and was not in `s`: the run resolved it
      obtain ⟨j', hj', hjr'⟩ := known_size_resolved _ dt' n hsz q hq
      rw [Mono.get_stateOf, hj] at hj'
      simp only [Option.map_some, Option.some.injEq] at hj'
      subst hj'
      cases hR : R q with
      | some r => rfl
      | none => rw [Mono.resItem_none R q j hR, hjr] at hjr'; cases hjr'

/-- the run so far is ranked: every item resolved by the run has its names defined and was resolved after the
    initially unresolved items it embeds by value -/
def Ranked (s : State) (R : Work.Reg Path Resolved) (rank : Path → Nat) (N : Nat) : Prop :=
  ∀ k v, R k = some v → rank k < N ∧
    (∀ n, WaitsOn s k (.missing n) → ¬ Active s k (.missing n)) ∧
    (∀ q, WaitsOn s k (.waitsFor q) → Active s k (.waitsFor q) → (R q).isSome = true ∧ rank q < rank k)

/-- the order of resolution is a rank, when every successful attempt has resolved what it statically waits for
    (`hdeps`: `attempt_done_deps_of`, `Lemmas/C10GlobalVft.lean`) -/
theorem run_ranked (s : State)
    (hdeps : ∀ R k v, Mono.attempt s R k = .done v → DepsDone s R k)
    {R : Work.Reg Path Resolved} (r : Work.Run (Mono.attempt s) Mono.R0 R) : ∃ rank N, Ranked s R rank N := by
  induction r with
  | start => exact ⟨fun _ => 0, 0, fun k v h => by simp [Mono.R0] at h⟩
  | step R k v _ hk ha ih =>
    obtain ⟨rank, N, hR⟩ := ih
    obtain ⟨d1, d2⟩ := hdeps R k v ha
    refine ⟨fun x => if x = k then N else rank x, N + 1, ?_⟩
    intro k' v' hk'
    have hsome_ne : ∀ q, (R q).isSome = true → q ≠ k := by
      intro q hq e; rw [e, hk] at hq; cases hq
    have hupd : ∀ q, (R q).isSome = true → (Work.upd R k v q).isSome = true := by
      intro q hq; simp only [Work.upd, if_neg (hsome_ne q hq)]; exact hq
    by_cases e : k' = k
    · subst e
      refine ⟨by simp, d1, ?_⟩
      intro q hw hact
      have hq := d2 q hw hact
      refine ⟨hupd q hq, ?_⟩
      simp only [if_neg (hsome_ne q hq), if_true]
      obtain ⟨vq, hvq⟩ := Option.isSome_iff_exists.mp hq
      exact (hR q vq hvq).1
    · have hk'' : R k' = some v' := by simpa [Work.upd, e] using hk'
      obtain ⟨h1, h2, h3⟩ := hR k' v' hk''
      refine ⟨by simp only [if_neg e]; omega, h2, ?_⟩
      intro q hw hact
      obtain ⟨hq, hlt⟩ := h3 q hw hact
      refine ⟨hupd q hq, ?_⟩
      simp only [if_neg (hsome_ne q hq), if_neg e]
      exact hlt

/-- **accepted ⇒ every used name is defined and by-value embedding among the unresolved items is acyclic**: a ranked
    run that resolved every pending item has resolved every item that waits on anything -/
theorem defined_acyclic_of_ranked {s : State} {R : Work.Reg Path Resolved} {rank : Path → Nat} {N : Nat}
    (hp : PredefResolved s) (htotal : Mono.Total s R) (hR : Ranked s R rank N) : AllDefined s ∧ Acyclic s := by
  have hres : ∀ p c, WaitsOn s p c → ∃ v, R p = some v := by
    intro p c hw
    obtain ⟨d, sc, i, hg, hu, _⟩ := hw.pend
    exact Option.isSome_iff_exists.mp
      (htotal p ⟨i, d, hg, hp.not_predef hg (ItemDef.isResolved_of_unres hu), hu⟩)
  refine ⟨?_, rank, ?_⟩
  · intro p n hw
    obtain ⟨v, hv⟩ := hres p _ hw
    exact (hR p v hv).2.1 n hw
  · intro p q hw
    obtain ⟨v, hv⟩ := hres p _ hw.1
    exact ((hR p v hv).2.2 q hw.1 hw.2).2

theorem Rounds.sim {s0 : State} {Rel : Work.Reg Path Resolved → State → Prop} (sim : Mono.Sim s0 Rel)
    {prio : List Path} {s s' : State} (h : Rounds prio s s') {R : Work.Reg Path Resolved}
    (hrun : Work.Run (Mono.attempt s0) Mono.R0 R) (hrel : Rel R s) (hn : (keys s.reg).Nodup) :
    ∃ R', Work.Run (Mono.attempt s0) Mono.R0 R' ∧ Rel R' s' := by
  induction h generalizing R with
  | refl s => exact ⟨R, hrun, hrel⟩
  | head s s1 s' hr _ ih =>
    obtain ⟨R', h1, _, h4, _⟩ := sim.round (s.reg.unresolved prio)
      (fun k hk => ((sim.mem_unresolved hrel hn prio k).mp hk).1) R hrun s hrel
    have hn1 := (runRound_prog (s.reg.unresolved prio) s hn).nodup
    rw [hr] at h4 hn1
    exact ih h1 (h4 rfl) hn1

/-- an accepted build is a total run of the abstract worklist (`Mono.Sim.loop`), and the order in which it resolved
    the items is a rank -/
theorem defined_acyclic_of_sim {s : State} {Rel : Work.Reg Path Resolved → State → Prop} (sim : Mono.Sim s Rel)
    (h0 : Rel Mono.R0 s) (hn : (keys s.reg).Nodup) (hp : PredefResolved s)
    (hdeps : ∀ R k v, Mono.attempt s R k = .done v → DepsDone s R k)
    {prio : List Path} {s1 : State} (h : s.build prio = .ok s1) : AllDefined s ∧ Acyclic s := by
  obtain ⟨s', ms, hl, _⟩ := State.build_ok_inv h
  have hloop := sim.loop prio (2 * s.nUnres + 2) Mono.R0 Work.Run.start s h0 hn
  rw [hl] at hloop
  obtain ⟨R', hrun, _, _, htotal⟩ := hloop
  obtain ⟨rank, N, hR⟩ := run_ranked s hdeps hrun
  exact defined_acyclic_of_ranked hp htotal hR

end PyxisVerif.C10
