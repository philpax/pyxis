import PyxisVerif.Lemmas.C09Case
import PyxisVerif.Lemmas.C19
import PyxisVerif.Lemmas.C07
/-!
# helper lemmas for the end-to-end frame theorem of C19 (`Props/C19FrameVft.lean`): what does not depend on `vftable` blocks

`t` is the registry `s` plus entries *directly under* a module path `path` (`RegExt path s t`); `add_module path` makes
such an extension, of a state none of whose scopes mentions `path` or a child of `path` (`FrameInv`, `StExt`).  Two
total runs of the old and of the new state that agree where both are defined end in registries that agree on the old
paths (`final_regExt`).  The fuel of `dfs_hierarchy` (the number of registry entries, which differs between the two
states) is never exhausted (`Settled`), so that the items emitted from two such registries agree too
(`itemItems_settled`).  That an attempt on an old item behaves identically in both states is shown in
`Lemmas/C19FrameVft.lean`, on top of `Lemmas/MonoVft.lean`.
-/
namespace PyxisVerif.C19
open C09 Work Layout Mono

def Near (path q : Path) : Prop := q = path ∨ ∃ x, q = path ++ [x]

def NotNew (path q : Path) : Prop := ∀ x, q ≠ path ++ [x]

theorem notNew_of_parent {path mp : Path} (h : mp ≠ path) (x : String) : NotNew path (mp ++ [x]) := by
  intro y hy
  exact h (List.append_inj' hy rfl).1

def GoodScope (path : Path) (scope : List Path) : Prop := ∀ u ∈ scope, ¬ Near path u

structure RegExt (path : Path) (s t : Registry) : Prop where
  ps : t.ps = s.ps
  old : ∀ q, s.contains q = true → t.get q = s.get q
  new : ∀ q, t.contains q = true → s.contains q = true ∨ ∃ x, q = path ++ [x]

theorem contains_of_get {r : Registry} {q : Path} {i : ItemDef} (h : r.get q = some i) : r.contains q = true := by
  simp [Registry.contains, h]

theorem RegExt.get_notNew {path : Path} {s t : Registry} (h : RegExt path s t) {q : Path} (hq : NotNew path q) :
    t.get q = s.get q := by
  cases hs : s.contains q with
  | true => exact h.old q hs
  | false =>
    cases ht : t.contains q with
    | true =>
      rcases h.new q ht with h1 | ⟨x, hx⟩
      · rw [hs] at h1; cases h1
      · exact absurd hx (hq x)
    | false => rw [Registry.contains_eq_false.mp hs, Registry.contains_eq_false.mp ht]

theorem RegExt.contains_notNew {path : Path} {s t : Registry} (h : RegExt path s t) {q : Path} (hq : NotNew path q) :
    t.contains q = s.contains q := by
  unfold Registry.contains; rw [h.get_notNew hq]

theorem RegExt.get_ext {path : Path} {s t : Registry} (h : RegExt path s t) {q : Path} {i : ItemDef}
    (hi : s.get q = some i) : t.get q = some i := by
  rw [h.old q (contains_of_get hi), hi]

theorem RegExt.refl (path : Path) (s : Registry) : RegExt path s s :=
  ⟨rfl, fun _ _ => rfl, fun _ h => .inl h⟩

theorem cand_notNew {path : Path} (hne : path ≠ []) {scope : List Path} (hs : GoodScope path scope) {name : String}
    {q : Path} (hq : q ∈ candidates scope name) : NotNew path q := by
  intro x hx
  simp only [candidates, List.mem_append, List.mem_singleton, List.mem_map] at hq
  rcases hq with (hq | hq) | ⟨u, hu, rfl⟩
  · exact hs q hq (.inr ⟨x, hx⟩)
  · subst hq
    have := (List.append_inj' (s₁ := []) (t₁ := [name]) hx rfl).1
    exact hne this.symm
  · have := (List.append_inj' hx rfl).1
    exact hs u hu (.inl this)

def AgreeD (s t : Registry) (d : DTy) : Prop := ∀ q ∈ byValue d, t.get q = s.get q

def AgreeR (s t : Registry) : RTy → Prop
  | .data d => AgreeD s t d
  | .fn .. => True

theorem AgreeD.seen {s t : Registry} {d : DTy} (h : AgreeD s t d) : ∀ p ∈ byValue d, t.seen p = s.seen p :=
  fun p hp => Registry.seen_of_get (h p hp)

theorem AgreeR.seen {s t : Registry} {r : RTy} (h : AgreeR s t r) : ∀ p ∈ C02.byValueR r, t.seen p = s.seen p := by
  cases r with
  | data d => exact AgreeD.seen h
  | fn cc args ret => exact fun p hp => nomatch hp

/-- a resolved item without regions (predefined and extern types) -/
def FlatItem (i : ItemDef) : Prop := ∀ r td, i.state = .res r → r.inner = .type td → td.regions = []

/-- every resolved type of the registry has no regions: true before the resolution loop starts -/
def Flat (s : State) : Prop := ∀ p i, s.reg.get p = some i → FlatItem i

theorem Flat.add {s s' : State} (hs : Flat s) {i : ItemDef} (hi : FlatItem i) (hreg : s'.reg = s.reg.add i) :
    Flat s' := by
  intro p j hj
  rw [hreg, C14.get_add] at hj
  split at hj
  · cases hj; exact hi
  · exact hs p j hj

structure FrameInv (path : Path) (s : State) : Prop where
  scopes : ∀ e ∈ s.modules, GoodScope path e.2.scope
  nokey : ∀ e ∈ s.modules, e.1 ≠ path
  defs : ∀ e ∈ s.modules, ∀ p ∈ e.2.defPaths, ∃ x, p = e.1 ++ [x]

theorem parent_eq {q key : Path} (h : Path.parent? q = some key) : ∃ x, q = key ++ [x] := by
  unfold Path.parent? at h
  split at h
  · cases h
  · next hne =>
    cases h
    exact ⟨q.getLast (by simpa using hne), (List.dropLast_concat_getLast _).symm⟩

theorem map_replace_none (mp : Path) (M' : Mod) (rest : List (Path × Mod)) (hrest : ∀ e ∈ rest, e.1 ≠ mp) :
    rest.map (fun e => if e.1 == mp then (e.1, M') else e) = rest := by
  conv => rhs; rw [← List.map_id rest]
  apply List.map_congr_left
  intro e he
  have : (e.1 == mp) = false := by simpa using hrest e he
  simp [this]

/-- the module list is `rest` preceded by a module stored under `mp`, written under `mp` with the `use`s `uses`, all of
    whose definition paths are directly under `mp`: the shape `add_module mp` and `SemanticState::new` keep while they
    add their items -/
def HeadMod (mp : Path) (uses : List Path) (rest : List (Path × Mod)) (s : State) : Prop :=
  ∃ M, s.modules = (mp, M) :: rest ∧ M.path = mp ∧ M.uses = uses ∧ ∀ p ∈ M.defPaths, ∃ x, p = mp ++ [x]

theorem addItem_under {mp : Path} {uses : List Path} {rest : List (Path × Mod)} (hrest : ∀ e ∈ rest, e.1 ≠ mp)
    {s s' : State} {i : ItemDef} {x : String} (hp : i.path = mp ++ [x]) (hm : HeadMod mp uses rest s)
    (h : s.addItem i = .ok s') : s'.reg = s.reg.add i ∧ HeadMod mp uses rest s' := by
  obtain ⟨M, hM, hMp, hMu, hMd⟩ := hm
  have hg : s.getModule mp = some M := by simp [State.getModule, hM]
  unfold State.addItem at h
  rw [hp, Path.parent?_concat] at h
  simp only [hg, Res.ok.injEq] at h
  subst h
  refine ⟨rfl, ?_⟩
  simp only [hM, List.map_cons, BEq.rfl, if_true]
  rw [map_replace_none mp _ rest hrest]
  refine ⟨_, rfl, hMp, hMu, ?_⟩
  intro p hpm
  simp only at hpm
  split at hpm
  · exact hMd p hpm
  · rcases List.mem_cons.mp hpm with e | e
    · exact ⟨x, e⟩
    · exact hMd p e

theorem FrameInv.of_headMod {path mp : Path} {uses : List Path} {rest : List (Path × Mod)} {s : State}
    (hmp : ¬ Near path mp) (hu : ∀ u ∈ uses, ¬ Near path u) (hm : HeadMod mp uses rest s)
    (hrest : FrameInv path ⟨rest, s.reg⟩) : FrameInv path s := by
  obtain ⟨M, hM, hMp, hMu, hMd⟩ := hm
  have hsub : ∀ e ∈ s.modules, e = (mp, M) ∨ e ∈ rest := fun e he => by rwa [hM, List.mem_cons] at he
  refine ⟨?_, ?_, ?_⟩
  · intro e he
    rcases hsub e he with rfl | he
    · intro u hu'
      simp only [Mod.scope, hMp, hMu, List.mem_cons] at hu'
      rcases hu' with rfl | hu'
      · exact hmp
      · exact hu u hu'
    · exact hrest.scopes e he
  · intro e he
    rcases hsub e he with rfl | he
    · exact fun e' => hmp (.inl e')
    · exact hrest.nokey e he
  · intro e he
    rcases hsub e he with rfl | he
    · exact hMd
    · exact hrest.defs e he

theorem RegExt.add {mp : Path} {s t : Registry} (h : RegExt mp s t) {i : ItemDef} {x : String}
    (hp : i.path = mp ++ [x]) (hnc : t.contains i.path = false) : RegExt mp s (t.add i) := by
  refine ⟨h.ps, ?_, ?_⟩
  · intro q hq
    have e := h.old q hq
    have hne : q ≠ i.path := by
      rintro rfl
      rw [Registry.contains, e] at hnc
      rw [Registry.contains, hnc] at hq
      cases hq
    rw [C14.get_add, if_neg hne, e]
  · intro q hq
    rw [C14.contains_add] at hq
    rcases hq with hq | hq
    · exact h.new q hq
    · exact .inr ⟨x, by rw [hq, hp]⟩

/-- a loop body of `add_module`: adds one item directly under `mp` that was not there -/
def AddsUnder {α} (mp : Path) (f : State → α → Res State) : Prop :=
  ∀ s a s', f s a = .ok s' →
    ∃ i x, i.path = mp ++ [x] ∧ s.reg.contains i.path = false ∧ s.addItem i = .ok s' ∧ FlatItem i

theorem defStep_addsUnder (mp : Path) : AddsUnder mp (C14.defStep mp) := by
  intro s d s' h
  obtain ⟨hfree, ha⟩ := C14.defStep_ok_inv h
  exact ⟨_, d.name, rfl, Registry.contains_eq_false.mpr hfree, ha, fun r td hr => by cases hr⟩

theorem xtypeStep_addsUnder (mp : Path) : AddsUnder mp (C14.xtypeStep mp) := by
  intro s xt s' h
  obtain ⟨_, _, _, _, _, _, hfree, ha⟩ := C14.xtypeStep_ok_inv h
  refine ⟨_, xt.1, rfl, Registry.contains_eq_false.mpr hfree, ha, ?_⟩
  intro r td hr hin
  simp only [IState.res.injEq] at hr
  subst hr
  simp only [SInner.type.injEq] at hin
  subst hin
  rfl

/-- the loop invariant of `add_module mp`, relative to the state `s0` it started from -/
structure AddInv (mp : Path) (uses : List Path) (rest : List (Path × Mod)) (s0 cur : State) : Prop where
  reg : RegExt mp s0.reg cur.reg
  flat : Flat s0 → Flat cur
  mods : HeadMod mp uses rest cur

theorem addInv_step {α} {mp : Path} {uses : List Path} {rest : List (Path × Mod)} (hrest : ∀ e ∈ rest, e.1 ≠ mp)
    {f : State → α → Res State} (hf : AddsUnder mp f) {s0 cur nxt : State} (a : α)
    (hi : AddInv mp uses rest s0 cur) (h : f cur a = .ok nxt) : AddInv mp uses rest s0 nxt := by
  obtain ⟨i, x, hp, hnc, hadd, hflat⟩ := hf cur a nxt h
  obtain ⟨hreg, hmods⟩ := addItem_under hrest hp hi.mods hadd
  exact ⟨by rw [hreg]; exact hi.reg.add hp hnc, fun hs0 => (hi.flat hs0).add hflat hreg, hmods⟩

/-- **what `add_module` does**: the registry gets entries directly under `mp`, nothing else changes in it; the
    module list gets the new module in front (replacing an earlier module of that path) -/
theorem addModule_shape (s s' : State) (m : G.Module) (mp : Path) (h : s.addModule m mp = .ok s') :
    AddInv mp m.uses (s.modules.filter fun e => e.1 != mp) s s' := by
  obtain ⟨xvals, doc, s2, _, h1, h2⟩ := C14.addModule_inv s s' m mp h
  have hrest : ∀ e ∈ (s.modules.filter fun e => e.1 != mp), e.1 ≠ mp := by
    intro e he
    simpa using (List.mem_filter.mp he).2
  have k0 : AddInv mp m.uses (s.modules.filter fun e => e.1 != mp) s (s.putModule mp (C14.newMod m mp xvals doc)) :=
    ⟨RegExt.refl mp s.reg, fun hs => hs, ⟨_, rfl, rfl, rfl, fun p hp => by cases hp⟩⟩
  have k2 := Res.foldlM_induct k0 (fun _ d _ _ hb => addInv_step hrest (defStep_addsUnder mp) d hb) h1
  exact Res.foldlM_induct k2 (fun _ xt _ _ hb => addInv_step hrest (xtypeStep_addsUnder mp) xt hb) h2

theorem filter_ne_self (path : Path) (l : List (Path × Mod)) (h : ∀ e ∈ l, e.1 ≠ path) :
    l.filter (fun e => e.1 != path) = l := by
  rw [List.filter_eq_self]
  intro e he
  simpa using h e he

def UnrelatedMods (path : Path) (l : List ModEnt) : Prop :=
  ∀ me ∈ l, match me with
    | .ast mp _ m => ¬ Near path mp ∧ ∀ u ∈ m.uses, ¬ Near path u
    | .text .. => False

theorem not_near_nil {path : Path} (hne : path ≠ []) : ¬ Near path [] := by
  rintro (e | ⟨x, e⟩)
  · exact hne e.symm
  · simp at e

theorem addModule_frameInv {path : Path} (s s' : State) (m : G.Module) (mp : Path)
    (hmp : ¬ Near path mp) (hu : ∀ u ∈ m.uses, ¬ Near path u) (hs : FrameInv path s)
    (h : s.addModule m mp = .ok s') : FrameInv path s' :=
  .of_headMod hmp hu (addModule_shape s s' m mp h).mods
    ⟨fun e he => hs.scopes e (List.mem_filter.mp he).1, fun e he => hs.nokey e (List.mem_filter.mp he).1,
     fun e he => hs.defs e (List.mem_filter.mp he).1⟩

theorem predefItem_flat (nm : String × Nat) : FlatItem (C02.predefItem nm) := by
  intro r td hr hin
  simp only [C02.predefItem, IState.res.injEq] at hr
  subst hr
  simp only [SInner.type.injEq] at hin
  subst hin
  rfl

/-- `SemanticState::new`: one module (the root), all of whose definition paths are directly under it; every item
    is a predefined one -/
theorem new_shape (ps : Nat) : Flat (State.new ps) ∧ HeadMod [] [] [] (State.new ps) := by
  refine State.new_induct (P := fun s => Flat s ∧ HeadMod [] [] [] s)
    ⟨fun p i hi => (by cases hi), {}, rfl, rfl, rfl, nofun⟩ ?_
  intro s s' nm _ ⟨hflat, hmod⟩ hadd
  obtain ⟨hreg, hmod'⟩ := addItem_under (x := nm.1) (fun _ h => by cases h) rfl hmod hadd
  exact ⟨hflat.add (predefItem_flat nm) hreg, hmod'⟩

theorem new_frameInv {path : Path} (hne : path ≠ []) (ps : Nat) : FrameInv path (State.new ps) :=
  .of_headMod (not_near_nil hne) (fun _ h => by cases h) (new_shape ps).2
    ⟨nofun, nofun, nofun⟩

theorem initialState_frameInv {path : Path} (hne : path ≠ []) (c : Case) (hu : UnrelatedMods path c.modules)
    (s : State) (h : c.initialState = .ok s) : FrameInv path s :=
  Case.initialState_induct (new_frameInv hne c.ps)
    (fun b b' mp _ m hme hb hb' => addModule_frameInv b b' m mp (hu _ hme).1 (hu _ hme).2 hb hb') h

theorem initialState_flat (c : Case) (s : State) (h : c.initialState = .ok s) : Flat s :=
  Case.initialState_induct (new_shape c.ps).1
    (fun b b' mp _ m _ hb hb' => (addModule_shape b b' m mp hb').flat hb) h

/-- state-level: `t` is `s` plus the module `path` and items directly under it -/
structure StExt (path : Path) (s t : State) : Prop where
  reg : RegExt path s.reg t.reg
  mods : ∃ M, t.modules = (path, M) :: s.modules

theorem addModule_stExt {path : Path} (s t : State) (m : G.Module) (hs : FrameInv path s)
    (h : s.addModule m path = .ok t) : StExt path s t := by
  have hsh := addModule_shape s t m path h
  obtain ⟨M, hM, _⟩ := hsh.mods
  rw [filter_ne_self path s.modules hs.nokey] at hM
  exact ⟨hsh.reg, M, hM⟩


theorem contains_stateOf (s0 : State) (R : Reg Path Resolved) (q : Path) :
    (stateOf s0 R).reg.contains q = s0.reg.contains q := by
  simp only [Registry.contains, get_stateOf, Option.isSome_map]

theorem regExt_stateOf {path : Path} {s0 t0 : State} (h : RegExt path s0.reg t0.reg) (R : Reg Path Resolved) :
    RegExt path (stateOf s0 R).reg (stateOf t0 R).reg := by
  refine ⟨h.ps, ?_, ?_⟩
  · intro q hq
    rw [contains_stateOf] at hq
    rw [get_stateOf, get_stateOf, h.old q hq]
  · intro q hq
    rw [contains_stateOf] at hq
    rw [contains_stateOf]
    exact h.new q hq

theorem moduleFor_ext {path : Path} {s0 t0 : State} (hx : StExt path s0 t0) (hf : FrameInv path s0) (k : Path)
    (m : Mod) (hm : s0.moduleFor k = some m) : t0.moduleFor k = some m ∧ GoodScope path m.scope := by
  unfold State.moduleFor at hm ⊢
  split at hm
  · cases hm
  · next parent hp =>
    have hmem := C14.mem_of_lookup _ _ _ hm
    have hne : parent ≠ path := hf.nokey _ hmem
    obtain ⟨M, hM⟩ := hx.mods
    refine ⟨?_, hf.scopes _ hmem⟩
    unfold State.getModule at hm ⊢
    have : (parent == path) = false := by simpa using hne
    simp only [hM, List.lookup_cons, this]
    exact hm

/-! what `Mono.attempt` is on a pending item (on any other item it is `.defer`: `attempt_pending`) -/

theorem attempt_type {s0 : State} {R : Reg Path Resolved} {k : Path} {i : ItemDef} {d : G.Item} {td : G.TypeDef}
    (hi : s0.reg.get k = some i) (hp : i.isPredefined = false) (hs : i.state = .unres d) (hin : d.inner = .type td) :
    attempt s0 R k = toOut (buildType (stateOf s0 R) k d.vis td).2 := by
  simp only [attempt, hi, hp, hs, hin, Bool.false_eq_true, if_false]

theorem attempt_enum {s0 : State} {R : Reg Path Resolved} {k : Path} {i : ItemDef} {d : G.Item} {ed : G.EnumDef}
    (hi : s0.reg.get k = some i) (hp : i.isPredefined = false) (hs : i.state = .unres d) (hin : d.inner = .enum ed) :
    attempt s0 R k = toOut (buildEnum (stateOf s0 R) k ed) := by
  simp only [attempt, hi, hp, hs, hin, Bool.false_eq_true, if_false]

theorem pending_ext {path : Path} {s0 t0 : State} (hx : StExt path s0 t0) (q : Path)
    (hq : s0.reg.contains q = true) : Pending t0 q ↔ Pending s0 q := by
  unfold Pending
  rw [hx.reg.old q hq]

theorem final_regExt {path : Path} {s0 t0 : State} (hx : StExt path s0 t0)
    (hm : Mono (attempt t0)) {R1 R2 : Reg Path Resolved}
    (r1 : Run (attempt s0) R0 R1) (r1' : Run (attempt t0) R0 R1) (r2 : Run (attempt t0) R0 R2)
    (t1 : Total s0 R1) (t2 : Total t0 R2) :
    RegExt path (stateOf s0 R1).reg (stateOf t0 R2).reg := by
  refine ⟨hx.reg.ps, ?_, ?_⟩
  · intro q hq
    rw [contains_stateOf] at hq
    rw [get_stateOf, get_stateOf, hx.reg.old q hq]
    cases hi : s0.reg.get q with
    | none => rfl
    | some i =>
      simp only [Option.map_some, Option.some.injEq]
      cases hst : i.state with
      | res r => rw [resItem_res R2 q i r hst, resItem_res R1 q i r hst]
      | unres d =>
        cases h1 : R1 q with
        | none =>
          cases h2 : R2 q with
          | none => rw [resItem_none R2 q i h2, resItem_none R1 q i h1]
          | some v2 =>
            have := t1 q ((pending_ext hx q hq).mp (Run.dom t0 r2 q v2 h2))
            rw [h1] at this; cases this
        | some v1 =>
          cases h2 : R2 q with
          | none =>
            have := t2 q ((pending_ext hx q hq).mpr (Run.dom s0 r1 q v1 h1))
            rw [h2] at this; cases this
          | some v2 =>
            have e := Run.compat hm r1' r2 q v1 v2 h1 h2
            subst e
            rw [resItem_some R2 q i d v1 hst h2, resItem_some R1 q i d v1 hst h1]
  · intro q hq
    rw [contains_stateOf] at hq
    rw [contains_stateOf]
    exact hx.reg.new q hq

/-- the step of the last loop of `SemanticState::build` -/
def xvStep (reg : Registry) (e : Path × Mod) : Res (Path × Mod) :=
  match resolveXVals reg e.2 with
  | .ok m => Res.ok (e.1, m)
  | x => x.cast

theorem xvStep_eq : xvStep = C20.xvalPass := rfl

theorem xvStep_inv (reg : Registry) (e e' : Path × Mod) (h : xvStep reg e = .ok e') :
    e'.1 = e.1 ∧ resolveXVals reg e.2 = .ok e'.2 := by
  unfold xvStep at h
  split at h
  · next m hm => cases h; exact ⟨rfl, hm⟩
  · exact absurd h (Res.cast_ne_ok _ _)

theorem mapM'_mem {α β} (f : α → Res β) (l : List α) (bs : List β) (h : Res.mapM' f l = .ok bs)
    (b : β) (hb : b ∈ bs) : ∃ a ∈ l, f a = .ok b := by
  induction l generalizing bs with
  | nil => simp only [Res.mapM', Res.ok.injEq] at h; subst h; cases hb
  | cons a l ih =>
    obtain ⟨b0, bs', h1, h2, rfl⟩ := Res.mapM'_cons_ok.mp h
    rcases List.mem_cons.mp hb with rfl | hb
    · exact ⟨a, List.mem_cons_self, h1⟩
    · obtain ⟨a', ha', h'⟩ := ih bs' h2 hb
      exact ⟨a', List.mem_cons_of_mem _ ha', h'⟩


/-! `build_type` walks the base-class hierarchy with fuel `number of registry entries + 1`, a number that differs
between the old and the new state.  A type is resolved only after the types of all its fields are (so in
particular its bases); along a run, the depth of the hierarchy below a resolved type is therefore bounded by the
number of entries resolved so far, and the walk gives the same list for every larger fuel and in every registry
that keeps the resolved entries. -/

theorem ResLe.of_regExt {path : Path} {s t : Registry} (h : RegExt path s t) : ResLe s t :=
  fun _ i _ hi hr => ⟨i, h.get_ext hi, hr⟩

theorem regionName_source (reg : Registry) (r : Region) (name : String) (btd : TypeDefn)
    (h : regionNameAndTypeDef reg r = .ok (some (name, btd))) :
    ∃ p i res, reg.get p = some i ∧ i.resolved? = some res ∧ res.inner = .type btd := by
  unfold regionNameAndTypeDef at h
  split at h
  · cases h
  · split at h
    · next p _ =>
      split at h
      · cases h
      · next item hitem =>
        split at h
        · cases h
        · next res hres =>
          split at h
          · next td htd =>
            simp only [Res.ok.injEq, Option.some.injEq, Prod.mk.injEq] at h
            obtain ⟨_, rfl⟩ := h
            exact ⟨p, item, res, hitem, hres, htd⟩
          · cases h
    · cases h

/-- from fuel `n` on, and in every registry that keeps the resolved entries of `reg`, the walk below `td` gives
    one and the same list -/
def Settled (reg : Registry) (n : Nat) (td : TypeDefn) : Prop :=
  ∃ val : List String → List (List String × RTy), ∀ reg', ResLe reg reg' → ∀ m, n ≤ m → ∀ fp,
    Emit.dfsHierarchy reg' m td fp = val fp

theorem Settled.mono {reg reg2 : Registry} {n n2 : Nat} {td : TypeDefn} (h : Settled reg n td)
    (hle : ResLe reg reg2) (hn : n ≤ n2) : Settled reg2 n2 td := by
  obtain ⟨val, hval⟩ := h
  exact ⟨val, fun reg' hle' m hm fp => hval reg' (hle.trans hle') m (Nat.le_trans hn hm) fp⟩

theorem settled_flat (reg : Registry) (td : TypeDefn) (h : td.regions = []) : Settled reg 0 td := by
  refine ⟨fun _ => [], ?_⟩
  intro reg' _ m _ fp
  cases m with
  | zero => simp only [Emit.dfsHierarchy]
  | succ m => simp only [Emit.dfsHierarchy, h, List.filter_nil, List.flatMap_nil]

def AllSettled (reg : Registry) (n : Nat) : Prop :=
  ∀ p i res td, reg.get p = some i → i.resolved? = some res → res.inner = .type td → Settled reg n td

theorem settled_step (reg : Registry) (n : Nat) (td : TypeDefn) (hk : ∀ r ∈ td.regions, KnownR reg r.ty)
    (hb : AllSettled reg n) : Settled reg (n + 1) td := by
  refine ⟨fun fp => Emit.dfsHierarchy reg (n + 1) td fp, ?_⟩
  intro reg' hle m hm fp
  obtain ⟨m', rfl⟩ : ∃ m', m = m' + 1 := ⟨m - 1, by omega⟩
  simp only []
  rw [C07.dfs_unfold_lem, C07.dfs_unfold_lem]
  apply flatMap_congr'
  intro r hr
  have hr' := (List.mem_filter.mp hr).1
  rw [regionNameAndTypeDef_congr ((hk r hr').seen hle)]
  cases hreg : regionNameAndTypeDef reg r with
  | ok o =>
    cases o with
    | none => rfl
    | some x =>
      obtain ⟨name, btd⟩ := x
      simp only []
      obtain ⟨p, i, res, hi, hres, hin⟩ := regionName_source reg r name btd hreg
      obtain ⟨val, hval⟩ := hb p i res btd hi hres hin
      rw [hval reg' hle m' (by omega), hval reg (ResLe.refl reg) n (Nat.le_refl n)]
  | defer => rfl
  | err m => rfl
  | panic m => rfl

theorem countP_lt {α} (p q : α → Bool) (l : List α) (hpq : ∀ x ∈ l, p x = true → q x = true)
    (hw : ∃ x ∈ l, p x = false ∧ q x = true) : l.countP p + 1 ≤ l.countP q := by
  induction l with
  | nil => obtain ⟨x, hx, _⟩ := hw; cases hx
  | cons a l ih =>
    have hmono : l.countP p ≤ l.countP q :=
      List.countP_mono_left (fun x hx => hpq x (List.mem_cons_of_mem _ hx))
    simp only [List.countP_cons]
    obtain ⟨x, hx, hpx, hqx⟩ := hw
    rcases List.mem_cons.mp hx with rfl | hx
    · simp only [hpx, hqx, Bool.false_eq_true, if_false, if_true]
      omega
    · have := ih (fun x hx => hpq x (List.mem_cons_of_mem _ hx)) ⟨x, hx, hpx, hqx⟩
      have ha := hpq a List.mem_cons_self
      cases hpa : p a with
      | false => simp only [Bool.false_eq_true, if_false]; split <;> omega
      | true => simp only [ha hpa, if_true]; omega

/-- the number of resolved entries of `stateOf s0 R` -/
def cnt (s0 : State) (R : Reg Path Resolved) : Nat :=
  s0.reg.types.countP (fun e => (resItem R e.1 e.2).isResolved)

theorem cnt_le (s0 : State) (R : Reg Path Resolved) : cnt s0 R ≤ (stateOf s0 R).reg.types.length := by
  simp only [cnt, stateOf, List.length_map]
  exact List.countP_le_length

theorem resItem_upd_ne (R : Reg Path Resolved) (k : Path) (v : Resolved) (p : Path) (i : ItemDef) (h : p ≠ k) :
    resItem (upd R k v) p i = resItem R p i := by
  unfold resItem
  simp [upd, h]

theorem cnt_step (s0 : State) (R : Reg Path Resolved) (k : Path) (v : Resolved) (hp : Pending s0 k)
    (hR : R k = none) : cnt s0 R + 1 ≤ cnt s0 (upd R k v) := by
  obtain ⟨i, d, hi, _, hst⟩ := hp
  apply countP_lt
  · intro e _ he
    cases hst' : e.2.state with
    | res r =>
      rw [resItem_res _ e.1 e.2 r hst']
      rw [resItem_res R e.1 e.2 r hst'] at he
      exact he
    | unres d' =>
      by_cases hk : e.1 = k
      · rw [hk, resItem_none R k e.2 hR] at he
        simp [ItemDef.isResolved, ItemDef.resolved?, hst'] at he
      · rw [resItem_upd_ne R k v e.1 e.2 hk]; exact he
  · refine ⟨(k, i), C14.mem_of_lookup _ _ _ hi, ?_, ?_⟩
    · simp only [resItem_none R k i hR]
      simp [ItemDef.isResolved, ItemDef.resolved?, hst]
    · simp only [resItem_some (upd R k v) k i d v hst (by simp [upd])]
      simp [ItemDef.isResolved, ItemDef.resolved?]


theorem resItem_upd_ne' (R : Reg Path Resolved) (k : Path) (v : Resolved) (p : Path) (h : p ≠ k) :
    resItem (upd R k v) p = resItem R p := by
  funext i; exact resItem_upd_ne R k v p i h

theorem toOut_done {x : Res Resolved} {v : Resolved} (h : toOut x = .done v) : x = .ok v := by
  cases x with
  | ok r => simp only [toOut, Out.done.injEq] at h; rw [h]
  | defer => cases h
  | err m => cases h
  | panic m => cases h

theorem state_of_resolved {i : ItemDef} {res : Resolved} (h : i.resolved? = some res) : i.state = .res res := by
  unfold ItemDef.resolved? at h
  split at h
  · next r hr => cases h; exact hr
  · cases h

theorem typeItems_settled {sreg treg : Registry} (hle : ResLe sreg treg) {n1 n2 : Nat} {td : TypeDefn}
    (h1 : Settled sreg n1 td) (h2 : Settled treg n2 td) (hn1 : n1 ≤ sreg.types.length) (hn2 : n2 ≤ treg.types.length)
    (path : Path) (size align : Nat) (vis : Vis) :
    Emit.typeItems treg path size align vis td = Emit.typeItems sreg path size align vis td := by
  obtain ⟨val1, hv1⟩ := h1
  obtain ⟨val2, hv2⟩ := h2
  have hd : Emit.dfsHierarchy treg (treg.types.length + 1) td [] = Emit.dfsHierarchy sreg (sreg.types.length + 1) td [] := by
    rw [hv1 sreg (ResLe.refl _) _ (by omega), hv2 treg (ResLe.refl _) _ (by omega),
      ← hv1 treg hle (n1 + (treg.types.length + 1)) (by omega), hv2 treg (ResLe.refl _) _ (by omega)]
  simp only [Emit.typeItems, hd]

theorem itemItems_settled {sreg treg : Registry} (hle : ResLe sreg treg) {n1 n2 : Nat}
    (h1 : AllSettled sreg n1) (h2 : AllSettled treg n2) (hn1 : n1 ≤ sreg.types.length) (hn2 : n2 ≤ treg.types.length)
    (p : Path) (i : ItemDef) (hs : sreg.get p = some i) (ht : treg.get p = some i) :
    Emit.itemItems treg i = Emit.itemItems sreg i := by
  unfold Emit.itemItems
  cases hr : i.resolved? with
  | none => cases i.cat <;> rfl
  | some r =>
    cases hc : i.cat with
    | defined =>
      simp only []
      cases hin : r.inner with
      | type td =>
        simp only []
        exact typeItems_settled hle (h1 p i r td hs hr hin) (h2 p i r td ht hr hin) hn1 hn2 _ _ _ _
      | enum ed => rfl
    | predefined => rfl
    | extern => rfl

end PyxisVerif.C19
