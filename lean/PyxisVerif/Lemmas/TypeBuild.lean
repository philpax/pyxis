import PyxisVerif.Lemmas.Exec
import PyxisVerif.Props.C02Global
import PyxisVerif.Props.C08
import PyxisVerif.Props.C12
import PyxisVerif.Props.C13
import PyxisVerif.Props.C14
import PyxisVerif.Props.C15
import PyxisVerif.Props.C16
import PyxisVerif.Props.C17
import PyxisVerif.Lemmas.C09Case
/-!
# One accepted build, taken apart

`TypeBuild` (`Lemmas/Build.lean`) is an accepted `type_definition::build` taken apart into the steps the per-item
theorems speak about.  Here: what the build read in the registry reads the same in every later registry
(`TypeBuild.layout_in`, `.named_in`, `.align_in`, `.vftCases`, `.inherited`), and the pieces are traced back to the
written definition (`TypeBuild.block`, `.field_src`, `.fn_src`).  `Lemmas/CaseLift.lean` shows that every resolved
item of the final registry of an accepted case comes from such a build.

## Specification part (definitions only)
-/
namespace PyxisVerif.CaseLift2
open Gen

/-- what one `#[base]` field contributes (`ib.1` is its position among the base fields): the re-exposed functions of
    its type and, for every base but the first, of its type's vftable; and the member names taken afterwards.
    A base whose type is not a resolved struct contributes nothing. -/
def specBasesStep (reg : Registry) (used : List String) (ib : Nat × Region) : List SFunc × List String :=
  match regionNameAndTypeDef reg ib.2 with
  | .ok (some (b, btd)) =>
    match (if ib.1 > 0 then btd.vft else none) with
    | some v =>
      (C07.specInject b used btd.fns ++ C07.specInject b (C07.usedAfter b used btd.fns) v.fns,
        C07.usedAfter b (C07.usedAfter b used btd.fns) v.fns)
    | none => (C07.specInject b used btd.fns, C07.usedAfter b used btd.fns)
  | _ => ([], used)

/-- **the property, all bases**: the functions a type inherits from its `#[base]` fields `bases` (with their positions),
    in field order, starting from the member names `used` -/
def specBases (reg : Registry) : List (Nat × Region) → List String → List SFunc
  | [], _ => []
  | ib :: rest, used => (specBasesStep reg used ib).1 ++ specBases reg rest (specBasesStep reg used ib).2

end PyxisVerif.CaseLift2

namespace PyxisVerif.CaseLift
open Gen Layout CaseLift2

/-- the five ways `vftable::build` succeeds for a type at `owner` whose first `#[base]` field is `fb` and whose
    vftable block (if any) converted to `vfns`: the type's table `v` and the pointer region `ptr` handed to the layout
    core.  `reg` is the registry in which the base's table is read. -/
def VftCases (reg : Registry) (owner : Path) (fb : Option Region) (vfns : Option (List SFunc))
    (v : Option Vft) (ptr : Option Region) : Prop :=
  -- no block, no base table: no table
  (vfns = none ∧ ptr = none ∧ v = none ∧ baseVftable reg fb = .ok none) ∨
  -- no block, the first base has a table: inherited unchanged, no pointer of its own
  (vfns = none ∧ ptr = none ∧ ∃ bn bv, baseVftable reg fb = .ok (some (bn, bv)) ∧
    v = some { fns := bv.fns, baseField := some bn, ty := bv.ty }) ∨
  -- a block on a type without a parent path: ignored
  (∃ fns, vfns = some fns ∧ vftablePath owner = none ∧ ptr = none ∧ v = none) ∨
  -- a block, no base table: own table, own pointer
  (∃ fns vpath, vfns = some fns ∧ vftablePath owner = some vpath ∧ baseVftable reg fb = .ok none ∧
    ptr = some (C06.ownPointer vpath) ∧ v = some { fns := fns, baseField := none, ty := .cptr (.raw vpath) }) ∨
  -- a block and a base table: the base's slots are a prefix, the pointer is the base's
  (∃ fns vpath bn bv, vfns = some fns ∧ vftablePath owner = some vpath ∧
    baseVftable reg fb = .ok (some (bn, bv)) ∧ bv.fns <+: fns ∧ (bv.fns.map C06.slotSig) <+: (fns.map C06.slotSig) ∧
    ptr = none ∧ v = some { fns := fns, baseField := some bn, ty := .cptr (.raw vpath) })

/-- where a re-exposed function comes from: a base region of the type, whose (resolved) type's associated
    functions or vftable functions were handed to `addFunctions` -/
def Forwards (reg : Registry) (regions : List Region) (g : SFunc) : Prop :=
  ∃ rg ∈ regions, rg.isBase = true ∧ ∃ (b : String) (bp : Path) (btd : TypeDefn) (fs : List SFunc) (used : List String),
    rg.name = some b ∧ rg.ty = .data (.raw bp) ∧ Exec.typeDefn? reg bp = some btd ∧
    (fs = btd.fns ∨ ∃ v, btd.vft = some v ∧ fs = v.fns) ∧ g ∈ C07.specInject b used fs

/-! ## Lemma part -/

/-! ### what the layout core was handed, read in a later registry -/

theorem toPField_ext {r r' : Registry} (he : C02.Ext r r') (addr : Option Nat) (rg : Region) (n : Nat)
    (hs : rg.ty.size r = .ok (some n)) : toPField r' addr rg = toPField r addr rg :=
  C09.toPField_congr he.ps addr ((Mono.knownR_of_size r rg.ty n hs).seen he.resLe)

theorem place_sizes {β} (st st' : St β) (fields : List (PField β)) (h : place st fields = .ok st') :
    ∀ f ∈ fields, ∃ n, f.size = .ok (some n) := by
  induction fields generalizing st with
  | nil => intro f hf; cases hf
  | cons g gs ih =>
    intro f hf
    rcases C01.place_cons_inv st st' g gs h with ⟨_, st2, h2, h3⟩ | ⟨a, _, _, st1, st2, _, h2, h3⟩
    · rcases List.mem_cons.mp hf with rfl | hf
      · obtain ⟨n, hn, _⟩ := C01.push_ok_inv _ _ _ _ _ _ h2
        exact ⟨n, hn⟩
      · exact ih st2 h3 f hf
    · rcases List.mem_cons.mp hf with rfl | hf
      · obtain ⟨n, hn, _⟩ := C01.push_ok_inv _ _ _ _ _ _ h2
        exact ⟨n, hn⟩
      · exact ih st2 h3 f hf

theorem resolve_sizes {β} (vptr : Option (PField β)) (fields : List (PField β)) (target : Option Nat)
    (placed : List (Placed β)) (size : Nat) (h : resolve vptr fields target = .ok (placed, size)) :
    (∀ v, vptr = some v → ∃ n, v.size = .ok (some n)) ∧ ∀ f ∈ fields, ∃ n, f.size = .ok (some n) := by
  obtain ⟨st0, st1, st2, h0, h1, _, _, _, _⟩ := C01.resolve_inv vptr fields target placed size h
  refine ⟨?_, place_sizes st0 st1 fields h1⟩
  intro v hv
  subst hv
  obtain ⟨n, hn, _⟩ := C01.push_ok_inv _ _ _ _ _ _ h0
  exact ⟨n, hn⟩

theorem pfields_ext {r r' : Registry} (he : C02.Ext r r') (vptr : Option Region) (pending : List (Option Nat × Region))
    (target : Option Nat) (placed : List (Placed Region)) (size : Nat)
    (h : resolve (vptr.map (toPField r none)) (pending.map fun p => toPField r p.1 p.2) target = .ok (placed, size)) :
    vptr.map (toPField r' none) = vptr.map (toPField r none) ∧
    (pending.map fun p => toPField r' p.1 p.2) = (pending.map fun p => toPField r p.1 p.2) := by
  obtain ⟨hv, hf⟩ := resolve_sizes _ _ _ _ _ h
  constructor
  · cases vptr with
    | none => rfl
    | some v =>
      obtain ⟨n, hn⟩ := hv _ rfl
      simp only [Option.map_some]
      rw [toPField_ext he none v n hn]
  · apply List.map_congr_left
    intro q hq
    obtain ⟨n, hn⟩ := hf (toPField r q.1 q.2) (List.mem_map.mpr ⟨q, hq, rfl⟩)
    exact toPField_ext he q.1 q.2 n hn

theorem regionNameAndTypeDef_mono {r r' : Registry} (he : C02.Ext r r') (rg : Region) (b : String) (btd : TypeDefn)
    (h : regionNameAndTypeDef r rg = .ok (some (b, btd))) : regionNameAndTypeDef r' rg = .ok (some (b, btd)) := by
  obtain ⟨p, hname, hty, htd⟩ := Exec.regionNameAndTypeDef_inv r rg b btd h
  obtain ⟨i, res, hg, hs, hin⟩ := Exec.typeDefn?_inv r p btd htd
  have hg' := he.res hg hs
  unfold regionNameAndTypeDef
  simp only [hname, hty, hg', ItemDef.resolved?, hs, hin]

theorem regionNameAndTypeDef_none_size (reg : Registry) (rg : Region) (h : regionNameAndTypeDef reg rg = .ok none) :
    rg.ty.size reg = .ok none := by
  obtain ⟨_, p, item, _, hty, hg, ⟨_, hres⟩ | ⟨_, _, _, _, hx⟩⟩ := regionNameAndTypeDef_ok h
  · rw [hty]
    simp only [RTy.size, DTy.size, hg, Option.bind_some, hres, Option.map_none]
  · cases hx

theorem baseVftable_ext {r r' : Registry} (he : C02.Ext r r') (fb : Option Region)
    (hsz : ∀ b, fb = some b → ∃ n, b.ty.size r = .ok (some n)) (x : Option (String × Vft))
    (h : baseVftable r fb = .ok x) : baseVftable r' fb = .ok x := by
  rw [C09.baseVftable_congr fb fun b hb => (hsz b hb).elim fun n hn => (Mono.knownR_of_size r b.ty n hn).seen he.resLe]
  exact h

theorem paddingType_prims (reg : Registry) (hp : C02.PrimsOk reg) (n : Nat) :
    reg.paddingType n = .ok (.arr (.raw ["u8"]) n) := by
  have hc : reg.contains ["u8"] = true := by
    unfold Registry.contains
    rw [hp ("u8", 1) (by decide)]
    rfl
  unfold Registry.paddingType Registry.resolveString
  simp only [List.filter_nil, List.reverse_nil, List.find?_nil, List.map_cons, List.nil_append, List.map_nil,
    List.find?_cons, hc]

/-- naming reads the registry only for `u8`: the same in every registry whose predefined types are intact -/
theorem nameRegions_prims (reg reg' : Registry) (hp : C02.PrimsOk reg) (hp' : C02.PrimsOk reg') (off : Nat)
    (placed : List (Placed Region)) : nameRegions reg off placed = nameRegions reg' off placed :=
  congrFun (congrFun (C09.nameRegions_congr (funext fun n => by
    rw [paddingType_prims reg hp, paddingType_prims reg' hp'])) off) placed

/-- the statement loop over the statements of a definition: the first statement is processed at index 0 from the empty
    accumulator, and no later statement changes `vfns` (a later vftable block is an error) -/
theorem stmts_head {reg : Registry} {scope : List Path} {st : G.Stmt} {rest : List G.Stmt} {sa : StmtAcc}
    (h : Res.foldlM (stmtStep reg scope) {} ((st :: rest).zipIdx.map fun q => (q.2, q.1)) = .ok sa) :
    ∃ acc1, stmtStep reg scope {} (0, st) = .ok acc1 ∧ sa.vfns = acc1.vfns := by
  obtain ⟨acc1, h1, h2⟩ := Res.foldlM_cons_ok.mp h
  refine ⟨acc1, h1, Res.foldlM_induct (P := fun a => a.vfns = acc1.vfns) rfl ?_ h2⟩
  intro a e a' he ha hstep
  obtain ⟨q, hq, rfl⟩ := List.mem_map.mp he
  rcases stmtStep_ok hstep with ⟨_, _, _, _, _, _, _, _, _, _, _, _, _, _, rfl⟩ | ⟨_, _, _, _, h0, _⟩
  · exact ha
  · have := (List.mem_zipIdx hq).1
    omega

/-- **the vftable block is what the type's table is built from**: if the first statement is a vftable block, the
    loop's `vfns` is `convertVfuncs` of that block (with the block's `#[size]`), and every function of the block has a
    receiver -/
theorem stmts_vfns_of_block {reg : Registry} {scope : List Path} {stmts : List G.Stmt} {sa : StmtAcc}
    (h : Res.foldlM (stmtStep reg scope) {} (stmts.zipIdx.map fun q => (q.2, q.1)) = .ok sa)
    {st : G.Stmt} {gfns : List G.Func} (hst : stmts[0]? = some st) (hf : st.field = .vftable gfns) :
    ∃ size out, vftableSizeAttr st.attrs = .ok size ∧ convertVfuncs reg scope size gfns = .ok out ∧
      sa.vfns = some out ∧ ∀ f ∈ gfns, C13.hasReceiver f = true := by
  cases stmts with
  | nil => simp at hst
  | cons s0 rest =>
    simp only [List.getElem?_cons_zero, Option.some.injEq] at hst
    subst hst
    obtain ⟨acc1, h1, hv⟩ := stmts_head h
    rcases stmtStep_ok h1 with ⟨_, _, _, _, _, _, _, hfld, _⟩ | ⟨gfns', size, sfs, hfld, _, hrecv, hsize, hconv, rfl⟩
    · rw [hf] at hfld; cases hfld
    · rw [hf] at hfld
      cases hfld
      exact ⟨size, sfs, hsize, hconv, hv, hrecv⟩

theorem stmts_vfns_none {reg : Registry} {scope : List Path} {stmts : List G.Stmt} {sa : StmtAcc}
    (h : Res.foldlM (stmtStep reg scope) {} (stmts.zipIdx.map fun q => (q.2, q.1)) = .ok sa)
    (hf : ∀ st, stmts[0]? = some st → C01.isFieldStmt st = true) : sa.vfns = none := by
  cases stmts with
  | nil => cases h; rfl
  | cons s0 rest =>
    obtain ⟨acc1, h1, hv⟩ := stmts_head h
    rcases stmtStep_ok h1 with ⟨_, _, _, _, _, _, _, _, _, _, _, _, _, _, rfl⟩ | ⟨gfns, _, _, hfld, _⟩
    · exact hv
    · have := hf s0 rfl
      unfold C01.isFieldStmt at this
      rw [hfld] at this
      cases this

theorem FieldOf.named {reg : Registry} {scope : List Path} {st : G.Stmt} {q : Option Nat × Region}
    (h : FieldOf reg scope st q) (hn : q.2.name.isSome) :
    ∃ (vis : Vis) (name : String) (ty : G.Ty) (t : DTy), st.field = .field vis name ty ∧ q.2.vis = vis ∧
      q.2.name = some name ∧ G.docOf st.attrs = some q.2.doc ∧ reg.resolveTy scope ty = .ok t ∧ q.2.ty = .data t := by
  obtain ⟨vis, name, ty, fa, t, hf, hdoc, _, ht, hq⟩ := h
  refine ⟨vis, name, ty, t, hf, by rw [hq], ?_, hdoc, ht, by rw [hq]⟩
  rw [hq] at hn ⊢
  simp only at hn ⊢
  split
  · rfl
  · next hne => rw [if_neg hne] at hn; cases hn

def injStep (reg : Registry) (acc : InjAcc) (ib : Nat × Region) : Res InjAcc :=
  match regionNameAndTypeDef reg ib.2 with
  | .ok none => .ok acc
  | .ok (some (baseName, td)) =>
    let acc1 := addFunctions baseName acc td.fns
    .ok (if ib.1 > 0 then
          match td.vft with
          | some v => addFunctions baseName acc1 v.fns
          | none => acc1
        else acc1)
  | e => e.cast

theorem injectBases_eq (reg : Registry) (regions : List Region) (acc : InjAcc) :
    injectBases reg regions acc =
      Res.foldlM (injStep reg) acc ((regions.filter (·.isBase)).zipIdx.map fun p => (p.2, p.1)) := rfl

theorem injStep_spec (reg : Registry) (acc acc' : InjAcc) (ib : Nat × Region) (h : injStep reg acc ib = .ok acc') :
    acc'.fns = acc.fns ++ (specBasesStep reg acc.used ib).1 ∧ acc'.used = (specBasesStep reg acc.used ib).2 := by
  unfold injStep at h
  unfold specBasesStep
  split at h
  · next hr =>
    cases h
    rw [hr]
    simp
  · next b btd hr =>
    simp only [Res.ok.injEq] at h
    rw [hr]
    simp only []
    obtain ⟨f1, u1⟩ := C07.addFunctions_spec b acc btd.fns
    by_cases hi : ib.1 > 0
    · rw [if_pos hi] at h ⊢
      cases hv : btd.vft with
      | none =>
        rw [hv] at h
        subst h
        exact ⟨f1, u1⟩
      | some v =>
        rw [hv] at h
        subst h
        obtain ⟨f2, u2⟩ := C07.addFunctions_spec b (addFunctions b acc btd.fns) v.fns
        simp only []
        rw [f2, u2, f1, u1, List.append_assoc]
        exact ⟨rfl, rfl⟩
    · rw [if_neg hi] at h ⊢
      subst h
      exact ⟨f1, u1⟩
  · exact absurd h (Res.cast_ne_ok _ _)

/-- **`injectBases` adds exactly `specBases`** -/
theorem injectFold_spec (reg : Registry) (l : List (Nat × Region)) (acc acc' : InjAcc)
    (h : Res.foldlM (injStep reg) acc l = .ok acc') : acc'.fns = acc.fns ++ specBases reg l acc.used := by
  induction l generalizing acc with
  | nil => simp only [Res.foldlM, Res.ok.injEq] at h; subst h; simp [specBases]
  | cons ib rest ih =>
    unfold Res.foldlM at h
    split at h
    · next acc1 h1 =>
      obtain ⟨e1, e2⟩ := injStep_spec reg acc acc1 ib h1
      rw [ih acc1 h, e1, e2, List.append_assoc]
      rfl
    all_goals cases h

theorem injectFold_steps (reg : Registry) (l : List (Nat × Region)) (acc acc' : InjAcc)
    (h : Res.foldlM (injStep reg) acc l = .ok acc') :
    ∀ ib ∈ l, regionNameAndTypeDef reg ib.2 = .ok none ∨ ∃ b btd, regionNameAndTypeDef reg ib.2 = .ok (some (b, btd)) := by
  induction l generalizing acc with
  | nil => intro ib hib; cases hib
  | cons x rest ih =>
    unfold Res.foldlM at h
    split at h
    · next acc1 h1 =>
      intro ib hib
      rcases List.mem_cons.mp hib with rfl | hib
      · unfold injStep at h1
        split at h1
        · next hr => exact Or.inl hr
        · next b btd hr => exact Or.inr ⟨b, btd, hr⟩
        · exact absurd h1 (Res.cast_ne_ok _ _)
      · exact ih acc1 h ib hib
    all_goals cases h

theorem specBases_congr (r r' : Registry) (l : List (Nat × Region)) (used : List String)
    (h : ∀ ib ∈ l, regionNameAndTypeDef r ib.2 = regionNameAndTypeDef r' ib.2) : specBases r l used = specBases r' l used := by
  induction l generalizing used with
  | nil => rfl
  | cons ib rest ih =>
    have e : specBasesStep r used ib = specBasesStep r' used ib := by
      unfold specBasesStep
      rw [h ib List.mem_cons_self]
    simp only [specBases, e]
    rw [ih _ (fun x hx => h x (List.mem_cons_of_mem _ hx))]

theorem placed_srcs (reg : Registry) (vptr : Option Region) (pending : List (Option Nat × Region))
    (target : Option Nat) (placed : List (Placed Region)) (size : Nat)
    (h : resolve (vptr.map (toPField reg none)) (pending.map fun p => toPField reg p.1 p.2) target = .ok (placed, size)) :
    ∀ pl ∈ placed, ∀ rg, pl.src = some rg → vptr = some rg ∨ rg ∈ pending.map (·.2) := by
  refine C02.resolve_all (fun pl => ∀ rg, pl.src = some rg → vptr = some rg ∨ rg ∈ pending.map (·.2))
    (fun n rg hrg => by cases hrg) _ _ _ _ _ h ?_ ?_
  · intro v hv sz _ rg hrg
    cases vptr with
    | none => cases hv
    | some r0 =>
      simp only [Option.map_some, Option.some.injEq] at hv
      subst hv
      simp only [toPField, Option.some.injEq] at hrg
      exact Or.inl (by rw [hrg])
  · intro f hf sz _ rg hrg
    obtain ⟨q, hq, rfl⟩ := List.mem_map.mp hf
    simp only [toPField, Option.some.injEq] at hrg
    subst hrg
    exact Or.inr (List.mem_map.mpr ⟨q, hq, rfl⟩)

theorem regions_src (reg : Registry) (vptr : Option Region) (pending : List (Option Nat × Region))
    (target : Option Nat) (placed : List (Placed Region)) (size : Nat) (regions : List Region)
    (h : resolve (vptr.map (toPField reg none)) (pending.map fun p => toPField reg p.1 p.2) target = .ok (placed, size))
    (hn : nameRegions reg 0 placed = .ok regions) :
    ∀ rg ∈ regions, (rg.vis = .priv ∧ rg.doc = none) ∨ (rg.name.isSome ∧ (vptr = some rg ∨ rg ∈ pending.map (·.2))) := by
  intro rg hrg
  obtain ⟨k, hk, rfl⟩ := List.getElem_of_mem hrg
  obtain ⟨hlen, _⟩ := C01.nameRegions_types_lem reg 0 placed regions hn
  have hkp : k < placed.length := by rw [← hlen]; exact hk
  obtain ⟨h1, h2, h3⟩ := C17.padding_private reg 0 placed regions hn k hkp hk
  cases hsrc : placed[k].src with
  | none => exact Or.inl (h1 hsrc)
  | some r0 =>
    cases hname : r0.name with
    | none => exact Or.inl (h3 r0 hsrc hname)
    | some nm =>
      have hnm : r0.name.isSome := by rw [hname]; rfl
      have e := h2 r0 hsrc hnm
      rw [e]
      exact Or.inr ⟨hnm, placed_srcs reg vptr pending target placed size h placed[k] (List.getElem_mem hkp) r0 hsrc⟩

theorem bases_sized (reg : Registry) (vptr : Option Region) (pending : List (Option Nat × Region))
    (target : Option Nat) (placed : List (Placed Region)) (size : Nat) (regions : List Region)
    (hres : resolve (vptr.map (toPField reg none)) (pending.map fun p => toPField reg p.1 p.2) target = .ok (placed, size))
    (hn : nameRegions reg 0 placed = .ok regions) :
    ∀ rg ∈ regions, rg.isBase = true → ∃ n, rg.ty.size reg = .ok (some n) := by
  intro rg hrg hb
  obtain ⟨k, hk⟩ := List.mem_iff_getElem?.mp hrg
  obtain ⟨pl, hpl, hsrc⟩ := Exec.nameRegions_base reg 0 placed regions hn k rg hk hb
  obtain ⟨hv, hf⟩ := resolve_sizes _ _ _ _ _ hres
  rcases placed_srcs reg vptr pending target placed size hres pl (List.mem_of_getElem? hpl) rg hsrc with h1 | h1
  · exact hv (toPField reg none rg) (by rw [h1]; rfl)
  · obtain ⟨q, hq, rfl⟩ := List.mem_map.mp h1
    exact hf (toPField reg q.1 q.2) (List.mem_map.mpr ⟨q, hq, rfl⟩)

/-- **the functions of an accepted `type_definition::build`, exactly**: every `#[base]` field of the result is a named
    field whose type is a resolved struct (in the registry after the build, hence in every later one), and the
    inherited functions are `specBases` of these fields, read in any later registry -/
theorem injectBases_exact (reg reg' : Registry) (he : C02.Ext reg reg') (vptr : Option Region)
    (pending : List (Option Nat × Region)) (target : Option Nat) (placed : List (Placed Region)) (size : Nat)
    (regions : List Region) (acc acc' : InjAcc)
    (hres : resolve (vptr.map (toPField reg none)) (pending.map fun p => toPField reg p.1 p.2) target = .ok (placed, size))
    (hn : nameRegions reg 0 placed = .ok regions)
    (hinj : injectBases reg regions acc = .ok acc') :
    (∀ rg ∈ regions, rg.isBase = true → ∃ b bp btd, rg.name = some b ∧ rg.ty = .data (.raw bp) ∧
      Exec.typeDefn? reg' bp = some btd ∧ regionNameAndTypeDef reg' rg = .ok (some (b, btd))) ∧
    acc'.fns = acc.fns ++ specBases reg' ((regions.filter (·.isBase)).zipIdx.map fun q => (q.2, q.1)) acc.used := by
  rw [injectBases_eq] at hinj
  have hsteps := injectFold_steps reg _ acc acc' hinj
  have hsized := bases_sized reg vptr pending target placed size regions hres hn
  have hall : ∀ ib ∈ ((regions.filter (·.isBase)).zipIdx.map fun q => (q.2, q.1)),
      ∃ b btd, regionNameAndTypeDef reg ib.2 = .ok (some (b, btd)) := by
    intro ib hib
    rcases hsteps ib hib with hnone | hsome
    · exfalso
      obtain ⟨q, hq, rfl⟩ := List.mem_map.mp hib
      have hmem : q.1 ∈ regions.filter (·.isBase) := (List.mem_zipIdx hq).2.2 ▸ List.getElem_mem _
      obtain ⟨hm1, hm2⟩ := List.mem_filter.mp hmem
      obtain ⟨n, hnn⟩ := hsized q.1 hm1 hm2
      rw [regionNameAndTypeDef_none_size reg q.1 hnone] at hnn
      cases hnn
    · exact hsome
  refine ⟨?_, ?_⟩
  · intro rg hrg hb
    obtain ⟨k, hk, hke⟩ := List.getElem_of_mem (List.mem_filter.mpr ⟨hrg, hb⟩)
    have hib : (k, rg) ∈ ((regions.filter (·.isBase)).zipIdx.map fun q => (q.2, q.1)) := by
      refine List.mem_map.mpr ⟨(rg, k), ?_, rfl⟩
      rw [List.mem_zipIdx_iff_getElem?]
      rw [← hke]
      exact List.getElem?_eq_getElem hk
    obtain ⟨b, btd, hr⟩ := hall (k, rg) hib
    obtain ⟨bp, hname, hty, htd⟩ := Exec.regionNameAndTypeDef_inv reg rg b btd hr
    exact ⟨b, bp, btd, hname, hty, Exec.typeDefn?_mono he bp btd htd, regionNameAndTypeDef_mono he rg b btd hr⟩
  · rw [injectFold_spec reg _ acc acc' hinj]
    congr 1
    apply specBases_congr
    intro ib hib
    obtain ⟨b, btd, hr⟩ := hall ib hib
    rw [hr, regionNameAndTypeDef_mono he ib.2 b btd hr]

theorem specBases_contains (reg : Registry) (l : List (Nat × Region)) (used0 : List String) (ib : Nat × Region)
    (hib : ib ∈ l) (b : String) (btd : TypeDefn) (hr : regionNameAndTypeDef reg ib.2 = .ok (some (b, btd))) :
    (∃ used, ∀ g ∈ C07.specInject b used btd.fns, g ∈ specBases reg l used0) ∧
    (ib.1 > 0 → ∀ v, btd.vft = some v → ∃ used, ∀ g ∈ C07.specInject b used v.fns, g ∈ specBases reg l used0) := by
  induction l generalizing used0 with
  | nil => cases hib
  | cons x rest ih =>
    rcases List.mem_cons.mp hib with rfl | hmem
    · have hstep : specBasesStep reg used0 ib =
          (match (if ib.1 > 0 then btd.vft else none) with
           | some v => (C07.specInject b used0 btd.fns ++ C07.specInject b (C07.usedAfter b used0 btd.fns) v.fns,
               C07.usedAfter b (C07.usedAfter b used0 btd.fns) v.fns)
           | none => (C07.specInject b used0 btd.fns, C07.usedAfter b used0 btd.fns)) := by
        unfold specBasesStep
        rw [hr]
      refine ⟨⟨used0, ?_⟩, ?_⟩
      · intro g hg
        simp only [specBases]
        apply List.mem_append_left
        rw [hstep]
        split
        · exact List.mem_append_left _ hg
        · exact hg
      · intro hpos v hv
        refine ⟨C07.usedAfter b used0 btd.fns, ?_⟩
        intro g hg
        simp only [specBases]
        apply List.mem_append_left
        rw [hstep, if_pos hpos, hv]
        exact List.mem_append_right _ hg
    · obtain ⟨⟨u1, h1⟩, h2⟩ := ih (specBasesStep reg used0 x).2 hmem
      refine ⟨⟨u1, fun g hg => ?_⟩, fun hpos v hv => ?_⟩
      · simp only [specBases]
        exact List.mem_append_right _ (h1 g hg)
      · obtain ⟨u2, h3⟩ := h2 hpos v hv
        refine ⟨u2, fun g hg => ?_⟩
        simp only [specBases]
        exact List.mem_append_right _ (h3 g hg)

theorem specBases_mem (reg : Registry) (l : List (Nat × Region)) (used0 : List String) (g : SFunc)
    (hg : g ∈ specBases reg l used0) :
    ∃ ib ∈ l, ∃ b btd used, regionNameAndTypeDef reg ib.2 = .ok (some (b, btd)) ∧
      (g ∈ C07.specInject b used btd.fns ∨ (ib.1 > 0 ∧ ∃ v, btd.vft = some v ∧ g ∈ C07.specInject b used v.fns)) := by
  induction l generalizing used0 with
  | nil => cases hg
  | cons x rest ih =>
    simp only [specBases] at hg
    rcases List.mem_append.mp hg with h1 | h1
    · refine ⟨x, List.mem_cons_self, ?_⟩
      unfold specBasesStep at h1
      split at h1
      · next b btd hr =>
        refine ⟨b, btd, ?_⟩
        split at h1
        · next v hv =>
          simp only [] at h1
          rcases List.mem_append.mp h1 with h2 | h2
          · exact ⟨used0, hr, Or.inl h2⟩
          · refine ⟨_, hr, Or.inr ⟨?_, v, ?_, h2⟩⟩
            · by_cases hp : x.1 > 0
              · exact hp
              · rw [if_neg hp] at hv; cases hv
            · by_cases hp : x.1 > 0
              · rw [if_pos hp] at hv; exact hv
              · rw [if_neg hp] at hv; cases hv
        · exact ⟨used0, hr, Or.inl h1⟩
      · cases h1
    · obtain ⟨ib, hib, rest'⟩ := ih _ h1
      exact ⟨ib, List.mem_cons_of_mem _ hib, rest'⟩

theorem specBases_forwards (reg : Registry) (regions : List Region) (l : List (Nat × Region)) (used0 : List String)
    (hl : ∀ ib ∈ l, ib.2 ∈ regions ∧ ib.2.isBase = true) : ∀ g ∈ specBases reg l used0, Forwards reg regions g := by
  intro g hg
  obtain ⟨ib, hib, b, btd, used, hr, hor⟩ := specBases_mem reg l used0 g hg
  obtain ⟨hmem, hbase⟩ := hl ib hib
  obtain ⟨bp, hname, hty, hbtd⟩ := Exec.regionNameAndTypeDef_inv reg ib.2 b btd hr
  rcases hor with h1 | ⟨_, v, hv, h1⟩
  · exact ⟨ib.2, hmem, hbase, b, bp, btd, btd.fns, used, hname, hty, hbtd, Or.inl rfl, h1⟩
  · exact ⟨ib.2, hmem, hbase, b, bp, btd, v.fns, used, hname, hty, hbtd, Or.inr ⟨v, hv, rfl⟩, h1⟩

theorem Forwards.body {reg : Registry} {regions : List Region} {g : SFunc} (h : Forwards reg regions g) :
    ∃ b fn, g.body = .field b fn := by
  obtain ⟨_, _, _, b, _, _, fs, used, _, _, _, _, hspec⟩ := h
  obtain ⟨f, _, _, _, hbody⟩ := C07.private_not_reexposed b used fs g hspec
  exact ⟨b, f.name, hbody⟩

theorem mapM'_mem {α β} (f : α → Res β) (l : List α) (l' : List β) (h : Res.mapM' f l = .ok l') :
    ∀ b ∈ l', ∃ a ∈ l, f a = .ok b := by
  obtain ⟨hl, hp⟩ := Res.mapM'_ok h
  intro b hb
  obtain ⟨k, hk, rfl⟩ := List.getElem_of_mem hb
  exact ⟨l[k]'(by omega), List.getElem_mem _, hp k (by omega) hk⟩

theorem mapM'_mem_fwd {α β} (f : α → Res β) (l : List α) (l' : List β) (h : Res.mapM' f l = .ok l') :
    ∀ a ∈ l, ∃ b ∈ l', f a = .ok b := by
  obtain ⟨hl, hp⟩ := Res.mapM'_ok h
  intro a ha
  obtain ⟨k, hk, rfl⟩ := List.getElem_of_mem ha
  exact ⟨l'[k]'(by omega), List.getElem_mem _, hp k hk (by omega)⟩

theorem implFor_mem (md : Mod) (p : Path) (im : G.Impl) (h : md.implFor p = some im) :
    ∀ gf ∈ im.fns, ∃ ib ∈ md.impls, ib.1 = p ∧ gf ∈ ib.2.fns := by
  intro gf hgf
  have hm := C05.impl_blocks_merged md p
  rw [h] at hm
  simp only [Option.map_some, Option.getD_some] at hm
  rw [hm] at hgf
  simp only [List.mem_flatMap, List.mem_map, List.mem_filter, beq_iff_eq] at hgf
  obtain ⟨blk, ⟨ib, ⟨hib, hk⟩, rfl⟩, hgf⟩ := hgf
  exact ⟨ib, hib, hk, hgf⟩

theorem convertVfuncs_slots (reg : Registry) (scope : List Path) (size : Option Nat) (gfns : List G.Func) (out : List SFunc)
    (h : convertVfuncs reg scope size gfns = .ok out) :
    ∀ k f, out[k]? = some f → (∃ gf ∈ gfns, buildFunction reg scope true gf = .ok f) ∨ f = placeholderFn k := by
  obtain ⟨pos, built, len, _, hbuilt, hlen, _, _, hz, hph⟩ := C04.slots reg scope size gfns out h
  obtain ⟨hl, hpt⟩ := Res.mapM'_ok hbuilt
  intro k f hk
  by_cases hmem : k ∈ pos
  · left
    obtain ⟨j, hj, hje⟩ := List.getElem_of_mem hmem
    have hjb : j < built.length := by rw [← hlen]; exact hj
    have hjg : j < gfns.length := by rw [← hl]; exact hjb
    have hzip : (k, built[j]) ∈ pos.zip built := by
      rw [List.mem_iff_getElem?]
      refine ⟨j, ?_⟩
      rw [List.getElem?_zip_eq_some]
      exact ⟨by rw [List.getElem?_eq_getElem hj, hje], List.getElem?_eq_getElem hjb⟩
    have := hz _ hzip
    simp only [] at this
    rw [hk] at this
    cases this
    exact ⟨gfns[j], List.getElem_mem _, hpt j hjg hjb⟩
  · right
    have hlt : k < out.length := (List.getElem?_eq_some_iff.mp hk).1
    have := hph k hlt hmem
    rw [hk] at this
    cases this
    rfl

/-! ### an accepted `type_definition::build`, read in a later registry and traced to the definition -/

section
variable {s s1 : State} {p : Path} {vis : Vis} {d : G.TypeDef} {r : Resolved} {td : TypeDefn} {module module1 : Mod}
  {ta : TypeAttrs} {sa : StmtAcc} {vptr : Option Region} {placed : List (Placed Region)} {acc1 acc2 : InjAcc}
  (B : TypeBuild s s1 p vis d r td module module1 ta sa vptr placed acc1 acc2)
include B

theorem TypeBuild.reach : C02.Reach2 s s1 p := by
  have := C02.buildVftable_reach2 s p vis ((sa.pending.map (·.2)).find? (·.isBase)) sa.vfns
  rw [B.vft] at this
  exact this

theorem TypeBuild.ext : C02.Ext s.reg s1.reg := B.reach.ext

theorem TypeBuild.prims (hp : C02.PrimsOk s.reg) : C02.PrimsOk s1.reg := Exec.primsOk_ext B.ext hp

theorem TypeBuild.mod1_eq : ∃ dp, module1 = { module with defPaths := dp } := by
  obtain ⟨dp, h⟩ := B.reach.moduleFor B.mod
  rw [B.mod1] at h
  exact ⟨dp, Option.some.inj h⟩

theorem TypeBuild.built :
    ∃ built, Res.mapM' (buildFunction s1.reg module.scope false) (((module.implFor p).map (·.fns)).getD []) = .ok built ∧
      td.fns = acc1.fns ++ built := by
  obtain ⟨dp, rfl⟩ := B.mod1_eq
  have himpl : addImplFns s1.reg module.scope (module.implFor p) acc1 = .ok acc2 := B.impl
  rw [B.fns]
  cases him : module.implFor p with
  | none =>
    rw [him] at himpl
    simp only [addImplFns, Res.ok.injEq] at himpl
    subst himpl
    exact ⟨[], rfl, by simp⟩
  | some im =>
    rw [him] at himpl
    exact C05.impl_functions_all_present s1.reg module.scope im acc1 acc2 himpl

/-! what the build read in `s1.reg` reads the same in every later registry `reg'` -/

theorem TypeBuild.pfields {reg' : Registry} (he : C02.Ext s1.reg reg') :
    vptr.map (toPField reg' none) = vptr.map (toPField s1.reg none) ∧
    (sa.pending.map fun q => toPField reg' q.1 q.2) = (sa.pending.map fun q => toPField s1.reg q.1 q.2) :=
  pfields_ext he vptr sa.pending ta.targetSize placed r.size B.layout

theorem TypeBuild.layout_in {reg' : Registry} (he : C02.Ext s1.reg reg') :
    resolve (vptr.map (toPField reg' none)) (sa.pending.map fun q => toPField reg' q.1 q.2) ta.targetSize
      = .ok (placed, r.size) := by
  obtain ⟨h1, h2⟩ := B.pfields he
  rw [h1, h2]
  exact B.layout

theorem TypeBuild.named_in (hp : C02.PrimsOk s.reg) {reg' : Registry} (he : C02.Ext s1.reg reg') :
    nameRegions reg' 0 placed = .ok td.regions := by
  rw [← nameRegions_prims s1.reg reg' (B.prims hp) (Exec.primsOk_ext he (B.prims hp))]
  exact B.named

theorem TypeBuild.align_in {reg' : Registry} (he : C02.Ext s1.reg reg') :
    alignCheck reg'.ps ta.packed ta.align placed r.size = .ok r.align := by
  rw [he.ps, ← B.packed]
  exact B.align

/-- the five ways `vftable::build` succeeded, the table of the first `#[base]` field read in a later registry: its
    size was known when the type was laid out, so it reads the same -/
theorem TypeBuild.vftCases {reg' : Registry} (he : C02.Ext s1.reg reg') :
    VftCases reg' p ((sa.pending.map (·.2)).find? (·.isBase)) sa.vfns td.vft vptr := by
  have hsz : ∀ b, (sa.pending.map (·.2)).find? (·.isBase) = some b → ∃ n, b.ty.size s1.reg = .ok (some n) := by
    intro b hb
    obtain ⟨q, hq, rfl⟩ := List.mem_map.mp (List.mem_of_find?_eq_some hb)
    exact (resolve_sizes _ _ _ _ _ B.layout).2 (toPField s1.reg q.1 q.2) (List.mem_map.mpr ⟨q, hq, rfl⟩)
  have tr := fun x => baseVftable_ext he _ hsz x
  rcases buildVftable_ok B.vft with
    ⟨h1, hs, h3, ⟨h5, h4⟩ | ⟨bn, bv, h5, h6⟩⟩ | ⟨fns, h1, h2, _, h4, h5⟩ |
    ⟨fns, item, h1, hi, _, _, ⟨hb, h4, h5⟩ | ⟨bn, bv, hb, hpre, h6, h7⟩⟩
  · rw [← hs] at h5
    exact Or.inl ⟨h1, h3, h4, tr _ h5⟩
  · rw [← hs] at h5
    exact Or.inr (Or.inl ⟨h1, h3, bn, bv, tr _ h5, h6⟩)
  · exact Or.inr (Or.inr (Or.inl ⟨fns, h1, h2, h4, h5⟩))
  · exact Or.inr (Or.inr (Or.inr (Or.inl ⟨fns, item.path, h1, vftablePath_of_item hi, tr _ hb, h4, h5⟩)))
  · exact Or.inr (Or.inr (Or.inr (Or.inr ⟨fns, item.path, bn, bv, h1, vftablePath_of_item hi, tr _ hb, hpre,
      hpre.map C06.slotSig, h6, h7⟩)))

/-- … sorted by the table the type ends up with: none, its own, or one reached through the first `#[base]` field -/
theorem TypeBuild.table_cases {reg' : Registry} (he : C02.Ext s1.reg reg') :
    (td.vft = none ∧ vptr = none) ∨
    (∃ fns vpath, vftablePath p = some vpath ∧ vptr = some (C06.ownPointer vpath) ∧
      td.vft = some { fns := fns, baseField := none, ty := .cptr (.raw vpath) }) ∨
    (∃ v bn bv, td.vft = some v ∧ v.baseField = some bn ∧ vptr = none ∧
      baseVftable reg' ((sa.pending.map (·.2)).find? (·.isBase)) = .ok (some (bn, bv)) ∧ bv.fns <+: v.fns) := by
  rcases B.vftCases he with ⟨_, h2, h3, _⟩ | ⟨_, h2, bn, bv, h3, h4⟩ | ⟨_, _, _, h3, h4⟩ | ⟨fns, vpath, _, hvp, _, h4, h5⟩ |
    ⟨fns, vpath, bn, bv, _, _, h3, hpre, _, h6, h7⟩
  · exact Or.inl ⟨h3, h2⟩
  · exact Or.inr (Or.inr ⟨_, bn, bv, h4, rfl, h2, h3, List.prefix_refl _⟩)
  · exact Or.inl ⟨h4, h3⟩
  · exact Or.inr (Or.inl ⟨fns, vpath, hvp, h4, h5⟩)
  · exact Or.inr (Or.inr ⟨_, bn, bv, h7, rfl, h6, h3, hpre⟩)

theorem TypeBuild.vptr_own : vptr = none ∨ ∃ vpath, vftablePath p = some vpath ∧ vptr = some (C06.ownPointer vpath) := by
  rcases B.table_cases (C02.Ext.refl _) with ⟨_, h⟩ | ⟨_, vpath, hvp, h, _⟩ | ⟨_, _, _, _, _, h, _⟩
  · exact Or.inl h
  · exact Or.inr ⟨vpath, hvp, h⟩
  · exact Or.inl h

theorem TypeBuild.own_pointer (hp : C02.PrimsOk s.reg) {reg' : Registry} (he : C02.Ext s1.reg reg') {vpath : Path}
    (hv : vptr = some (C06.ownPointer vpath)) :
    td.regions.head? = some (C06.ownPointer vpath) ∧ Exec.fieldOffset reg' td vftableFieldName = some 0 := by
  subst hv
  obtain ⟨ho, hhead⟩ := Exec.own_pointer_offset s1.reg (B.prims hp) (C06.ownPointer vpath) sa.pending ta.targetSize placed
    r.size td rfl rfl B.layout B.named
  exact ⟨hhead, Exec.fieldOffset_mono he td _ 0 ho⟩

/-- a definition that starts with a vftable block: the block converts to the table of the type – if it has one, and it
    has one when it has a parent path; then every later registry holds the generated struct `<T>Vftable` -/
theorem TypeBuild.block {reg' : Registry} (he : C02.Ext s1.reg reg') {st : G.Stmt} {gfns : List G.Func}
    (hst : d.stmts[0]? = some st) (hf : st.field = .vftable gfns) :
    ∃ size out, vftableSizeAttr st.attrs = .ok size ∧ convertVfuncs s.reg module.scope size gfns = .ok out ∧
      sa.vfns = some out ∧ (∀ f ∈ gfns, C13.hasReceiver f = true) ∧ (∀ v, td.vft = some v → v.fns = out) ∧
      ∀ vpath, vftablePath p = some vpath → ∃ vi bf, buildVftableItem s.reg p vis out = some vi ∧ vi.path = vpath ∧
        reg'.get vpath = some vi ∧ td.vft = some { fns := out, baseField := bf, ty := .cptr (.raw vpath) } := by
  obtain ⟨size, out, hsize, hconv, hvfns, hrecv⟩ := stmts_vfns_of_block B.stmts hst hf
  refine ⟨size, out, hsize, hconv, hvfns, hrecv, ?_⟩
  have hbv := B.vft
  rw [hvfns] at hbv
  rcases Exec.buildVftable_some_inv s s1 p vis _ out td.vft vptr hbv with ⟨hnone, hv, _⟩ | ⟨vi, hitem, hget, _, bf, hv⟩
  · rw [hv, hnone]
    refine ⟨?_, ?_⟩
    · intro v h; cases h
    · intro vpath h; cases h
  · have hvp := vftablePath_of_item hitem
    obtain ⟨_, hstate, _⟩ := C04.vftable_item s.reg p vis out vi hitem
    rw [hv, hvp]
    refine ⟨?_, ?_⟩
    · intro v h; cases h; rfl
    · intro vpath h
      cases h
      exact ⟨vi, bf, hitem, rfl, he.res hget hstate, rfl⟩

/-- … so slot `k` of its table holds the function built from a function of the block, or the placeholder of slot `k` -/
theorem TypeBuild.slot_src {st : G.Stmt} {gfns : List G.Func} (hst : d.stmts[0]? = some st) (hf : st.field = .vftable gfns)
    {v : Vft} (hv : td.vft = some v) {k : Nat} {f : SFunc} (hk : v.fns[k]? = some f) :
    (∃ gf ∈ gfns, buildFunction s.reg module.scope true gf = .ok f) ∨ f = placeholderFn k := by
  obtain ⟨size, out, _, hconv, _, _, hout, _⟩ := B.block (C02.Ext.refl _) hst hf
  rw [hout v hv] at hk
  exact convertVfuncs_slots s.reg module.scope size gfns out hconv k f hk

theorem TypeBuild.noblock (hf : ∀ st, d.stmts[0]? = some st → C01.isFieldStmt st = true) : sa.vfns = none :=
  stmts_vfns_none B.stmts hf

/-- every field of the emitted struct is generated (private, undocumented: padding, the vftable pointer) or one of the
    named declared fields -/
theorem TypeBuild.region_src :
    ∀ rg ∈ td.regions, (rg.vis = .priv ∧ rg.doc = none) ∨ (rg.name.isSome ∧ rg ∈ sa.pending.map (·.2)) := by
  intro rg hrg
  rcases regions_src s1.reg vptr sa.pending ta.targetSize placed r.size td.regions B.layout B.named rg hrg with
    hgen | ⟨hnm, hv | hpend⟩
  · exact Or.inl hgen
  · rcases B.vptr_own with h | ⟨vpath, _, h⟩
    · rw [h] at hv; cases hv
    · rw [h] at hv; cases hv; exact Or.inl ⟨rfl, rfl⟩
  · exact Or.inr ⟨hnm, hpend⟩

/-- … and a declared field is a named field statement of the definition: that statement's visibility, name and docs, its
    type resolved in the scope of the type's module -/
theorem TypeBuild.field_src :
    ∀ rg ∈ td.regions, (rg.vis = .priv ∧ rg.doc = none) ∨
      ∃ st ∈ d.stmts, ∃ (vis : Vis) (name : String) (ty : G.Ty) (t : DTy),
        st.field = .field vis name ty ∧ rg.vis = vis ∧ rg.name = some name ∧ G.docOf st.attrs = some rg.doc ∧
        s.reg.resolveTy module.scope ty = .ok t ∧ rg.ty = .data t := by
  intro rg hrg
  rcases B.region_src rg hrg with hgen | ⟨hnm, hpend⟩
  · exact Or.inl hgen
  · obtain ⟨q, hq, rfl⟩ := List.mem_map.mp hpend
    obtain ⟨st, hst, hfo⟩ := stmts_pending_src B.stmts q hq
    exact Or.inr ⟨st, hst, hfo.named hnm⟩

/-- **the inherited functions, exactly**: every `#[base]` field of the result is a named field whose type is a resolved
    struct in every later registry, and the inherited functions are `specBases` of these fields, read there -/
theorem TypeBuild.inherited {reg' : Registry} (he : C02.Ext s1.reg reg') :
    (∀ rg ∈ td.regions, rg.isBase = true → ∃ b bp btd, rg.name = some b ∧ rg.ty = .data (.raw bp) ∧
      Exec.typeDefn? reg' bp = some btd ∧ regionNameAndTypeDef reg' rg = .ok (some (b, btd))) ∧
    acc1.fns = specBases reg' ((td.regions.filter (·.isBase)).zipIdx.map fun q => (q.2, q.1))
      (match td.vft with | some v => v.fns.map (·.name) | none => []) := by
  obtain ⟨h1, h2⟩ := injectBases_exact s1.reg reg' he vptr sa.pending ta.targetSize placed r.size td.regions _ acc1
    B.layout B.named B.inject
  exact ⟨h1, by rw [h2]; rfl⟩

theorem TypeBuild.forwards {reg' : Registry} (he : C02.Ext s1.reg reg') : ∀ g ∈ acc1.fns, Forwards reg' td.regions g := by
  intro g hg
  rw [(B.inherited he).2] at hg
  refine specBases_forwards reg' td.regions _ _ ?_ g hg
  intro ib hib
  obtain ⟨q, hq, rfl⟩ := List.mem_map.mp hib
  exact List.mem_filter.mp ((List.mem_zipIdx hq).2.2 ▸ List.getElem_mem _)

/-- every function of the emitted struct is built from a function of the merged function block of its module, or is
    the copy of a public function `f0` of the type of a `#[base]` field, with name and body rewritten -/
theorem TypeBuild.fn_src {reg' : Registry} (he : C02.Ext s1.reg reg') :
    ∀ f ∈ td.fns,
      (∃ gf ∈ ((module.implFor p).map (·.fns)).getD [], buildFunction s1.reg module.scope false gf = .ok f) ∨
      (∃ rg ∈ td.regions, ∃ (b : String) (bp : Path) (btd : TypeDefn) (f0 : SFunc),
        rg.isBase = true ∧ rg.name = some b ∧ rg.ty = .data (.raw bp) ∧ Exec.typeDefn? reg' bp = some btd ∧
        (f0 ∈ btd.fns ∨ ∃ v, btd.vft = some v ∧ f0 ∈ v.fns) ∧ f0.vis = .pub ∧
        f.doc = f0.doc ∧ f.vis = f0.vis ∧ f.args = f0.args ∧ f.ret = f0.ret ∧ f.cc = f0.cc ∧
        f.body = .field b f0.name) := by
  intro f hf
  obtain ⟨built, hbuilt, hfns⟩ := B.built
  rw [hfns] at hf
  rcases List.mem_append.mp hf with h1 | h1
  · right
    obtain ⟨rg, hrg, hbase, b, bp, btd, fs, used, hname, hrty, hbtd, hfs, hspec⟩ := B.forwards he f h1
    have hadd : f ∈ (addFunctions b { fns := [], used := used } fs).fns := by
      rw [(C07.addFunctions_spec b { fns := [], used := used } fs).1]
      exact List.mem_append_right _ hspec
    rcases C17.inherited_copy_keeps_doc b { fns := [], used := used } fs f hadd with hnil |
      ⟨f0, hf0, hpub, k1, k2, k3, k4, k5, k6⟩
    · cases hnil
    · refine ⟨rg, hrg, b, bp, btd, f0, hbase, hname, hrty, hbtd, ?_, hpub, k1, k2, k3, k4, k5, k6⟩
      rcases hfs with rfl | ⟨v, hv, rfl⟩
      · exact Or.inl hf0
      · exact Or.inr ⟨v, hv, hf0⟩
  · obtain ⟨gf, hgf, hbf⟩ := mapM'_mem _ _ _ hbuilt f h1
    exact Or.inl ⟨gf, hgf, hbf⟩

end

end PyxisVerif.CaseLift
