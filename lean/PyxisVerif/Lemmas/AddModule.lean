import PyxisVerif.Lemmas.RelRes
import PyxisVerif.Lemmas.Stages
/-!
# `add_module` from two related states

`SemanticState::add_module` stores the new module and then registers one item for every definition and
every extern type; each of these steps either fails for a reason that does not depend on the state, or is
`gAdd u i` for an item `i` that does not depend on the state (`IsG`).  So a relation between states that the
store and `gAdd` keep is kept by `add_module` of the same module from both (`addModule_rel`).  For two modules that
differ in their definitions only the definition loops remain to be compared (`addModule_defs`), and for two cases
that differ in one module, the two `add_module` calls for it (`initialState_set`).
-/
namespace PyxisVerif.C20

/-- two lists that differ in one element: the prefix is cancelled, the two elements are stepped from the same
    state, and the rest is folded from related states -/
theorem RelRes.foldlM_replace {α β} {R : β → β → Prop} (f : β → α → Res β) (b : β) (pre post : List α) (a a' : α)
    (hstep : ∀ t, Res.foldlM f b pre = .ok t → RelRes R (f t a) (f t a'))
    (hrest : ∀ c c' x, R c c' → RelRes R (f c x) (f c' x)) :
    RelRes R (Res.foldlM f b (pre ++ a :: post)) (Res.foldlM f b (pre ++ a' :: post)) :=
  RelRes.foldlM_prefix f b pre _ _ (fun t ht => by
    rw [foldlM_cons_bind, foldlM_cons_bind]
    exact (hstep t ht).bind (fun _ _ hc => RelRes.foldlM hrest post hc))

/-- … in particular the same result, if the two elements give the same step -/
theorem foldlM_replace_eq {α β} (f : β → α → Res β) (b : β) (pre post : List α) (a a' : α)
    (h : ∀ t, Res.foldlM f b pre = .ok t → f t a' = f t a) :
    Res.foldlM f b (pre ++ a' :: post) = Res.foldlM f b (pre ++ a :: post) :=
  foldlM_prefix_eq f b pre _ _ (fun t ht => by rw [foldlM_cons_bind, foldlM_cons_bind, h t ht])

/-- the guarded `add_item` of `add_module` -/
def gAdd (u : State) (i : ItemDef) : Res State :=
  if u.reg.contains i.path then .err "item is defined more than once" else u.addItem i

def IsG {α} (path : Path) (f : State → α → Res State) : Prop :=
  ∀ a, (∃ i n, i.path = path ++ [n] ∧ ∀ u, f u a = gAdd u i) ∨ (∃ e : Res State, (∀ t, e ≠ .ok t) ∧ ∀ u, f u a = e)

/-- the registry entry `add_module` makes for a definition -/
def defItem (path : Path) (d : G.Item) : ItemDef :=
  { vis := d.vis, path := path ++ [d.name], state := .unres d, cat := .defined }

theorem defStep_isG (path : Path) : IsG path (C14.defStep path) := by
  intro d
  exact Or.inl ⟨defItem path d, d.name, rfl, fun u => rfl⟩

/-- the registry entry `add_module` makes for an extern type -/
def xtItemOf (path : Path) (name : String) (size align : Nat) : ItemDef :=
  { vis := .pub, path := path ++ [name], state := .res { size := size, align := align, inner := .type {} },
    cat := .extern }

theorem xtypeStep_isG (path : Path) : IsG path (C14.xtypeStep path) := by
  intro xt
  unfold C14.xtypeStep
  cases Res.foldlM xtypeAttrStep {} xt.2 with
  | ok xa =>
    simp only []
    cases xa.size with
    | none => exact Or.inr ⟨_, (fun t h => by cases h), fun u => rfl⟩
    | some size =>
      simp only []
      cases xa.align with
      | none => exact Or.inr ⟨_, (fun t h => by cases h), fun u => rfl⟩
      | some align =>
        simp only []
        by_cases hp : (!Layout.isPow2 align) = true
        · refine Or.inr ⟨.err "alignment of extern type is not a power of two", (fun t h => by cases h), fun u => ?_⟩
          rw [if_pos hp]
        · refine Or.inl ⟨xtItemOf path xt.1 size align, xt.1, rfl, fun u => ?_⟩
          rw [if_neg hp]
          rfl
  | defer => exact Or.inr ⟨.defer, (fun t h => by cases h), fun u => rfl⟩
  | err m => exact Or.inr ⟨.err m, (fun t h => by cases h), fun u => rfl⟩
  | panic m => exact Or.inr ⟨.panic m, (fun t h => by cases h), fun u => rfl⟩

section rel
variable {R : State → State → Prop}
  (hput : ∀ {s s'} (path : Path) (mod : Mod), R s s' → R (s.putModule path mod) (s'.putModule path mod))
  (hadd : ∀ {s s'} (i : ItemDef), R s s' → RelRes R (gAdd s i) (gAdd s' i))
include hadd

theorem IsG.rel {α} {path : Path} {f : State → α → Res State} (hf : IsG path f) {s s' : State} (a : α)
    (h : R s s') : RelRes R (f s a) (f s' a) := by
  rcases hf a with ⟨i, _, _, hfa⟩ | ⟨e, hne, hfa⟩
  · rw [hfa, hfa]; exact hadd i h
  · rw [hfa, hfa]; exact .fail hne

theorem addCore_rel (path : Path) {s s' : State} (h : R s s') (defs : List G.Item)
    (xtypes : List (String × List G.Attr)) : RelRes R (addCore path s defs xtypes) (addCore path s' defs xtypes) :=
  (RelRes.foldlM (fun _ _ a hb => (defStep_isG path).rel hadd a hb) defs h).bind
    (fun _ _ ht => RelRes.foldlM (fun _ _ a hb => (xtypeStep_isG path).rel hadd a hb) xtypes ht)

include hput

theorem addModule_rel {s s' : State} (h : R s s') (m : G.Module) (path : Path) :
    RelRes R (s.addModule m path) (s'.addModule m path) := by
  rw [addModule_eq, addModule_eq]
  refine RelRes.bind_same (fun xvals _ => RelRes.bind_same (fun doc _ => ?_))
  split
  · exact .err _
  · exact addCore_rel hadd path (hput path _ h) m.defs m.xtypes

theorem caseStep_rel {s s' : State} (h : R s s') (me : ModEnt) : RelRes R (caseStep s me) (caseStep s' me) := by
  cases me with
  | ast path file m => exact addModule_rel hput hadd h m path
  | text f t => exact .err _

end rel

/-- `add_module` of two modules that differ in their definitions only: it is enough that the two definition
    loops, started with the module stored, are related by a relation that `gAdd` keeps -/
theorem addModule_defs {R : State → State → Prop}
    (hadd : ∀ {s s'} (i : ItemDef), R s s' → RelRes R (gAdd s i) (gAdd s' i))
    {s s' : State} (m : G.Module) (defs' : List G.Item) (path : Path)
    (himpl : implCheck { m with defs := defs' } = implCheck m)
    (hdefs : ∀ mod, RelRes R (Res.foldlM (C14.defStep path) (s.putModule path mod) m.defs)
      (Res.foldlM (C14.defStep path) (s'.putModule path mod) defs')) :
    RelRes R (s.addModule m path) (s'.addModule { m with defs := defs' } path) := by
  rw [addModule_eq, addModule_eq]
  simp only [himpl]
  refine RelRes.bind_same (fun xvals _ => RelRes.bind_same (fun doc _ => ?_))
  split
  · exact .err _
  · exact (hdefs _).bind (fun _ _ ht =>
      RelRes.foldlM (fun _ _ a hb => (xtypeStep_isG path).rel hadd a hb) m.xtypes ht)

/-- the initial states of two cases that differ in the `j`-th module: the modules before it are added alike -/
theorem initialState_set {R : State → State → Prop} (c : Case) (j : Nat) (me me' : ModEnt)
    (hj : c.modules[j]? = some me) (hstep : ∀ t, RelRes R (caseStep t me) (caseStep t me'))
    (hrest : ∀ {s s'} (a : ModEnt), R s s' → RelRes R (caseStep s a) (caseStep s' a)) :
    RelRes R c.initialState ({ c with modules := c.modules.set j me' } : Case).initialState := by
  obtain ⟨hjl, rfl⟩ := List.getElem?_eq_some_iff.mp hj
  rw [initialState_eq, initialState_eq]
  simp only []
  rw [List.set_eq_take_append_cons_drop, if_pos hjl]
  conv => lhs; rw [← List.take_append_drop j c.modules, List.drop_eq_getElem_cons hjl]
  exact RelRes.foldlM_replace caseStep _ _ _ _ _ (fun t _ => hstep t) (fun _ _ a hb => hrest a hb)

def updMod (parent : Path) (n : Mod) (e : Path × Mod) : Path × Mod := if e.1 == parent then (e.1, n) else e

/-- `HashSet::insert` on the definition paths of a module -/
def insPath (k : Path) (dp : List Path) : List Path := if dp.contains k then dp else k :: dp

theorem addItem_closed (s : State) (i : ItemDef) (path : Path) (nm : String) (m : Mod)
    (hi : i.path = path ++ [nm]) (hm : s.getModule path = some m) :
    s.addItem i = .ok { modules := s.modules.map (updMod path { m with defPaths := insPath i.path m.defPaths }),
                        reg := s.reg.add i } := by
  unfold State.addItem
  rw [hi, Path.parent?_concat]
  simp only [hm]
  rfl

end PyxisVerif.C20
