import PyxisVerif.Lemmas.BuildRel
import PyxisVerif.Lemmas.AddModule
import PyxisVerif.Lemmas.C08
import PyxisVerif.Lemmas.C09Case
import PyxisVerif.Lemmas.C10Global
/-!
# C20, end to end: helper lemmas

`Props/C20E2E.lean` states that a description rewritten into an equivalent one gives the same
`Case.run` (hence the same O2 and O3).  This file has the simulation arguments; the walk through the
stages of the build is that of `Lemmas/BuildRel.lean`, instantiated twice.

* `swapS p d d' s`: the state `s` with the unresolved entry `d` at key `p` replaced by `d'`.  The relation
  `s' = swapS p d d' s` is a `BuildRel` (`swap_buildRel`); an attempt keeps it provided the attempt on `d'`
  gives what the attempt on `d` gives in the states where the item is attempted (`EqAt`, `swap_loopRel`);
  `run_replaced_on` / `run_replaced_ok` are the case-level results (invariant form / accepted-run form).
* the rewrites: `enumRewrite` (a), `sizeRewrite` (b), `addrRewrite` (c), `indexRewrite` (d), each with the
  lemma that lifts the inner no-op of `Lemmas/C20.lean` to `buildEnum` / `buildType`.
* `PermS s s'`: two states that differ in the order of the registry entries and of the modules'
  definition paths only, again a `BuildRel` (`permS_buildRel`); `add_module` of a module with permuted
  definitions establishes it (`defFold_perm`, from `foldlM_perm`) – rewrite (e).
-/
namespace PyxisVerif.C20
open Layout

variable {r r' : Registry}

/-! ## the backend and the O2 observation under `RegSim` -/

theorem dfsHierarchy_sim (h : RegSim r r') (fuel : Nat) (td : TypeDefn) (fields : List String) :
    Emit.dfsHierarchy r' fuel td fields = Emit.dfsHierarchy r fuel td fields := by
  induction fuel generalizing td fields with
  | zero => rfl
  | succ n ih => simp only [Emit.dfsHierarchy, regionNameAndTypeDef_sim h, ih]

theorem typeItems_sim (h : RegSim r r') : Emit.typeItems r' = Emit.typeItems r := by
  funext path size align vis td
  simp only [Emit.typeItems, dfsHierarchy_sim h, h.len]

theorem itemItems_sim (h : RegSim r r') : Emit.itemItems r' = Emit.itemItems r := by
  funext i
  simp only [Emit.itemItems, typeItems_sim h]

theorem itemItems_erase (r : Registry) (i : ItemDef) : Emit.itemItems r (eraseI i) = Emit.itemItems r i := by
  simp only [Emit.itemItems, eraseI_cat, eraseI_resolved, eraseI_path, eraseI_vis]

abbrev pathLe : ItemDef → ItemDef → Bool := fun a b => Path.le a.path b.path

theorem sortBy_eraseI (l : List ItemDef) :
    (Emit.sortBy pathLe l).map eraseI = Emit.sortBy pathLe (l.map eraseI) := by
  unfold Emit.sortBy
  apply List.map_mergeSort
  intro a _ b _
  simp only [pathLe, eraseI_path]

theorem filterMap_get_erase (h : RegSim r r') (ps : List Path) :
    (ps.filterMap r'.get).map eraseI = (ps.filterMap r.get).map eraseI := by
  simp only [List.map_filterMap, h.get]

theorem defs_flatMap_sim (h : RegSim r r') (ps : List Path) :
    (Emit.sortBy pathLe (ps.filterMap r'.get)).flatMap (Emit.itemItems r')
      = (Emit.sortBy pathLe (ps.filterMap r.get)).flatMap (Emit.itemItems r) := by
  have e : ∀ (l : List ItemDef), (Emit.sortBy pathLe l).flatMap (Emit.itemItems r)
      = (Emit.sortBy pathLe (l.map eraseI)).flatMap (Emit.itemItems r) := by
    intro l
    rw [← sortBy_eraseI, List.flatMap_map]
    simp only [itemItems_erase]
  rw [itemItems_sim h, e (ps.filterMap r'.get), e (ps.filterMap r.get), filterMap_get_erase h]

theorem moduleFile_sim (s s' : State) (h : RegSim s.reg s'.reg) (key : Path) (m : Mod) :
    Emit.moduleFile s' key m = Emit.moduleFile s key m := by
  unfold Emit.moduleFile
  simp only []
  rw [defs_flatMap_sim h]

theorem files_sim (s s' : State) (hm : s'.modules = s.modules) (h : RegSim s.reg s'.reg) :
    Emit.files s' = Emit.files s := by
  unfold Emit.files
  simp only [hm, moduleFile_sim s s' h]

theorem itemS_erase (i : ItemDef) : Obs.itemS (eraseI i) = Obs.itemS i := by
  unfold Obs.itemS eraseI
  cases h : i.state <;> simp [h]

theorem isPredefined_erase (i : ItemDef) : (eraseI i).isPredefined = i.isPredefined := by
  simp only [ItemDef.isPredefined, eraseI_cat]

theorem resolvedS_sim (s s' : State) (hm : s'.modules = s.modules) (h : RegSim s.reg s'.reg) :
    Obs.resolvedS s' = Obs.resolvedS s := by
  have e : ∀ (l : List ItemDef), (Emit.sortBy pathLe (l.filter (!·.isPredefined))).map Obs.itemS
      = (Emit.sortBy pathLe ((l.map eraseI).filter (!·.isPredefined))).map Obs.itemS := by
    intro l
    have : (l.map eraseI).filter (!·.isPredefined) = (l.filter (!·.isPredefined)).map eraseI := by
      rw [List.filter_map]
      congr 1
      apply List.filter_congr
      intro x _
      simp only [Function.comp, isPredefined_erase]
    rw [this, ← sortBy_eraseI, List.map_map]
    congr 1
    funext i
    exact (itemS_erase i).symm
  have e2 : (s'.modules.flatMap fun e => e.2.defPaths.filterMap s'.reg.get).map eraseI
      = (s.modules.flatMap fun e => e.2.defPaths.filterMap s.reg.get).map eraseI := by
    simp only [List.map_flatMap, hm, filterMap_get_erase h]
  unfold Obs.resolvedS
  simp only []
  rw [e (s'.modules.flatMap fun e => e.2.defPaths.filterMap s'.reg.get),
      e (s.modules.flatMap fun e => e.2.defPaths.filterMap s.reg.get), e2, hm]


/-! ## replacing the definition stored in one unresolved entry -/

section swap
variable (p : Path) (d d' : G.Item)

/-- the item under key `q`, with the stored definition `d` replaced by `d'` if `q` is the key `p` -/
def swapI (q : Path) (i : ItemDef) : ItemDef :=
  if q = p ∧ i.state = .unres d then { i with state := .unres d' } else i

def swapR (r : Registry) : Registry :=
  { r with types := r.types.map fun e => (e.1, swapI p d d' e.1 e.2) }

def swapS (s : State) : State := { s with reg := swapR p d d' s.reg }

theorem eraseI_swapI (q : Path) (i : ItemDef) : eraseI (swapI p d d' q i) = eraseI i := by
  unfold swapI
  split
  · next h => unfold eraseI; simp only [h.2]
  · rfl

theorem swapI_res (q : Path) (i : ItemDef) (x : Resolved) (h : i.state = .res x) : swapI p d d' q i = i := by
  unfold swapI
  rw [if_neg]
  rw [h]; simp

theorem swapI_isResolved (q : Path) (i : ItemDef) : (swapI p d d' q i).isResolved = i.isResolved := by
  simp only [ItemDef.isResolved, ← eraseI_resolved (swapI p d d' q i), eraseI_swapI, eraseI_resolved]

theorem swapI_isPredefined (q : Path) (i : ItemDef) : (swapI p d d' q i).isPredefined = i.isPredefined := by
  rw [← isPredefined_erase, eraseI_swapI, isPredefined_erase]

theorem get_swapR (r : Registry) (q : Path) : (swapR p d d' r).get q = (r.get q).map (swapI p d d' q) := by
  simp only [swapR, Registry.get]
  exact Mono.lookup_map_val (swapI p d d') r.types q

theorem swapR_sim (r : Registry) : RegSim r (swapR p d d' r) := by
  refine ⟨rfl, by simp [swapR], ?_⟩
  intro q
  rw [get_swapR, Option.map_map]
  congr 1
  funext i
  exact eraseI_swapI p d d' q i

theorem swapR_contains (r : Registry) (q : Path) : (swapR p d d' r).contains q = r.contains q :=
  (swapR_sim p d d' r).contains q

theorem swapR_add (r : Registry) (i : ItemDef) (hi : swapI p d d' i.path i = i) :
    (swapR p d d' r).add i = swapR p d d' (r.add i) := by
  simp only [swapR, Registry.add, List.map_cons, hi, List.filter_map]
  rfl

theorem swapR_setState (r : Registry) (q : Path) (x : Resolved) :
    (swapR p d d' r).setState q (.res x) = swapR p d d' (r.setState q (.res x)) := by
  simp only [swapR, Registry.setState, List.map_map]
  congr 1
  apply List.map_congr_left
  intro e _
  simp only [Function.comp]
  by_cases hk : (e.1 == q) = true
  · simp only [hk, if_true]
    rw [swapI_res p d d' e.1 { e.2 with state := .res x } x rfl]
    unfold swapI
    split <;> rfl
  · simp only [hk]
    rfl

theorem swapR_unresolved (r : Registry) (prio : List Path) :
    (swapR p d d' r).unresolved prio = r.unresolved prio := by
  unfold Registry.unresolved
  congr 1
  simp only [swapR, List.filter_map, List.map_map]
  have : ((fun e : Path × ItemDef => !e.2.isPredefined && !e.2.isResolved) ∘
      fun e : Path × ItemDef => (e.1, swapI p d d' e.1 e.2))
      = fun e : Path × ItemDef => !e.2.isPredefined && !e.2.isResolved := by
    funext e
    simp only [Function.comp, swapI_isResolved, swapI_isPredefined]
  rw [this]
  rfl

theorem swapR_nItems (s : State) : (swapS p d d' s).nUnres = s.nUnres := by
  simp only [State.nUnres, swapS, swapR, List.filter_map, List.length_map]
  congr 2
  funext e
  simp only [Function.comp, swapI_isResolved]

theorem swapS_reg (s : State) : (swapS p d d' s).reg = swapR p d d' s.reg := rfl
theorem swapS_moduleFor (s : State) (q : Path) : (swapS p d d' s).moduleFor q = s.moduleFor q := rfl

/-- the relation of a state to the same state with the stored definition replaced -/
abbrev Swapped (s s' : State) : Prop := s' = swapS p d d' s

theorem swapS_addItem (s : State) (i : ItemDef) (hi : swapI p d d' i.path i = i) :
    RelRes (Swapped p d d') (s.addItem i) ((swapS p d d' s).addItem i) := by
  unfold State.addItem
  cases Path.parent? i.path with
  | none => exact .err _
  | some parent =>
    simp only []
    rw [show (swapS p d d' s).getModule parent = s.getModule parent from rfl]
    cases s.getModule parent with
    | none => exact .err _
    | some m => exact .ok (by simp only [Swapped, swapS, swapR_add p d d' s.reg i hi])

theorem swap_buildRel : BuildRel (Swapped p d d') where
  sim h := h ▸ swapR_sim p d d' _
  moduleFor h q := by rw [h, swapS_moduleFor]
  addItem i x h hx := h ▸ swapS_addItem p d d' _ i (swapI_res p d d' _ i x hx)
  setState q x h := by
    subst h
    simp only [Swapped, swapS, swapR_setState]

/-- in the state `s`, the attempt on `d'` at `p` gives what the attempt on `d` gives -/
def EqAt (s : State) : Prop :=
  ∀ i, s.reg.get p = some i → i.state = .unres d → attemptDef s p d' = attemptDef s p d

/-- one attempt commutes with the replacement, if in this state the attempt on `d'` at `p` gives what the
    attempt on `d` gives -/
theorem attemptItem_swap (s : State) (q : Path) (he : q = p → EqAt p d d' s) :
    StepRel (Swapped p d d') (attemptItem s q) (attemptItem (swapS p d d' s) q) := by
  refine attemptItem_rel (swap_buildRel p d d') rfl q ?_
  intro i i' d0 d0' h1 h2 hst hst'
  rw [swapS_reg, get_swapR, h1] at h2
  cases h2
  unfold swapI at hst'
  split at hst'
  · next hc =>
    cases hst'
    rw [hc.2] at hst
    cases hst
    obtain ⟨rfl, hd⟩ := hc
    exact he rfl i h1 hd
  · rw [hst] at hst'
    cases hst'
    rfl

/-- the replacement, along a run in whose states (`I`) the two definitions give the same attempt -/
theorem swap_loopRel (I : State → Prop) (hI : ∀ s q, I s → I (attemptItem s q).1)
    (hE : ∀ s, I s → EqAt p d d' s) : LoopRel (fun s s' => I s ∧ Swapped p d d' s s') where
  step q h := by
    obtain ⟨hs, rfl⟩ := h
    obtain ⟨h1, h2⟩ := attemptItem_swap p d d' _ q (fun _ => hE _ hs)
    exact ⟨⟨hI _ q hs, h1⟩, h2⟩
  unresolved h prio := by rw [h.2]; exact swapR_unresolved p d d' _ prio
  length h := by rw [h.2]; exact (swapR_sim p d d' _).len
  nUnres h := by rw [h.2]; exact swapR_nItems p d d' _

theorem buildFinish_swap (o : BuildOutcome) :
    buildFinish (mapO (swapS p d d') o) = mapO (swapS p d d') (buildFinish o) := by
  cases o with
  | ok s1 =>
    simp only [mapO, buildFinish, swapS_reg, xvalPass_sim (swapR_sim p d d' s1.reg)]
    rw [show (swapS p d d' s1).modules = s1.modules from rfl]
    cases Res.mapM' (xvalPass s1.reg) s1.modules <;> rfl
  | _ => rfl

end swap

theorem addItem_contains {s s' : State} {i : ItemDef} {q : Path} (h : s.addItem i = .ok s')
    (hq : s.reg.contains q = true) : s'.reg.contains q = true := by
  rw [C14.addItem_reg s s' i h]
  exact (C14.contains_add s.reg i q).mpr (Or.inl hq)

section swapAdd
variable (p : Path) (d d' : G.Item)

/-- the replacement, in a state that has an entry under `p` -/
def SwappedAt (s s' : State) : Prop := s.reg.contains p = true ∧ Swapped p d d' s s'

/-- an item registered while `p` is taken is not the replaced one -/
theorem gAdd_swap {s s' : State} (i : ItemDef) (h : SwappedAt p d d' s s') :
    RelRes (SwappedAt p d d') (gAdd s i) (gAdd s' i) := by
  obtain ⟨hp, rfl⟩ := h
  unfold gAdd
  rw [swapS_reg, swapR_contains]
  by_cases hc : s.reg.contains i.path = true
  · rw [if_pos hc, if_pos hc]; exact .err _
  · rw [if_neg hc, if_neg hc]
    have hi : swapI p d d' i.path i = i := by
      unfold swapI
      rw [if_neg]
      exact fun h => hc (h.1 ▸ hp)
    exact (swapS_addItem p d d' s i hi).and_left (fun a ha => addItem_contains ha hp)

theorem caseStep_swap {s s' : State} (h : SwappedAt p d d' s s') (me : ModEnt) :
    RelRes (SwappedAt p d d') (caseStep s me) (caseStep s' me) :=
  caseStep_rel (fun _ _ h => ⟨h.1, by rw [h.2]; rfl⟩) (gAdd_swap p d d') h me

theorem add_swapped (r : Registry) (i : ItemDef) (hi : i.path = p) :
    r.add (swapI p d d' p i) = swapR p d d' (r.add i) := by
  have hp : (swapI p d d' p i).path = p := by
    unfold swapI; split <;> exact hi
  simp only [swapR, Registry.add, List.map_cons, hp, hi]
  congr 2
  symm
  have : ∀ e ∈ r.types.filter (fun e => e.1 != p), (e.1, swapI p d d' e.1 e.2) = e := by
    intro e he
    have hne : e.1 ≠ p := by simpa using (List.mem_filter.mp he).2
    unfold swapI
    rw [if_neg (fun h => hne h.1)]
  rw [List.map_congr_left this, List.map_id']


/-- registering the item with `d` and the one with `d'` under the free key `p` -/
theorem addItem_swapped (s : State) (i : ItemDef) (hi : i.path = p) :
    RelRes (SwappedAt p d d') (s.addItem i) (s.addItem (swapI p d d' p i)) := by
  have hp : (swapI p d d' p i).path = i.path := by
    unfold swapI; split <;> rfl
  unfold State.addItem
  rw [hp]
  cases Path.parent? i.path with
  | none => exact .err _
  | some parent =>
    simp only []
    cases s.getModule parent with
    | none => exact .err _
    | some m =>
      exact .ok ⟨(C14.contains_add s.reg i p).mpr (Or.inr hi.symm),
        by simp only [Swapped, swapS, ← add_swapped p d d' s.reg i hi]⟩

theorem defStep_replaced (path : Path) (s : State) (hname : d'.name = d.name) (hvis : d'.vis = d.vis)
    (hp : p = path ++ [d.name]) :
    RelRes (SwappedAt p d d') (C14.defStep path s d) (C14.defStep path s d') := by
  unfold C14.defStep
  rw [hname, hvis, ← hp]
  by_cases hc : s.reg.contains p = true
  · rw [if_pos hc, if_pos hc]; exact .err _
  · rw [if_neg hc, if_neg hc]
    have := addItem_swapped p d d' s { vis := d.vis, path := p, state := .unres d, cat := .defined } rfl
    simp only [swapI, and_self, if_true] at this
    exact this

theorem implCheck_replaced (m : G.Module) (pre post : List G.Item) (hm : m.defs = pre ++ d :: post)
    (hname : d'.name = d.name) (hk : isTypeDef d' = isTypeDef d) :
    implCheck { m with defs := pre ++ d' :: post } = implCheck m := by
  unfold implCheck
  simp only [hm, List.any_append, List.any_cons, hname, hk]

theorem addModule_replaced (s : State) (m : G.Module) (path : Path) (pre post : List G.Item)
    (hm : m.defs = pre ++ d :: post) (hname : d'.name = d.name) (hvis : d'.vis = d.vis)
    (hk : isTypeDef d' = isTypeDef d) (hp : p = path ++ [d.name]) :
    RelRes (SwappedAt p d d') (s.addModule m path) (s.addModule { m with defs := pre ++ d' :: post } path) := by
  refine addModule_defs (gAdd_swap p d d') m _ path (implCheck_replaced d d' m pre post hm hname hk) (fun mod => ?_)
  rw [hm]
  -- the definitions before `d` are registered alike; from `d` on, `p` is taken
  exact RelRes.foldlM_replace _ _ pre post _ _ (fun t _ => defStep_replaced p d d' path t hname hvis hp)
    (fun _ _ a hb => (defStep_isG path).rel (gAdd_swap p d d') a hb)

end swapAdd

/-- `d` and `d'` build to the same thing in every state and at every path: same name, same visibility,
    same kind, and `type_definition::build` / `enum_definition::build` give the same answer (and the same
    new state: the generated vftable item) -/
def BuildEquiv (d d' : G.Item) : Prop :=
  d'.name = d.name ∧ d'.vis = d.vis ∧
  match d.inner, d'.inner with
  | .type td, .type td' => ∀ (s : State) (p : Path), buildType s p d.vis td' = buildType s p d.vis td
  | .enum ed, .enum ed' => ∀ (s : State) (p : Path), buildEnum s p ed' = buildEnum s p ed
  | _, _ => False

theorem BuildEquiv.isTypeDef {d d' : G.Item} (h : BuildEquiv d d') : isTypeDef d' = isTypeDef d := by
  obtain ⟨_, _, h3⟩ := h
  unfold C20.isTypeDef
  cases h1 : d.inner <;> cases h2 : d'.inner <;> rw [h1, h2] at h3 <;> first | rfl | exact h3.elim

theorem BuildEquiv.attemptDef {d d' : G.Item} (h : BuildEquiv d d') (s : State) (p : Path) :
    attemptDef s p d' = attemptDef s p d := by
  obtain ⟨_, hv, h3⟩ := h
  unfold C20.attemptDef
  cases h1 : d.inner <;> cases h2 : d'.inner <;> rw [h1, h2] at h3
  · simp only [hv]; exact h3 s p
  · exact h3.elim
  · exact h3.elim
  · simp only [h3 s p]

/-- case `c'` is case `c` with the definition `d` (at position `k` of the `j`-th module, an AST module at
    `path`) replaced by `d'`; `p = path ++ [d.name]` is the path of the item -/
def ReplacedDef (c c' : Case) (p : Path) (d d' : G.Item) : Prop :=
  ∃ (j k : Nat) (path : Path) (file : String) (m : G.Module),
    c.modules[j]? = some (.ast path file m) ∧ m.defs[k]? = some d ∧ p = path ++ [d.name] ∧
    c' = { c with modules := c.modules.set j (.ast path file { m with defs := m.defs.set k d' }) }

theorem list_split {α} (l : List α) (k : Nat) (a b : α) (h : l[k]? = some a) :
    l = l.take k ++ a :: l.drop (k + 1) ∧ l.set k b = l.take k ++ b :: l.drop (k + 1) := by
  obtain ⟨hk, rfl⟩ := List.getElem?_eq_some_iff.mp h
  refine ⟨?_, ?_⟩
  · conv => lhs; rw [← List.take_append_drop k l]
    rw [List.drop_eq_getElem_cons hk]
  · rw [List.set_eq_take_append_cons_drop, if_pos hk]


theorem initialState_of_replaced (c c' : Case) (p : Path) (d d' : G.Item) (h : ReplacedDef c c' p d d')
    (hname : d'.name = d.name) (hvis : d'.vis = d.vis) (hk : isTypeDef d' = isTypeDef d) :
    c'.prio = c.prio ∧ RelRes (Swapped p d d') c.initialState c'.initialState := by
  obtain ⟨j, k, path, file, m, hj, hkk, hp, rfl⟩ := h
  obtain ⟨f1, f2⟩ := list_split m.defs k d d' hkk
  -- from the `j`-th module on, `p` is taken
  refine ⟨rfl, RelRes.mono (R := SwappedAt p d d') (fun _ _ h => h.2)
    (initialState_set c j _ _ hj (fun t => ?_) (fun a hb => caseStep_swap p d d' hb a))⟩
  rw [f2]
  exact addModule_replaced p d d' t m path _ _ f1 hname hvis hk hp

/-- the O3 observation of an outcome -/
def o3Of : BuildOutcome → Sexp
  | .ok s => Sexp.mk "files" (Emit.files s)
  | .nonterm _ => Sexp.mk "err" [.str "nonterm"]
  | .err m => Sexp.mk "err" [.str m]
  | .panic m => Sexp.mk "panic" [.str m]
  | .fuel => Sexp.mk "fuel" []

theorem o3_eq (c : Case) : c.o3 = o3Of c.run := by
  unfold Case.o3 o3Of
  cases c.run <;> rfl

theorem outcomeS_swap (p : Path) (d d' : G.Item) (o : BuildOutcome) :
    Obs.outcomeS (mapO (swapS p d d') o) = Obs.outcomeS o := by
  cases o with
  | ok s => exact resolvedS_sim s (swapS p d d' s) rfl (swapR_sim p d d' s.reg)
  | _ => rfl

theorem o3Of_swap (p : Path) (d d' : G.Item) (o : BuildOutcome) : o3Of (mapO (swapS p d d') o) = o3Of o := by
  cases o with
  | ok s => simp only [mapO, o3Of, files_sim s (swapS p d d' s) rfl (swapR_sim p d d' s.reg)]
  | _ => rfl

/-- the run of the rewritten case is the run of the original case with the stored definition replaced,
    provided the two definitions give the same attempt in all states of an invariant `I` that holds
    initially and is kept by every attempt -/
theorem run_replaced_on (c c' : Case) (p : Path) (d d' : G.Item) (h : ReplacedDef c c' p d d')
    (hname : d'.name = d.name) (hvis : d'.vis = d.vis) (hk : isTypeDef d' = isTypeDef d)
    (I : State → Prop) (hI0 : ∀ s0, c.initialState = .ok s0 → I s0)
    (hI : ∀ s q, I s → I (attemptItem s q).1) (hE : ∀ s, I s → EqAt p d d' s) :
    c'.run = mapO (swapS p d d') c.run := by
  obtain ⟨hprio, hinit⟩ := initialState_of_replaced c c' p d d' h hname hvis hk
  obtain ⟨o, o', ho, e1, e2⟩ := runFrom_rel (swap_loopRel p d d' I hI hE) c.prio (hinit.and_left hI0)
  rw [Case.run_eq_runFrom, Case.run_eq_runFrom, hprio, e1, e2, (ho.mono (fun _ _ h => h.2)).of_fun,
    buildFinish_swap]

theorem obs_of_run {c c' : Case} {p : Path} {d d' : G.Item} (h : c'.run = mapO (swapS p d d') c.run) :
    c'.o2 = c.o2 ∧ c'.o3 = c.o3 := by
  refine ⟨?_, ?_⟩
  · unfold Case.o2; rw [h, outcomeS_swap]
  · rw [o3_eq, o3_eq, h, o3Of_swap]


/-! ## (a) an enum value equal to the implicit one -/

/-- the value after `v` (`none` after `isize::MAX`) -/
def succI (v : Int) : Option Int := if v + 1 > isizeMax then none else some (v + 1)

/-- the value the next case gets if none is written, after the cases `stmts`; it depends on the
    preceding cases only, not on the state -/
def nextAfter : Option Int → List G.EnumStmt → Option Int
  | last, [] => last
  | last, st :: rest =>
    nextAfter (match st.expr with
      | some (.int v) => succI v
      | some _ => last
      | none => last.bind succI) rest

theorem nextAfter_cons (last : Option Int) (st : G.EnumStmt) (rest : List G.EnumStmt) :
    nextAfter last (st :: rest) = nextAfter (match st.expr with
      | some (.int v) => succI v
      | some _ => last
      | none => last.bind succI) rest := by
  rw [nextAfter]

/-- the implicit value of the case that follows the cases `pre` of an enum -/
def implicitValue (pre : List G.EnumStmt) : Option Int := nextAfter (some 0) pre

/-- a quantity `μ` of the accumulator that every successful step moves as the recursion `G` over the list does -/
theorem foldlM_track {α β γ} {f : β → α → Res β} {μ : β → γ} {G : γ → List α → γ} (hnil : ∀ c, G c [] = c)
    (hstep : ∀ b a b' l, f b a = .ok b' → G (μ b) (a :: l) = G (μ b') l)
    {l : List α} {b b' : β} (h : Res.foldlM f b l = .ok b') : μ b' = G (μ b) l := by
  induction l generalizing b with
  | nil => cases h; exact (hnil _).symm
  | cons a l ih =>
    obtain ⟨b1, h1, h2⟩ := Res.foldlM_cons_ok.mp h
    rw [hstep b a b1 l h1]
    exact ih h2

theorem enumFold_last (range : Int × Int) (pre : List G.EnumStmt) (acc acc' : EnumAcc)
    (h : Res.foldlM (enumStmtStep range) acc pre = .ok acc') : acc'.last = nextAfter acc.last pre := by
  refine foldlM_track (μ := (·.last)) (G := nextAfter) (fun _ => rfl) (fun acc st acc1 rest hs => ?_) h
  obtain ⟨value, hv, _, _, _, hl, _⟩ := C08.enumStmtStep_ok range acc acc1 st hs
  rw [nextAfter_cons]
  congr 1
  rcases hv with hv | ⟨hv, hla⟩
  · simp only [hv, hl, succI]
  · simp only [hv, hl, hla, succI, Option.bind_some]

/-- the case `st` of the enum with its implicit value written out -/
def withValue (st : G.EnumStmt) (v : Int) : G.EnumStmt := { st with expr := some (.int v) }

theorem enumFold_rewrite (range : Int × Int) (pre post : List G.EnumStmt) (st : G.EnumStmt) (v : Int)
    (he : st.expr = none) (hv : implicitValue pre = some v) :
    Res.foldlM (enumStmtStep range) {} (pre ++ withValue st v :: post)
      = Res.foldlM (enumStmtStep range) {} (pre ++ st :: post) := by
  refine foldlM_replace_eq _ _ pre post _ _ (fun acc hp => ?_)
  have hl : acc.last = some v := by
    rw [enumFold_last range pre {} acc hp]; exact hv
  exact implicit_enum_value_lem range acc st v hl he

theorem buildEnum_rewrite (s : State) (p : Path) (ed : G.EnumDef) (pre post : List G.EnumStmt) (st : G.EnumStmt)
    (v : Int) (hs : ed.stmts = pre ++ st :: post) (he : st.expr = none) (hv : implicitValue pre = some v) :
    buildEnum s p { ed with stmts := pre ++ withValue st v :: post } = buildEnum s p ed := by
  unfold buildEnum
  simp only [hs, enumFold_rewrite _ pre post st v he hv]
  have e1 : (pre ++ withValue st v :: post).isEmpty = false := by cases pre <;> rfl
  have e2 : (pre ++ st :: post).isEmpty = false := by cases pre <;> rfl
  simp only [e1, e2]

/-- the definition `d` (an enum) with the implicit value of one of its cases written out -/
def enumRewrite (d : G.Item) (ed : G.EnumDef) (pre post : List G.EnumStmt) (st : G.EnumStmt) (v : Int) : G.Item :=
  { d with inner := .enum { ed with stmts := pre ++ withValue st v :: post } }


/-! ## (d) a virtual function given the index it already has -/

/-- the number of slots filled after the functions `fns`, starting from `n` filled slots; it depends on
    the `#[index]` attributes of the functions only, not on the state -/
def slotsAfter : Nat → List G.Func → Nat
  | n, [] => n
  | n, f :: fs => slotsAfter ((match indexAttr f.attrs with | .ok (some i) => i | _ => n) + 1) fs

theorem slotsAfter_cons (n : Nat) (f : G.Func) (fs : List G.Func) :
    slotsAfter n (f :: fs) = slotsAfter ((match indexAttr f.attrs with | .ok (some i) => i | _ => n) + 1) fs := by
  rw [slotsAfter]

theorem slotStep_length (reg : Registry) (scope : List Path) (out out' : List SFunc) (f : G.Func)
    (h : slotStep reg scope out f = .ok out') :
    out'.length = (match indexAttr f.attrs with | .ok (some i) => i | _ => out.length) + 1 := by
  unfold slotStep at h
  split at h
  · next idx hi =>
    rw [hi]
    split at h
    · next out1 ho1 =>
      split at h
      · cases h
        cases idx with
        | none => cases ho1; simp
        | some i =>
          simp only at ho1
          split at ho1
          · cases ho1
          · rw [C04.makePadding_ok ho1]
            simp only [List.length_append, C04.length_padding, List.length_cons, List.length_nil]
            omega
      · exact absurd h (Res.cast_ne_ok _ _)
    · next e hne => exact absurd h (fun hh => hne _ hh)
  · exact absurd h (Res.cast_ne_ok _ _)

theorem slotFold_length (reg : Registry) (scope : List Path) (fns : List G.Func) (out out' : List SFunc)
    (h : Res.foldlM (slotStep reg scope) out fns = .ok out') : out'.length = slotsAfter out.length fns :=
  foldlM_track (μ := List.length) (G := slotsAfter) (fun _ => rfl)
    (fun out f out1 _ hs => by rw [slotsAfter_cons, slotStep_length reg scope out out1 f hs]) h

theorem slotFold_rewrite (reg : Registry) (scope : List Path) (fpre fpost : List G.Func) (f : G.Func)
    (hf : C04.declIndex f = none) :
    Res.foldlM (slotStep reg scope) [] (fpre ++ withIndex f (slotsAfter 0 fpre) :: fpost)
      = Res.foldlM (slotStep reg scope) [] (fpre ++ f :: fpost) := by
  refine foldlM_replace_eq _ _ fpre fpost _ _ (fun out hp => ?_)
  have hl : slotsAfter 0 fpre = out.length := (slotFold_length reg scope fpre [] out hp).symm
  rw [hl, natural_index_noop_lem reg scope out f hf]

theorem convertVfuncs_rewrite (reg : Registry) (scope : List Path) (size : Option Nat) (fpre fpost : List G.Func)
    (f : G.Func) (hf : C04.declIndex f = none) :
    convertVfuncs reg scope size (fpre ++ withIndex f (slotsAfter 0 fpre) :: fpost)
      = convertVfuncs reg scope size (fpre ++ f :: fpost) := by
  rw [convertVfuncs_fold_lem, convertVfuncs_fold_lem, slotFold_rewrite reg scope fpre fpost f hf]

theorem stmtStep_rewrite (reg : Registry) (scope : List Path) (acc : StmtAcc) (idx : Nat) (attrs : List G.Attr)
    (fpre fpost : List G.Func) (f : G.Func) (hf : C04.declIndex f = none) :
    stmtStep reg scope acc (idx, ⟨.vftable (fpre ++ withIndex f (slotsAfter 0 fpre) :: fpost), attrs⟩)
      = stmtStep reg scope acc (idx, ⟨.vftable (fpre ++ f :: fpost), attrs⟩) := by
  unfold stmtStep
  simp only [convertVfuncs_rewrite reg scope _ fpre fpost f hf, List.any_append, List.any_cons]
  rfl

theorem foldlM_zipIdx_replace {α β} (f : β → Nat × α → Res β) (a a' : α)
    (h : ∀ b i, f b (i, a') = f b (i, a)) (pre post : List α) (b : β) :
    Res.foldlM f b ((pre ++ a' :: post).zipIdx.map fun p => (p.2, p.1))
      = Res.foldlM f b ((pre ++ a :: post).zipIdx.map fun p => (p.2, p.1)) := by
  simp only [List.zipIdx_append, List.zipIdx_cons, List.map_append, List.map_cons]
  exact foldlM_replace_eq f b _ _ _ _ (fun t _ => h t _)

/-- replacing the statements of a type: it is enough that the two statement loops give related accumulators
    (or fail alike) and that related accumulators give the same `btCore` -/
theorem buildType_stmts (s : State) (path : Path) (vis : Vis) (td : G.TypeDef) (stmts' : List G.Stmt)
    (R : StmtAcc → StmtAcc → Prop)
    (hfold : ∀ module, s.moduleFor path = some module →
      RelRes R (stmtFold s.reg module.scope td.stmts) (stmtFold s.reg module.scope stmts'))
    (hcore : ∀ module doc ta sa sa', s.moduleFor path = some module →
      stmtFold s.reg module.scope td.stmts = .ok sa → R sa sa' →
      btCore s path vis doc ta ta.targetSize sa' = btCore s path vis doc ta ta.targetSize sa) :
    buildType s path vis { td with stmts := stmts' } = buildType s path vis td := by
  rw [buildType_btOf, buildType_btOf]
  unfold btOf
  cases h1 : s.moduleFor path with
  | none => rfl
  | some module =>
    simp only []
    cases G.docOf td.attrs with
    | none => rfl
    | some doc =>
      simp only []
      cases Res.foldlM typeAttrStep {} td.attrs with
      | ok ta =>
        simp only [liftS]
        rcases hfold module h1 with ⟨he, _⟩ | ⟨sa, sa', e1, e2, har⟩
        · rw [← he]
        · rw [e1, e2]
          exact hcore module doc ta sa sa' h1 e1 har
      | _ => rfl

/-- the definition `d` (a type) with the function `f` of its vftable block given its natural index -/
def indexRewrite (d : G.Item) (td : G.TypeDef) (spre spost : List G.Stmt) (attrs : List G.Attr)
    (fpre fpost : List G.Func) (f : G.Func) : G.Item :=
  { d with inner := .type { td with
      stmts := spre ++ ⟨.vftable (fpre ++ withIndex f (slotsAfter 0 fpre) :: fpost), attrs⟩ :: spost } }

theorem buildType_index_rewrite (s : State) (p : Path) (vis : Vis) (td : G.TypeDef) (spre spost : List G.Stmt)
    (attrs : List G.Attr) (fpre fpost : List G.Func) (f : G.Func)
    (hs : td.stmts = spre ++ ⟨.vftable (fpre ++ f :: fpost), attrs⟩ :: spost) (hf : C04.declIndex f = none) :
    buildType s p vis { td with
        stmts := spre ++ ⟨.vftable (fpre ++ withIndex f (slotsAfter 0 fpre) :: fpost), attrs⟩ :: spost }
      = buildType s p vis td := by
  refine buildType_stmts s p vis td _ Eq (fun module _ => ?_) (fun _ _ _ _ _ _ _ e => by rw [e])
  simp only [stmtFold, hs]
  rw [foldlM_zipIdx_replace (stmtStep s.reg module.scope) _ _
    (fun b i => stmtStep_rewrite s.reg module.scope b i attrs fpre fpost f hf) spre spost]
  exact .of_eq (fun _ => rfl) _


/-! ## `type_definition::build` as a function of the declared size

The declared size is looked at in the layout only (`rrTail`), after the last point where the build can ask
to be retried for another reason: what follows `resolve_regions` never defers. -/

theorem resolveFrom_defer_target {β} (start : Res (St β)) (fields : List (PField β)) (N : Nat)
    (h : resolveFrom start fields none = .defer) : resolveFrom start fields (some N) = .defer := by
  unfold resolveFrom at h ⊢
  cases start with
  | ok st0 =>
    simp only [] at h ⊢
    cases hp : place st0 fields with
    | ok st1 => rw [hp] at h; simp only [padTail] at h; cases h
    | defer => rfl
    | err m => rw [hp] at h; cases h
    | panic m => rw [hp] at h; cases h
  | defer => rfl
  | err m => cases h
  | panic m => cases h

theorem resolve_defer_target {β} (vptr : Option (PField β)) (fields : List (PField β)) (N : Nat)
    (h : resolve vptr fields none = .defer) : resolve vptr fields (some N) = .defer := by
  rw [resolve_eq] at h ⊢
  exact resolveFrom_defer_target _ fields N h


theorem rrTail_natural (reg : Registry) (pending : List (Option Nat × Region)) (vft : Option Vft)
    (vregion : Option Region) (x : RROut) (h : rrTail reg pending none vft vregion = .ok x) :
    rrTail reg pending (some x.2.2.1) vft vregion = .ok x := by
  unfold rrTail at h ⊢
  cases hr : Layout.resolve (vregion.map (toPField reg none)) (pending.map fun p => toPField reg p.1 p.2) none with
  | ok y =>
    obtain ⟨placed, size⟩ := y
    rw [hr] at h
    simp only [] at h
    cases hn : nameRegions reg 0 placed with
    | ok regions =>
      rw [hn] at h
      simp only [Res.ok.injEq] at h
      subst h
      simp only []
      rw [natural_size_noop_lem _ _ placed size hr]
      simp only [hn]
    | _ => rw [hn] at h; cases h
  | _ => rw [hr] at h; cases h

theorem rrTail_defer (reg : Registry) (pending : List (Option Nat × Region)) (vft : Option Vft)
    (vregion : Option Region) (N : Nat) (h : rrTail reg pending none vft vregion = .defer) :
    rrTail reg pending (some N) vft vregion = .defer := by
  unfold rrTail
  rw [resolve_defer_target _ _ N (C10.rrTail_defer_resolve h)]
  rfl

theorem btAfter_size (s1 : State) (path : Path) (doc : Option String) (ta : TypeAttrs) (x : RROut) (r : Resolved)
    (h : btAfter s1 path doc ta x = .ok r) : r.size = x.2.2.1 := by
  obtain ⟨regions, vft, size, placed⟩ := x
  obtain ⟨_, _, _, _, _, _, _, _, _, rfl⟩ := btAfter_ok h
  rfl


/-- the build `y` repeats a retry of the build `x`, and repeats a success of `x` whose value satisfies `K` -/
def Repeats (K : Resolved → Prop) (x y : State × Res Resolved) : Prop :=
  (∀ s1, x = (s1, .defer) → y = (s1, .defer)) ∧ (∀ s1 r, x = (s1, .ok r) → K r → y = (s1, .ok r))

theorem Repeats.refl (K : Resolved → Prop) (x : State × Res Resolved) : Repeats K x x :=
  ⟨fun _ h => h, fun _ _ h _ => h⟩

/-- with the declared size: the state is the same, a retry stays a retry, and a success with that very size
    stays the same success -/
theorem btCore_target (s : State) (path : Path) (vis : Vis) (doc : Option String) (ta : TypeAttrs) (sa : StmtAcc)
    (N : Nat) :
    Repeats (·.size = N) (btCore s path vis doc ta none sa) (btCore s path vis doc ta (some N) sa) := by
  unfold btCore
  rw [resolveRegions_head, resolveRegions_head]
  cases rrHead s path vis ((sa.pending.map (·.2)).find? (·.isBase)) sa.vfns with
  | mk s1 res =>
    cases res with
    | ok v =>
      simp only [bindS]
      refine ⟨fun s1' hh => ?_, fun s1' r hh hsz => ?_⟩
      · cases hr : rrTail s1.reg sa.pending none v.1 v.2 with
        | ok x =>
          rw [hr] at hh
          exact (C10.btAfter_ne_defer _ _ _ _ _ (Prod.mk.inj hh).2).elim
        | defer => rw [rrTail_defer _ _ _ _ N hr]; rw [hr] at hh; exact hh
        | _ => rw [hr] at hh; cases hh
      · cases hr : rrTail s1.reg sa.pending none v.1 v.2 with
        | ok x =>
          rw [hr] at hh
          have hx : x.2.2.1 = N := (btAfter_size _ _ _ _ _ _ (Prod.mk.inj hh).2).symm.trans hsz
          rw [← hx, rrTail_natural _ _ _ _ x hr]
          exact hh
        | _ => rw [hr] at hh; cases hh
    | _ => exact Repeats.refl _ _


/-! ## (b) a size attribute equal to the natural size -/

/-- `#[size(N)]` -/
def sizeAttr (N : Nat) : G.Attr := .fn "size" [.int (N : Int)]

/-- the type definition with `#[size(N)]` added -/
def withSize (td : G.TypeDef) (N : Nat) : G.TypeDef := { td with attrs := td.attrs ++ [sizeAttr N] }

theorem docOf_withSize (td : G.TypeDef) (N : Nat) : G.docOf (withSize td N).attrs = G.docOf td.attrs :=
  docOf_append_fn td.attrs _ _

theorem typeAttrStep_size (ta : TypeAttrs) (N : Nat) :
    typeAttrStep ta (sizeAttr N) = .ok { ta with targetSize := some N } := by
  show (match tryUsize (N : Int) with
    | some n => Res.ok { ta with targetSize := some n }
    | none => .err "failed to convert `size` attribute into usize") = _
  rw [tryUsize_nat]

theorem typeAttrs_withSize (td : G.TypeDef) (N : Nat) :
    Res.foldlM typeAttrStep {} (withSize td N).attrs
      = Res.bind (Res.foldlM typeAttrStep {} td.attrs) (fun ta => .ok { ta with targetSize := some N }) := by
  rw [show (withSize td N).attrs = td.attrs ++ [sizeAttr N] from rfl, foldlM_append]
  exact congrArg (Res.bind _) (funext fun ta => by rw [foldlM_cons_bind, typeAttrStep_size]; rfl)

/-- the attribute loop leaves the declared size unset: the type has no `#[size]` attribute -/
def NoSizeAttr (td : G.TypeDef) : Prop :=
  ∀ ta, Res.foldlM typeAttrStep {} td.attrs = .ok ta → ta.targetSize = none

/-- the local fact behind `natural_size_e2e` -/
theorem buildType_withSize_local (s : State) (path : Path) (vis : Vis) (td : G.TypeDef) (N : Nat)
    (hns : NoSizeAttr td) :
    Repeats (·.size = N) (buildType s path vis td) (buildType s path vis (withSize td N)) := by
  rw [buildType_btOf, buildType_btOf]
  unfold btOf
  cases s.moduleFor path with
  | none => exact Repeats.refl _ _
  | some module =>
    simp only [docOf_withSize, typeAttrs_withSize]
    cases G.docOf td.attrs with
    | none => exact Repeats.refl _ _
    | some doc =>
      simp only []
      cases h3 : Res.foldlM typeAttrStep {} td.attrs with
      | ok ta =>
        simp only [Res.bind, liftS]
        rw [show (withSize td N).stmts = td.stmts from rfl]
        cases stmtFold s.reg module.scope td.stmts with
        | ok sa =>
          rw [hns ta h3]
          exact btCore_target s path vis doc ta sa N
        | _ => exact Repeats.refl _ _
      | _ => exact Repeats.refl _ _


/-! ## congruence along an accepted run -/

section keeps
variable (p : Path)

/-- a resolved entry under `p` in `s` is still there, unchanged, in `s'` -/
def Keeps (s s' : State) : Prop := ∀ i r, s.reg.get p = some i → i.state = .res r → s'.reg.get p = some i

theorem reach_keeps {s s1 : State} {owner : Path} (h : C02.Reach2 s s1 owner) : Keeps p s s1 :=
  fun _ _ hg _ => h.get hg

theorem attemptItem_keeps (s : State) (q : Path) : Keeps p s (attemptItem s q).1 := by
  intro i r hg hr
  refine attemptItem_induct (P := fun t => t.reg.get p = some i) hg
    (fun _ d _ _ => (attemptDef_reach2 s q d).get hg) ?_
  intro item d s1 r0 hq hst _ h1
  -- the attempted entry was unresolved, so it is not the one under `p`
  have hne : p ≠ q := by
    intro e; subst e
    rw [hq] at hg; cases hg
    rw [hr] at hst; cases hst
  show (s1.reg.setState q (.res r0)).get p = some i
  rw [C12.get_setState, if_neg hne]
  exact h1

end keeps

section okrun
variable (p : Path) (d d' : G.Item) (K : Resolved → Prop)

/-- if `p` is resolved in `s`, its value satisfies `K` -/
def PK (s : State) : Prop := ∀ i r, s.reg.get p = some i → i.state = .res r → K r

theorem PK.of_keeps {s s' : State} (hk : Keeps p s s') (h : PK p K s') : PK p K s :=
  fun i r hg hr => h i r (hk i r hg hr) hr

/-- the attempt on `d'` at `p` repeats a retry of the attempt on `d`, and repeats a success whose value
    satisfies `K` -/
def LocalEq (s : State) : Prop := Repeats K (attemptDef s p d) (attemptDef s p d')

theorem attemptItem_resolved (s s1 : State) (i : ItemDef) (r : Resolved) (hg : s.reg.get p = some i)
    (hst : i.state = .unres d) (hx : attemptDef s p d = (s1, .ok r)) :
    attemptItem s p = ({ s1 with reg := s1.reg.setState p (.res r) }, .ok ()) ∧
    ∃ i', (s1.reg.setState p (.res r)).get p = some i' ∧ i'.state = .res r := by
  refine ⟨?_, ?_⟩
  · rw [attemptItem_of_unres hg hst, hx]
    rfl
  · have hreach := attemptDef_reach2 s p d
    rw [hx] at hreach
    rw [C12.get_setState, if_pos rfl, hreach.get hg]
    exact ⟨_, rfl, rfl⟩


/-- an attempt at `p` that succeeds and leaves a state in which the value at `p` satisfies `K` -/
theorem eqAt_of_ok (s : State) (hloc : LocalEq p d d' K s) (ha : (attemptItem s p).2 = .ok ())
    (hpk : PK p K (attemptItem s p).1) : EqAt p d d' s := by
  intro i hg hst
  cases hx : attemptDef s p d with
  | mk s1 x =>
    cases x with
    | ok r =>
      obtain ⟨h1, i', hi', hr'⟩ := attemptItem_resolved p d s s1 i r hg hst hx
      rw [h1] at hpk
      exact hloc.2 s1 r hx (hpk i' r hi' hr')
    | defer => exact hloc.1 s1 hx
    | err m =>
      rw [attemptItem_of_unres hg hst, hx] at ha
      cases ha
    | panic m =>
      rw [attemptItem_of_unres hg hst, hx] at ha
      cases ha

end okrun

/-- the run of the rewritten case along an accepted run of the original one: it is enough that the attempt
    on `d'` repeats every retry of the attempt on `d` and repeats a success whose value has the property
    `K` that the final value of the item has -/
theorem run_replaced_ok (c c' : Case) (p : Path) (d d' : G.Item) (h : ReplacedDef c c' p d d')
    (hname : d'.name = d.name) (hvis : d'.vis = d.vis) (hk : isTypeDef d' = isTypeDef d)
    (K : Resolved → Prop) (hloc : ∀ s, LocalEq p d d' K s) (sf : State) (hrun : c.run = .ok sf)
    (hpk : PK p K sf) : c'.run = mapO (swapS p d d') c.run := by
  obtain ⟨hprio, hinit⟩ := initialState_of_replaced c c' p d d' h hname hvis hk
  obtain ⟨s0, h0, hb⟩ := Case.run_ok_inv hrun
  obtain ⟨s1, ms, hl, _, rfl⟩ := State.build_ok_inv hb
  rw [h0] at hinit
  rcases hinit with ⟨_, hn⟩ | ⟨_, s0', e1, e2, rfl⟩
  · exact (hn s0 rfl).elim
  · cases e1
    -- `PK` is closed backwards, and an attempt at `p` that leaves a `PK` state is repeated
    obtain ⟨sf', k1, rfl⟩ := resolveLoop_rel_ok (Post := PK p K) (R := Swapped p d d')
      (fun s q => PK.of_keeps p K (attemptItem_keeps p s q))
      (fun {s s'} q hs ha hp => by
        subst hs
        exact attemptItem_swap p d d' s q (fun e => by subst e; exact eqAt_of_ok q d d' K s (hloc s) ha hp))
      (fun hs prio => by rw [hs]; exact swapR_unresolved p d d' _ prio)
      (fun hs => by rw [hs]; exact (swapR_sim p d d' _).len)
      c.prio _ rfl hl hpk
    rw [Case.run_eq_runFrom, Case.run_eq_runFrom, hprio, h0, e2]
    simp only [runFrom]
    rw [State.build_eq, State.build_eq, swapR_nItems, k1, hl]
    exact buildFinish_swap p d d' (.ok s1)

/-- the definition `d` (a type) with `#[size(N)]` added -/
def sizeRewrite (d : G.Item) (td : G.TypeDef) (N : Nat) : G.Item := { d with inner := .type (withSize td N) }

theorem sizeRewrite_local (d : G.Item) (td : G.TypeDef) (N : Nat) (hd : d.inner = .type td) (hns : NoSizeAttr td)
    (p : Path) (s : State) : LocalEq p d (sizeRewrite d td N) (fun r => r.size = N) s := by
  have e2 : attemptDef s p (sizeRewrite d td N) = buildType s p d.vis (withSize td N) := rfl
  unfold LocalEq
  rw [attemptDef_type s p hd, e2]
  exact buildType_withSize_local s p d.vis td N hns

theorem natural_size_run (c c' : Case) (p : Path) (d : G.Item) (td : G.TypeDef) (N : Nat)
    (hd : d.inner = .type td) (hns : NoSizeAttr td) (h : ReplacedDef c c' p d (sizeRewrite d td N))
    (sf : State) (hrun : c.run = .ok sf)
    (hsz : ∃ i r, sf.reg.get p = some i ∧ i.state = .res r ∧ r.size = N) :
    c'.run = mapO (swapS p d (sizeRewrite d td N)) c.run := by
  refine run_replaced_ok c c' p d _ h rfl rfl ?_ (fun r => r.size = N)
    (sizeRewrite_local d td N hd hns p) sf hrun ?_
  · unfold isTypeDef sizeRewrite; rw [hd]
  · obtain ⟨i, r, hg, hr, hs⟩ := hsz
    intro i' r' hg' hr'
    rw [hg] at hg'; cases hg'
    rw [hr] at hr'; cases hr'
    exact hs

theorem typeAttrStep_targetSize (st st' : TypeAttrs) (a : G.Attr) (ha : ∀ args, a ≠ .fn "size" args)
    (h : typeAttrStep st a = .ok st') : st'.targetSize = st.targetSize := by
  unfold typeAttrStep at h
  split at h
  · exact (ha _ rfl).elim
  · split at h
    · cases h; rfl
    · cases h
  · split at h
    · cases h; rfl
    · cases h
  · cases h; rfl
  · cases h; rfl
  · cases h; rfl
  · cases h; rfl
  · cases h; rfl


theorem noSizeAttr_of_attrs (td : G.TypeDef) (h : ∀ a ∈ td.attrs, ∀ args, a ≠ .fn "size" args) : NoSizeAttr td :=
  fun _ hta => Res.foldlM_induct (P := fun st => st.targetSize = none) rfl
    (fun st a st' ha hst hs => (typeAttrStep_targetSize st st' a (h a ha) hs).trans hst) hta


/-! ## (c) an address attribute equal to the natural offset -/

/-- `#[address(A)]` -/
def addrAttr (A : Nat) : G.Attr := .fn "address" [.int (A : Int)]

/-- the statement with `#[address(A)]` added -/
def withAddr (st : G.Stmt) (A : Nat) : G.Stmt := { st with attrs := st.attrs ++ [addrAttr A] }

/-- the attribute loop of the field leaves its address unset: the field has no `#[address]` attribute -/
def NoAddrAttr (st : G.Stmt) : Prop :=
  ∀ fa, Res.foldlM fieldAttrStep {} st.attrs = .ok fa → fa.address = none

theorem fieldAttrStep_addr (fa : FieldAttrs) (A : Nat) :
    fieldAttrStep fa (addrAttr A) = .ok { fa with address := some A } := by
  show (match tryUsize (A : Int) with
    | some n => Res.ok { fa with address := some n }
    | none => .err "failed to convert `address` attribute into usize") = _
  rw [tryUsize_nat]

theorem fieldAttrs_withAddr (st : G.Stmt) (A : Nat) :
    Res.foldlM fieldAttrStep {} (withAddr st A).attrs
      = Res.bind (Res.foldlM fieldAttrStep {} st.attrs) (fun fa => .ok { fa with address := some A }) := by
  rw [show (withAddr st A).attrs = st.attrs ++ [addrAttr A] from rfl, foldlM_append]
  exact congrArg (Res.bind _) (funext fun fa => by rw [foldlM_cons_bind, fieldAttrStep_addr]; rfl)

/-- with the attribute, the field statement makes the same pending field, with the address -/
theorem fieldEntry_withAddr (reg : Registry) (scope : List Path) (st : G.Stmt) (A : Nat) (vis : G.Vis)
    (name : String) (ty : G.Ty) :
    fieldEntry reg scope (withAddr st A).attrs vis name ty
      = (fieldEntry reg scope st.attrs vis name ty).bind fun e => .ok (some A, e.2) := by
  have hfa := fieldAttrs_withAddr st A
  unfold fieldEntry
  rw [hfa, show (withAddr st A).attrs = st.attrs ++ [addrAttr A] from rfl, addrAttr, docOf_append_fn]
  cases G.docOf st.attrs with
  | none => rfl
  | some doc =>
    simp only []
    cases Res.foldlM fieldAttrStep {} st.attrs with
    | ok fa =>
      simp only [Res.bind]
      split
      · rfl
      · cases reg.resolveTy scope ty <;> rfl
    | _ => rfl

theorem fieldEntry_noAddr {reg : Registry} {scope : List Path} {st : G.Stmt} {vis : G.Vis} {name : String}
    {ty : G.Ty} (hna : NoAddrAttr st) {e : Option Nat × Region}
    (he : fieldEntry reg scope st.attrs vis name ty = .ok e) : e.1 = none := by
  obtain ⟨_, fa, _, _, hfa, _, _, rfl⟩ := fieldEntry_ok he
  exact hna fa hfa

/-- the statement accumulators of the two descriptions: the same, except that the fields `mid` before the `K`-th
    pending field are absent from the second, where that field carries the address `A` -/
def PendR (mid : List (Option Nat × Region)) (A K : Nat) (acc acc' : StmtAcc) : Prop :=
  acc'.vfns = acc.vfns ∧ ∃ (ppre : List (Option Nat × Region)) (r : Region) (ppost : List (Option Nat × Region)),
    ppre.length = K ∧ acc.pending = ppre ++ (mid ++ (none, r) :: ppost) ∧ acc'.pending = ppre ++ (some A, r) :: ppost

theorem none_beq_ident (ident : Option String) (h : ident.isSome = true) : ((none : Option String) == ident) = false := by
  cases ident with
  | none => cases h
  | some x => rfl

/-- unnamed fields do not clash with a named one -/
theorem any_unnamed {mid : List (Option Nat × Region)} (hmid : ∀ p ∈ mid, p.2.name = none) {ident : Option String}
    (hi : ident.isSome = true) : mid.any (fun p => p.2.name == ident) = false :=
  List.any_eq_false.mpr (fun p hp => by rw [hmid p hp, none_beq_ident ident hi]; exact Bool.false_ne_true)

theorem any_append_unnamed {mid : List (Option Nat × Region)} (hmid : ∀ p ∈ mid, p.2.name = none)
    (l : List (Option Nat × Region)) (ident : Option String) :
    (ident.isSome && (l ++ mid).any (fun p => p.2.name == ident))
      = (ident.isSome && l.any (fun p => p.2.name == ident)) := by
  cases hi : ident.isSome with
  | false => rfl
  | true => simp only [List.any_append, any_unnamed hmid hi, Bool.or_false]

theorem PendR.names {mid : List (Option Nat × Region)} {A K : Nat} {acc acc' : StmtAcc} (h : PendR mid A K acc acc')
    (hmid : ∀ p ∈ mid, p.2.name = none) (ident : Option String) :
    (ident.isSome && acc'.pending.any (fun p => p.2.name == ident))
      = (ident.isSome && acc.pending.any (fun p => p.2.name == ident)) := by
  obtain ⟨_, ppre, r, ppost, _, h1, h2⟩ := h
  rw [h1, h2]
  cases hi : ident.isSome with
  | false => rfl
  | true => simp only [List.any_append, List.any_cons, any_unnamed hmid hi, Bool.false_or]

/-- a later statement keeps the relation; its index may differ on the two sides as long as it is not 0 on either,
    since a `vftable` block is rejected at every position but the first -/
theorem stmtStep_PendR {mid : List (Option Nat × Region)} (hmid : ∀ p ∈ mid, p.2.name = none) (A K : Nat)
    (reg : Registry) (scope : List Path) (acc acc' : StmtAcc) (h : PendR mid A K acc acc') (idx idx' : Nat)
    (hidx : idx = idx' ∨ (idx ≠ 0 ∧ idx' ≠ 0)) (st : G.Stmt) :
    RelRes (PendR mid A K) (stmtStep reg scope acc (idx, st)) (stmtStep reg scope acc' (idx', st)) := by
  cases hf : st.field with
  | field vis name ty =>
    rw [stmtStep_field reg scope acc idx st vis name ty hf, stmtStep_field reg scope acc' idx' st vis name ty hf]
    refine RelRes.bind_same (fun e _ => ?_)
    unfold pushPending
    rw [h.names hmid]
    split
    · exact .err _
    · obtain ⟨hv, ppre, r, ppost, hk, h1, h2⟩ := h
      exact .ok ⟨hv, ppre, r, ppost ++ [e], hk, by simp [h1], by simp [h2]⟩
  | vftable fns =>
    rw [stmtStep_vftable reg scope acc idx st fns hf, stmtStep_vftable reg scope acc' idx' st fns hf]
    rcases hidx with rfl | ⟨hi, hi'⟩
    · obtain ⟨_, hex⟩ := h
      exact RelRes.bind_same (fun sfs _ => .ok ⟨rfl, hex⟩)
    · unfold vftBlock
      rw [if_pos (by simpa using hi), if_pos (by simpa using hi')]
      exact .err _

/-- the field statement after the unnamed fields `mid`, against the same statement with `#[address(A)]` and
    without them -/
theorem stmtStep_withAddr {mid : List (Option Nat × Region)} (hmid : ∀ p ∈ mid, p.2.name = none) (A : Nat)
    (reg : Registry) (scope : List Path) (acc : StmtAcc) (idx idx' : Nat) (st : G.Stmt)
    (vis : G.Vis) (name : String) (ty : G.Ty) (hf : st.field = .field vis name ty) (hna : NoAddrAttr st) :
    RelRes (PendR mid A acc.pending.length)
      (stmtStep reg scope { acc with pending := acc.pending ++ mid } (idx, st))
      (stmtStep reg scope acc (idx', withAddr st A)) := by
  rw [stmtStep_field reg scope _ idx st vis name ty hf,
    stmtStep_field reg scope acc idx' (withAddr st A) vis name ty hf, fieldEntry_withAddr, bind_assoc]
  refine RelRes.bind_same (fun e he => ?_)
  obtain ⟨a, r⟩ := e
  cases fieldEntry_noAddr hna he
  simp only [Res.bind, pushPending, any_append_unnamed hmid acc.pending]
  split
  · exact .err _
  · exact .ok ⟨rfl, acc.pending, r, [], rfl, by simp, rfl⟩

theorem stmtFold_pending {reg : Registry} {scope : List Path} {stmts : List G.Stmt} {acc : StmtAcc}
    (h : stmtFold reg scope stmts = .ok acc) : acc.pending.length = (stmts.filter C01.isFieldStmt).length := by
  have := C01.stmts_pending reg scope _ {} acc h
  rw [C01.zipIdx_swap_snd] at this
  simpa using this

theorem stmtFold_addr (A : Nat) (reg : Registry) (scope : List Path) (spre spost : List G.Stmt) (st : G.Stmt)
    (vis : G.Vis) (name : String) (ty : G.Ty) (hf : st.field = .field vis name ty) (hna : NoAddrAttr st) :
    RelRes (PendR [] A (spre.filter C01.isFieldStmt).length)
      (stmtFold reg scope (spre ++ st :: spost)) (stmtFold reg scope (spre ++ withAddr st A :: spost)) := by
  simp only [stmtFold, List.zipIdx_append, List.zipIdx_cons, List.map_append, List.map_cons]
  refine RelRes.foldlM_replace _ _ _ _ _ _ (fun acc hp => ?_) (fun b b' x hbb => stmtStep_PendR (by simp) A _ reg scope b b' hbb x.1 x.1 (Or.inl rfl) x.2)
  have hlen := stmtFold_pending hp
  have := stmtStep_withAddr (mid := []) (by simp) A reg scope acc (0 + spre.length) (0 + spre.length) st vis name ty hf hna
  rwa [List.append_nil, hlen] at this

/-- the state in which the placement loop starts: after the vftable pointer, if the type owns one -/
def placeStart (reg : Registry) (vregion : Option Region) : Res (St Region) :=
  match vregion with
  | some v => pushField ([], 0) (toPField reg none v)
  | none => .ok ([], 0)

theorem resolve_placeStart (reg : Registry) (vregion : Option Region) (fields : List (PField Region))
    (target : Option Nat) :
    Layout.resolve (vregion.map (toPField reg none)) fields target
      = resolveFrom (placeStart reg vregion) fields target := by
  cases vregion <;> rfl

theorem rrTail_eq (reg : Registry) (pending : List (Option Nat × Region)) (target : Option Nat)
    (vft : Option Vft) (vregion : Option Region) :
    rrTail reg pending target vft vregion
      = (resolveFrom (placeStart reg vregion) (pending.map fun p => toPField reg p.1 p.2) target).bind fun ps =>
          (nameRegions reg 0 ps.1).bind fun regions => .ok (regions, vft, ps.2, ps.1) := by
  unfold rrTail
  rw [resolve_placeStart]
  cases resolveFrom (placeStart reg vregion) (pending.map fun p => toPField reg p.1 p.2) target with
  | ok ps => obtain ⟨placed, size⟩ := ps; simp only [Res.bind]; cases nameRegions reg 0 placed <;> rfl
  | _ => rfl

theorem resolveFrom_addr (start : Res (St Region)) (fpre fpost : List (PField Region)) (f : PField Region)
    (A : Nat) (target : Option Nat)
    (hc : ∀ st0 st1, start = .ok st0 → place st0 fpre = .ok st1 → st1.2 = A) :
    resolveFrom start (fpre ++ { f with addr := some A } :: fpost) target
      = resolveFrom start (fpre ++ { f with addr := none } :: fpost) target := by
  cases start with
  | ok st0 =>
    have : place st0 (fpre ++ { f with addr := some A } :: fpost) = place st0 (fpre ++ { f with addr := none } :: fpost) := by
      cases hp : place st0 fpre with
      | ok st1 =>
        rw [← hc st0 st1 rfl hp]
        exact explicit_address_noop_at_lem st0 st1 fpre f fpost hp
      | defer => rw [place_append, place_append, hp]; rfl
      | err m => rw [place_append, place_append, hp]; rfl
      | panic m => rw [place_append, place_append, hp]; rfl
    unfold resolveFrom
    simp only [this]
  | _ => rfl

theorem rrTail_addr (reg : Registry) (ppre ppost : List (Option Nat × Region)) (r : Region) (A : Nat)
    (target : Option Nat) (vft : Option Vft) (vregion : Option Region)
    (hc : ∀ st0 st1, placeStart reg vregion = .ok st0 →
      place st0 (ppre.map fun p => toPField reg p.1 p.2) = .ok st1 → st1.2 = A) :
    rrTail reg (ppre ++ (some A, r) :: ppost) target vft vregion
      = rrTail reg (ppre ++ (none, r) :: ppost) target vft vregion := by
  unfold rrTail
  simp only [resolve_placeStart, List.map_append, List.map_cons]
  rw [show toPField reg (some A) r = { toPField reg none r with addr := some A } from rfl,
      show toPField reg none r = { toPField reg none r with addr := none } from rfl,
      resolveFrom_addr (placeStart reg vregion) _ _ (toPField reg none r) A target hc]

/-- the offset at which the placement loop of `resolve_regions` arrives at the `k`-th pending field of the
    type, in the state `s` (`none` if the build does not get that far in `s`) -/
def naturalOffset (s : State) (path : Path) (vis : Vis) (td : G.TypeDef) (k : Nat) : Option Nat :=
  match s.moduleFor path with
  | none => none
  | some module =>
    match Res.foldlM (stmtStep s.reg module.scope) {} (td.stmts.zipIdx.map fun p => (p.2, p.1)) with
    | .ok sa =>
      match buildVftable s path vis ((sa.pending.map (·.2)).find? (·.isBase)) sa.vfns with
      | (s1, .ok (_, vregion)) =>
        match placeStart s1.reg vregion with
        | .ok st0 =>
          match place st0 ((sa.pending.take k).map fun p => toPField s1.reg p.1 p.2) with
          | .ok st1 => some st1.2
          | _ => none
        | _ => none
      | _ => none
    | _ => none

theorem naturalOffset_eq {s : State} {path : Path} {vis : Vis} {td : G.TypeDef} {k : Nat} {module : Mod}
    {sa : StmtAcc} {s1 : State} {vft : Option Vft} {vregion : Option Region} {st0 st1 : St Region}
    (hm : s.moduleFor path = some module) (hsa : stmtFold s.reg module.scope td.stmts = .ok sa)
    (hb : buildVftable s path vis ((sa.pending.map (·.2)).find? (·.isBase)) sa.vfns = (s1, .ok (vft, vregion)))
    (h0 : placeStart s1.reg vregion = .ok st0)
    (hp : place st0 ((sa.pending.take k).map fun p => toPField s1.reg p.1 p.2) = .ok st1) :
    naturalOffset s path vis td k = some st1.2 := by
  unfold naturalOffset
  simp only [hm, show Res.foldlM (stmtStep s.reg module.scope) {} (td.stmts.zipIdx.map fun p => (p.2, p.1))
    = .ok sa from hsa, hb, h0, hp]

/-- two accumulators with the same virtual functions and the same first base give the same `btCore` if, once the
    vftable is built, the two layouts fail alike or give results that `btAfter` does not tell apart -/
theorem btCore_pending (s : State) (path : Path) (vis : Vis) (doc : Option String) (ta : TypeAttrs)
    (target : Option Nat) (sa sa' : StmtAcc) (hv : sa'.vfns = sa.vfns)
    (hfb : (sa'.pending.map (·.2)).find? (·.isBase) = (sa.pending.map (·.2)).find? (·.isBase))
    (h : ∀ s1 vft vregion,
      buildVftable s path vis ((sa.pending.map (·.2)).find? (·.isBase)) sa.vfns = (s1, .ok (vft, vregion)) →
      RelRes (fun a b => btAfter s1 path doc ta b = btAfter s1 path doc ta a)
        (rrTail s1.reg sa.pending target vft vregion) (rrTail s1.reg sa'.pending target vft vregion)) :
    btCore s path vis doc ta target sa' = btCore s path vis doc ta target sa := by
  unfold btCore
  rw [resolveRegions_head, resolveRegions_head, hv, hfb]
  cases hh : rrHead s path vis ((sa.pending.map (·.2)).find? (·.isBase)) sa.vfns with
  | mk s1 res =>
    cases res with
    | ok v =>
      simp only [bindS_mk]
      exact congrArg (Prod.mk s1) ((h s1 v.1 v.2 (baseGate_ok hh)).bind (S := Eq)
        (fun a b (hab : btAfter s1 path doc ta b = btAfter s1 path doc ta a) => by
          rw [hab]; exact .of_eq (fun _ => rfl) _)).eq.symm
    | _ => rfl

theorem btCore_addr (s : State) (path : Path) (vis : Vis) (doc : Option String) (ta : TypeAttrs)
    (target : Option Nat) (sa sa' : StmtAcc) (A K : Nat) (har : PendR [] A K sa sa')
    (hc : ∀ s1 vft vregion st0 st1,
      buildVftable s path vis ((sa.pending.map (·.2)).find? (·.isBase)) sa.vfns = (s1, .ok (vft, vregion)) →
      placeStart s1.reg vregion = .ok st0 →
      place st0 ((sa.pending.take K).map fun p => toPField s1.reg p.1 p.2) = .ok st1 → st1.2 = A) :
    btCore s path vis doc ta target sa' = btCore s path vis doc ta target sa := by
  obtain ⟨hv, ppre, r, ppost, hk, h1, h2⟩ := har
  replace h1 : sa.pending = ppre ++ (none, r) :: ppost := h1
  refine btCore_pending s path vis doc ta target sa sa' hv
    (by rw [h1, h2]; simp only [List.map_append, List.map_cons]) (fun s1 vft vregion hb => ?_)
  rw [h1, h2, rrTail_addr s1.reg ppre ppost r A target vft vregion (fun st0 st1 h0 hp =>
    hc s1 vft vregion st0 st1 hb h0 (by rw [h1, List.take_left' hk]; exact hp))]
  exact .of_eq (fun _ => by rfl) _

/-- the definition `d` (a type) with `#[address(A)]` added to the field statement `st` -/
def addrRewrite (d : G.Item) (td : G.TypeDef) (spre spost : List G.Stmt) (st : G.Stmt) (A : Nat) : G.Item :=
  { d with inner := .type { td with stmts := spre ++ withAddr st A :: spost } }

theorem buildType_addr (s : State) (path : Path) (vis : Vis) (td : G.TypeDef) (spre spost : List G.Stmt)
    (st : G.Stmt) (fvis : G.Vis) (name : String) (ty : G.Ty) (A : Nat)
    (hs : td.stmts = spre ++ st :: spost) (hf : st.field = .field fvis name ty) (hna : NoAddrAttr st)
    (hoff : ∀ a, naturalOffset s path vis td (spre.filter C01.isFieldStmt).length = some a → a = A) :
    buildType s path vis { td with stmts := spre ++ withAddr st A :: spost } = buildType s path vis td :=
  buildType_stmts s path vis td _ (PendR [] A (spre.filter C01.isFieldStmt).length)
    (fun module _ => by rw [hs]; exact stmtFold_addr A s.reg module.scope spre spost st fvis name ty hf hna)
    (fun module doc ta sa sa' h1 e1 har => btCore_addr s path vis doc ta _ sa sa' A _ har
      (fun _ _ _ _ _ hb h0 hp => hoff _ (naturalOffset_eq h1 e1 hb h0 hp)))

/-- the states the resolution of case `c` can be in: the state after `add_module`, and every state reached
    from it by attempts (in any order) -/
inductive Visited (c : Case) : State → Prop
  | init (s0 : State) : c.initialState = .ok s0 → Visited c s0
  | step (s : State) (q : Path) : Visited c s → Visited c (attemptItem s q).1

/-- replacing the body `td` of a type definition by `td'`: it is enough that `type_definition::build` gives the
    same answer for the two in every state the resolution can visit while the type is unresolved -/
theorem run_replaced_type (c c' : Case) (p : Path) (d : G.Item) (td td' : G.TypeDef) (hd : d.inner = .type td)
    (h : ReplacedDef c c' p d { d with inner := .type td' })
    (hE : ∀ s, Visited c s → ∀ i, s.reg.get p = some i → i.state = .unres d →
      buildType s p d.vis td' = buildType s p d.vis td) :
    c'.run = mapO (swapS p d { d with inner := .type td' }) c.run := by
  refine run_replaced_on c c' p d _ h rfl rfl ?_ (Visited c) (fun s0 h0 => .init s0 h0)
    (fun s q hs => .step s q hs) ?_
  · unfold isTypeDef; rw [hd]
  · intro s hv i hg hst
    have e2 : attemptDef s p { d with inner := .type td' } = buildType s p d.vis td' := rfl
    rw [attemptDef_type s p hd, e2]
    exact hE s hv i hg hst

theorem fieldAttrStep_address (fa fa' : FieldAttrs) (a : G.Attr) (ha : ∀ args, a ≠ .fn "address" args)
    (h : fieldAttrStep fa a = .ok fa') : fa'.address = fa.address := by
  unfold fieldAttrStep at h
  split at h
  · cases h; rfl
  · exact (ha _ rfl).elim
  · cases h; rfl

theorem noAddrAttr_of_attrs (st : G.Stmt) (h : ∀ a ∈ st.attrs, ∀ args, a ≠ .fn "address" args) : NoAddrAttr st :=
  fun _ hfa => Res.foldlM_induct (P := fun x => x.address = none) rfl
    (fun x a x' ha hx hs => (fieldAttrStep_address x x' a (h a ha) hs).trans hx) hfa


/-! ## (e) reordering the definitions of a module -/

/-- two states that differ only in the order of the registry entries and of the definition paths of the
    modules -/
structure PermS (s s' : State) : Prop where
  ps : s'.reg.ps = s.reg.ps
  get : ∀ q, s'.reg.get q = s.reg.get q
  perm : s'.reg.types.Perm s.reg.types
  mods : s'.modules.map canonE = s.modules.map canonE

theorem PermS.refl (s : State) : PermS s s := ⟨rfl, fun _ => rfl, List.Perm.refl _, rfl⟩

theorem PermS.trans {s1 s2 s3 : State} (h1 : PermS s1 s2) (h2 : PermS s2 s3) : PermS s1 s3 :=
  ⟨h2.ps.trans h1.ps, fun q => (h2.get q).trans (h1.get q), h2.perm.trans h1.perm, h2.mods.trans h1.mods⟩

theorem PermS.regSim {s s' : State} (h : PermS s s') : RegSim s.reg s'.reg :=
  ⟨h.ps, h.perm.length_eq, fun q => by rw [h.get q]⟩

theorem PermS.getModule {s s' : State} (h : PermS s s') (q : Path) :
    (s'.getModule q).map canonM = (s.getModule q).map canonM := by
  have e : ∀ (ms : List (Path × Mod)), List.lookup q (ms.map canonE) = (List.lookup q ms).map canonM := by
    intro ms
    exact Mono.lookup_map_val (fun _ m => canonM m) ms q
  unfold State.getModule
  rw [← e, ← e, h.mods]

theorem PermS.moduleFor {s s' : State} (h : PermS s s') (q : Path) :
    (s'.moduleFor q).map canonM = (s.moduleFor q).map canonM := by
  unfold State.moduleFor
  cases Path.parent? q with
  | none => rfl
  | some parent => exact h.getModule parent

theorem PermS.unresolved {s s' : State} (h : PermS s s') (prio : List Path) :
    s'.reg.unresolved prio = s.reg.unresolved prio :=
  unresolved_order_lem s.reg s'.reg prio h.perm

theorem PermS.nItems {s s' : State} (h : PermS s s') :
    (s'.reg.types.filter fun e => !e.2.isResolved).length = (s.reg.types.filter fun e => !e.2.isResolved).length :=
  (h.perm.filter _).length_eq

theorem PermS.symm {s s' : State} (h : PermS s s') : PermS s' s :=
  ⟨h.ps.symm, fun q => (h.get q).symm, h.perm.symm, h.mods.symm⟩

theorem canonE_updMod (path : Path) (n : Mod) (ms : List (Path × Mod)) :
    (ms.map (updMod path n)).map canonE = (ms.map canonE).map (updMod path (canonM n)) := by
  rw [List.map_map, List.map_map]
  apply List.map_congr_left
  intro e _
  simp only [Function.comp, updMod, canonE]
  by_cases hk : (e.1 == path) = true <;> simp [hk]

theorem insPath_perm {dp dp' : List Path} (h : dp'.Perm dp) (k : Path) : (insPath k dp').Perm (insPath k dp) := by
  unfold insPath
  have hc : dp'.contains k = dp.contains k := by
    rw [Bool.eq_iff_iff]
    simp only [List.contains_eq_mem, decide_eq_true_eq]
    exact h.mem_iff
  rw [hc]
  split
  · exact h
  · exact List.Perm.cons _ h

theorem canonM_insPath {m m' : Mod} (h : canonM m' = canonM m) (k : Path) :
    canonM { m' with defPaths := insPath k m'.defPaths } = canonM { m with defPaths := insPath k m.defPaths } := by
  rw [canonM_rest h]
  simp only [canonM]
  congr 1
  exact sortPaths_perm _ _ (insPath_perm (canonM_perm h) k)

/-- a step on the two sides of `PermS`: related states, the same answer -/
def RelSt (x y : State × Res α) : Prop := PermS x.1 y.1 ∧ y.2 = x.2

theorem addItem_perm {s s' : State} (h : PermS s s') (i : ItemDef) :
    RelRes PermS (s.addItem i) (s'.addItem i) := by
  unfold State.addItem
  cases Path.parent? i.path with
  | none => exact .err _
  | some parent =>
    simp only []
    rcases Option.map_eq_map_cases (h.getModule parent) with ⟨h1, h2⟩ | ⟨m, m', h1, h2, hm⟩
    · rw [h1, h2]; exact .err _
    · rw [h1, h2]
      refine .ok ⟨h.ps, fun q => by simp only [C14.get_add, h.get], List.Perm.cons _ (h.perm.filter _), ?_⟩
      show (s'.modules.map (updMod parent { m' with defPaths := insPath i.path m'.defPaths })).map canonE
        = (s.modules.map (updMod parent { m with defPaths := insPath i.path m.defPaths })).map canonE
      rw [canonE_updMod, canonE_updMod, h.mods, canonM_insPath hm]

theorem setState_perm {s1 s1' : State} (h : PermS s1 s1') (q : Path) (st : IState) :
    PermS { s1 with reg := s1.reg.setState q st } { s1' with reg := s1'.reg.setState q st } := by
  refine ⟨h.ps, ?_, ?_, h.mods⟩
  · intro k
    simp only [C12.get_setState, h.get]
  · simp only [Registry.setState]
    exact h.perm.map _

theorem permS_buildRel : BuildRel PermS where
  sim := PermS.regSim
  moduleFor := PermS.moduleFor
  addItem i _ h _ := addItem_perm h i
  setState q x h := setState_perm h q (.res x)

theorem permS_loopRel : LoopRel PermS :=
  permS_buildRel.loopRel (fun h => h.get) (fun h => h.unresolved) (fun h => h.nItems)

theorem resolveXVals_canon (reg : Registry) (m m' : Mod) (h : canonM m' = canonM m) :
    RelRes (fun a b => canonM b = canonM a) (resolveXVals reg m) (resolveXVals reg m') := by
  have hr := canonM_rest h
  unfold resolveXVals
  rw [canonM_scope h, show m'.xvals = m.xvals by rw [hr]]
  cases Res.mapM' (fun (ev : XValue) =>
      match reg.resolveTy m.scope ev.gty with
      | .ok t => Res.ok { ev with ty := some t }
      | .defer => .err "failed to resolve type for extern value"
      | e => e.cast) m.xvals with
  | ok xvals =>
    refine .ok ?_
    simp only [canonM, Mod.mk.injEq] at h ⊢
    obtain ⟨h1, h2, h3, h4, h5, h6, h7⟩ := h
    exact ⟨h1, h2, h3, trivial, h5, h6, h7⟩
  | defer => exact .defer
  | err m => exact .err m
  | panic m => exact .panic m

theorem xvalPass_eq (reg : Registry) (e : Path × Mod) :
    xvalPass reg e = (resolveXVals reg e.2).bind fun m => .ok (e.1, m) := by
  unfold xvalPass
  cases resolveXVals reg e.2 <;> rfl

theorem xvalPass_canon {r r' : Registry} (hs : RegSim r r') (e e' : Path × Mod) (h : canonE e' = canonE e) :
    RelRes (fun a b => canonE b = canonE a) (xvalPass r e) (xvalPass r' e') := by
  obtain ⟨k, m⟩ := e
  obtain ⟨k', m'⟩ := e'
  simp only [canonE, Prod.mk.injEq] at h
  obtain ⟨rfl, hm⟩ := h
  rw [xvalPass_sim hs, xvalPass_eq, xvalPass_eq]
  exact (resolveXVals_canon r m m' hm).bind (fun a b hab => .ok (by simp only [canonE, hab]))

theorem finish_perm {s1 s1' : State} (hl : PermS s1 s1') :
    RelO PermS (buildFinish (.ok s1)) (buildFinish (.ok s1')) := by
  rw [buildFinish_ok, buildFinish_ok]
  refine RelRes.ind (P := fun x y => RelO PermS (finishMods s1 x) (finishMods s1' y))
    (RelRes.mapM' canonE (fun a a' hq => xvalPass_canon hl.regSim a a' hq) s1.modules s1'.modules hl.mods)
    (fun ms ms' hms => ⟨hl.ps, hl.get, hl.perm, hms⟩) rfl (fun _ => rfl) (fun _ => rfl)

/-! ### `add_module` of a module with its definitions permuted -/

theorem gAdd_perm {s s' : State} (i : ItemDef) (h : PermS s s') : RelRes PermS (gAdd s i) (gAdd s' i) := by
  unfold gAdd
  rw [h.regSim.contains]
  split
  · exact .err _
  · exact addItem_perm h i

theorem getModule_updMod (ms : List (Path × Mod)) (reg : Registry) (path : Path) (m n : Mod)
    (hm : List.lookup path ms = some m) :
    ({ modules := ms.map (updMod path n), reg := reg } : State).getModule path = some n := by
  unfold State.getModule updMod
  rw [C14.lookup_map_replace]
  simp [hm]

theorem updMod_updMod (path : Path) (n1 n2 : Mod) (ms : List (Path × Mod)) :
    (ms.map (updMod path n1)).map (updMod path n2) = ms.map (updMod path n2) := by
  rw [List.map_map]
  apply List.map_congr_left
  intro e _
  simp only [Function.comp, updMod]
  by_cases hk : (e.1 == path) = true <;> simp [hk]
theorem insPath_comm (dp : List Path) (a b : Path) : (insPath a (insPath b dp)).Perm (insPath b (insPath a dp)) := by
  unfold insPath
  by_cases ha : dp.contains a = true <;> by_cases hb : dp.contains b = true <;>
    by_cases hab : a = b <;> simp_all
  rw [if_neg (fun h => hab h.symm)]
  exact List.Perm.swap _ _ _

/-- the state after a definition was registered in the module `m` stored under `path` -/
def defAdded (path : Path) (m : Mod) (s : State) (d : G.Item) : State :=
  { modules := s.modules.map (updMod path { m with defPaths := insPath (path ++ [d.name]) m.defPaths }),
    reg := s.reg.add (defItem path d) }

theorem defStep_closed (path : Path) (s : State) (d : G.Item) (m : Mod) (hm : s.getModule path = some m) :
    C14.defStep path s d = if s.reg.contains (path ++ [d.name]) then .err "item is defined more than once"
      else .ok (defAdded path m s d) := by
  unfold C14.defStep
  split
  · rfl
  · exact addItem_closed s (defItem path d) path d.name m rfl hm

theorem defAdded_getModule (path : Path) (m : Mod) (s : State) (d : G.Item) (hm : s.getModule path = some m) :
    (defAdded path m s d).getModule path = some { m with defPaths := insPath (path ++ [d.name]) m.defPaths } :=
  getModule_updMod s.modules _ path m _ hm

theorem defAdded_contains (path : Path) (m : Mod) (s : State) (d : G.Item) (q : Path) :
    (defAdded path m s d).reg.contains q = (s.reg.contains q || q == path ++ [d.name]) := by
  rw [Bool.eq_iff_iff]
  simp only [Bool.or_eq_true, beq_iff_eq]
  exact C14.contains_add s.reg (defItem path d) q

theorem defAdded_comm (path : Path) (s : State) (m : Mod) (x y : G.Item)
    (hne : path ++ [x.name] ≠ path ++ [y.name]) :
    PermS
      (defAdded path { m with defPaths := insPath (path ++ [y.name]) m.defPaths } (defAdded path m s y) x)
      (defAdded path { m with defPaths := insPath (path ++ [x.name]) m.defPaths } (defAdded path m s x) y) := by
  refine ⟨rfl, ?_, ?_, ?_⟩
  · intro q
    simp only [defAdded, C14.get_add, defItem]
    by_cases h1 : q = path ++ [x.name]
    · subst h1; simp [hne]
    · simp [h1]
  · simp only [defAdded, Registry.add, defItem, List.filter_cons]
    have e1 : ((path ++ [y.name]) != (path ++ [x.name])) = true := bne_iff_ne.mpr (fun e => hne e.symm)
    have e2 : ((path ++ [x.name]) != (path ++ [y.name])) = true := bne_iff_ne.mpr hne
    simp only [e1, e2, if_true]
    refine (List.Perm.swap _ _ _).trans (List.Perm.cons _ (List.Perm.cons _ ?_))
    rw [List.filter_filter, List.filter_filter]
    have : (fun (a : Path × ItemDef) => (a.1 != path ++ [y.name] && a.1 != path ++ [x.name]))
        = (fun a => (a.1 != path ++ [x.name] && a.1 != path ++ [y.name])) := by
      funext a; exact Bool.and_comm _ _
    rw [this]
  · simp only [defAdded, updMod_updMod, canonE_updMod]
    congr 2
    simp only [canonM]
    congr 1
    exact sortPaths_perm _ _ (insPath_comm _ _ _)

theorem PermS.getModule_some {s s' : State} (h : PermS s s') (q : Path) (m : Mod) (hm : s.getModule q = some m) :
    ∃ m', s'.getModule q = some m' ∧ canonM m' = canonM m := by
  rcases Option.map_eq_map_cases (h.getModule q) with ⟨h1, _⟩ | ⟨m0, m', h1, h2, hc⟩
  · rw [hm] at h1; cases h1
  · rw [hm] at h1; cases h1
    exact ⟨m', h2, hc⟩

theorem defStep_ok_getModule (path : Path) (s t : State) (d : G.Item) (hm : (s.getModule path).isSome = true)
    (h : C14.defStep path s d = .ok t) : (t.getModule path).isSome = true := by
  obtain ⟨m, hm⟩ := Option.isSome_iff_exists.mp hm
  rw [defStep_closed path s d m hm] at h
  split at h
  · cases h
  · cases h
    rw [defAdded_getModule path m s d hm]
    rfl

/-- two definitions can be registered in either order -/
theorem defStep_comm (path : Path) {s c1 c : State} {x y : G.Item} (hm : (s.getModule path).isSome = true)
    (h1 : C14.defStep path s x = .ok c1) (h2 : C14.defStep path c1 y = .ok c) :
    ∃ d1 d, C14.defStep path s y = .ok d1 ∧ C14.defStep path d1 x = .ok d ∧ PermS c d := by
  obtain ⟨m, hm⟩ := Option.isSome_iff_exists.mp hm
  rw [defStep_closed path s x m hm] at h1
  split at h1
  · cases h1
  · next cx =>
    cases h1
    rw [defStep_closed path _ y _ (defAdded_getModule path m s x hm), defAdded_contains] at h2
    split at h2
    · cases h2
    · next cy =>
      cases h2
      simp only [Bool.or_eq_true, beq_iff_eq, not_or] at cy
      refine ⟨defAdded path m s y, _, ?_, ?_, defAdded_comm path s m y x cy.2⟩
      · rw [defStep_closed path s y m hm, if_neg cy.1]
      · rw [defStep_closed path _ x _ (defAdded_getModule path m s y hm), defAdded_contains, if_neg]
        simp only [Bool.or_eq_true, beq_iff_eq, not_or]
        exact ⟨cx, fun e => cy.2 e.symm⟩

/-- the definitions loop fails in one way only -/
theorem defFold_fail (path : Path) (l : List G.Item) (s : State) (hm : (s.getModule path).isSome = true)
    (h : ∀ t, Res.foldlM (C14.defStep path) s l ≠ .ok t) :
    Res.foldlM (C14.defStep path) s l = .err "item is defined more than once" := by
  induction l generalizing s with
  | nil => exact (h s rfl).elim
  | cons x l ih =>
    obtain ⟨m, hm'⟩ := Option.isSome_iff_exists.mp hm
    rw [foldlM_cons_bind, defStep_closed path s x m hm'] at h ⊢
    split
    · rfl
    · next cx =>
      rw [if_neg cx] at h
      exact ih _ (by rw [defAdded_getModule path m s x hm']; rfl) h

theorem defFold_perm (path : Path) {l l' : List G.Item} (hp : l'.Perm l) {s s' : State} (h : PermS s s')
    (hm : (s.getModule path).isSome = true) :
    RelRes PermS (Res.foldlM (C14.defStep path) s l) (Res.foldlM (C14.defStep path) s' l') := by
  -- a successful loop can be repeated in the other order, from a related state (`foldlM_perm`) …
  have fwd : ∀ {l l' : List G.Item}, l.Perm l' → ∀ {s s' t : State}, PermS s s' →
      (s.getModule path).isSome = true → Res.foldlM (C14.defStep path) s l = .ok t →
      ∃ t', Res.foldlM (C14.defStep path) s' l' = .ok t' ∧ PermS t t' := by
    intro l l' hp s s' t h hm ht
    exact foldlM_perm (f := C14.defStep path) (J := fun s => (s.getModule path).isSome = true) (D := fun _ _ => True)
      PermS.refl PermS.trans (fun _ => trivial)
      (fun hb hf => defStep_ok_getModule path _ _ _ hb hf)
      (fun _ hr hf => ((defStep_isG path).rel gAdd_perm _ hr).of_ok hf)
      (fun hb _ h1 h2 => defStep_comm path hb h1 h2) hp (List.pairwise_of_forall (fun _ _ => trivial)) hm h ht
  obtain ⟨m, hm1⟩ := Option.isSome_iff_exists.mp hm
  obtain ⟨m', hm2, _⟩ := h.getModule_some path m hm1
  have hm' : (s'.getModule path).isSome = true := by rw [hm2]; rfl
  by_cases hok : ∃ t, Res.foldlM (C14.defStep path) s l = .ok t
  · obtain ⟨t, ht⟩ := hok
    obtain ⟨t', e, ht'⟩ := fwd hp.symm h hm ht
    rw [ht, e]
    exact .ok ht'
  · -- … and a failed one fails in the other order too, with the only message there is
    have hn : ∀ t, Res.foldlM (C14.defStep path) s l ≠ .ok t := fun t e => hok ⟨t, e⟩
    have hn' : ∀ t', Res.foldlM (C14.defStep path) s' l' ≠ .ok t' := fun t' e => by
      obtain ⟨t, e2, _⟩ := fwd hp h.symm hm' e
      exact hn t e2
    rw [defFold_fail path l s hm hn, defFold_fail path l' s' hm' hn']
    exact .err _

theorem putModule_perm {s s' : State} (h : PermS s s') (path : Path) (mod : Mod) :
    PermS (s.putModule path mod) (s'.putModule path mod) := by
  refine ⟨h.ps, h.get, h.perm, ?_⟩
  simp only [State.putModule, List.map_cons]
  congr 1
  have : ((fun (e : Path × Mod) => e.1 != path) ∘ canonE) = (fun (e : Path × Mod) => e.1 != path) := rfl
  have e : ∀ (ms : List (Path × Mod)), (ms.filter fun e => e.1 != path).map canonE
      = (ms.map canonE).filter fun e => e.1 != path := by
    intro ms
    rw [List.filter_map, this]
  rw [e, e, h.mods]

theorem putModule_getModule (s : State) (path : Path) (mod : Mod) :
    ((s.putModule path mod).getModule path).isSome = true := by
  simp [State.putModule, State.getModule]
theorem implCheck_perm (m : G.Module) (defs' : List G.Item) (hp : defs'.Perm m.defs) :
    implCheck { m with defs := defs' } = implCheck m := by
  unfold implCheck
  simp only []
  congr 1
  funext b
  congr 1
  rw [Bool.eq_iff_iff]
  simp only [List.any_eq_true]
  constructor
  · rintro ⟨d, hd, h⟩; exact ⟨d, hp.mem_iff.mp hd, h⟩
  · rintro ⟨d, hd, h⟩; exact ⟨d, hp.mem_iff.mpr hd, h⟩

theorem addModule_perm {s s' : State} (h : PermS s s') (m : G.Module) (defs' : List G.Item)
    (hp : defs'.Perm m.defs) (path : Path) :
    RelRes PermS (s.addModule m path) (s'.addModule { m with defs := defs' } path) :=
  addModule_defs gAdd_perm m defs' path (implCheck_perm m defs' hp)
    (fun mod => defFold_perm path hp (putModule_perm h path mod) (putModule_getModule s path mod))

/-- case `c'` is case `c` with the definitions of the `j`-th module (an AST module) permuted -/
def ReorderedDefs (c c' : Case) : Prop :=
  ∃ (j : Nat) (path : Path) (file : String) (m : G.Module) (defs' : List G.Item),
    c.modules[j]? = some (.ast path file m) ∧ defs'.Perm m.defs ∧
    c' = { c with modules := c.modules.set j (.ast path file { m with defs := defs' }) }

theorem initialState_reordered (c c' : Case) (h : ReorderedDefs c c') :
    c'.prio = c.prio ∧ RelRes PermS c.initialState c'.initialState := by
  obtain ⟨j, path, file, m, defs', hj, hp, rfl⟩ := h
  exact ⟨rfl, initialState_set c j _ _ hj (fun t => addModule_perm (PermS.refl t) m defs' hp path)
    (fun a hb => caseStep_rel (fun p mod h => putModule_perm h p mod) gAdd_perm hb a)⟩

/-- the runs of the two cases: the same failure, or two accepted states that differ in order only -/
theorem run_reordered (c c' : Case) (h : ReorderedDefs c c') : RelO PermS c.run c'.run := by
  obtain ⟨hprio, hinit⟩ := initialState_reordered c c' h
  obtain ⟨o, o', ho, e1, e2⟩ := runFrom_rel permS_loopRel c.prio hinit
  rw [Case.run_eq_runFrom, Case.run_eq_runFrom, hprio, e1, e2]
  exact ho.finish (fun _ _ hs => finish_perm hs) (fun _ ho => .same ho)


/-- every item is stored under its own path -/
def WK (r : Registry) : Prop := ∀ q i, r.get q = some i → i.path = q

theorem WK.add {r : Registry} (h : WK r) (i : ItemDef) : WK (r.add i) := by
  intro q j hj
  rw [C14.get_add] at hj
  by_cases hq : q = i.path
  · rw [if_pos hq] at hj; cases hj; exact hq.symm
  · rw [if_neg hq] at hj; exact h q j hj

theorem WK.setState {r : Registry} (h : WK r) (p : Path) (st : IState) : WK (r.setState p st) := by
  intro q j hj
  rw [C12.get_setState] at hj
  by_cases hq : q = p
  · rw [if_pos hq] at hj
    cases hg : r.get q with
    | none => rw [hg] at hj; cases hj
    | some i => rw [hg] at hj; cases hj; exact h q i hg
  · rw [if_neg hq] at hj; exact h q j hj

theorem WK.addItem {s s' : State} (h : WK s.reg) (i : ItemDef) (ha : s.addItem i = .ok s') : WK s'.reg := by
  rw [C14.addItem_reg s s' i ha]; exact h.add i

theorem WK.new (ps : Nat) : WK (State.new ps).reg :=
  C02.new_induct (P := WK) (fun _ _ hi => by cases hi) (fun _ _ _ hs => hs.add _)

theorem WK.reach {s s1 : State} {owner : Path} (h : WK s.reg) (hr : C02.Reach2 s s1 owner) : WK s1.reg := by
  rcases hr with rfl | ⟨_, _, item, _, _, ha⟩
  · exact h
  · exact WK.addItem h item ha

theorem WK.attemptItem {s : State} (h : WK s.reg) (q : Path) : WK (attemptItem s q).1.reg :=
  attemptItem_induct (P := fun t => WK t.reg) h (fun _ d _ _ => h.reach (attemptDef_reach2 s q d))
    (fun _ _ _ _ _ _ _ h1 => h1.setState q _)

theorem WK.resolveLoop (prio : List Path) (fuel : Nat) {s sf : State} (h : WK s.reg)
    (hl : resolveLoop prio fuel s = .ok sf) : WK sf.reg :=
  resolveLoop_induct (P := fun s => WK s.reg) (runRound_induct (fun _ q hs => hs.attemptItem q)) h hl

theorem WK.run (c : Case) (sf : State) (h : c.run = .ok sf) : WK sf.reg := by
  obtain ⟨s1, ms, h1, _, rfl⟩ := Case.run_induct (P := fun s => WK s.reg) (WK.new c.ps)
    (fun _ _ _ _ _ _ hs ha => State.addModule_of_addItem (P := fun s => WK s.reg) (fun _ _ _ => hs)
      (fun _ i _ hs _ ha => hs.addItem i ha) ha)
    (fun _ q hs => hs.attemptItem q) h
  exact h1

/-! ### the observations of two states that differ in order only -/

theorem moduleFile_canon (s : State) (hk : WK s.reg) (key : Path) (m : Mod) :
    Emit.moduleFile s key (canonM m) = Emit.moduleFile s key m :=
  reorder_definitions_lem s key m (canonM m) (List.mergeSort_perm _ _) hk rfl

abbrev fileLe : Path × Mod → Path × Mod → Bool := fun a b => Emit.relFile a.1 ≤ Emit.relFile b.1

theorem sortBy_canonE (l : List (Path × Mod)) :
    (Emit.sortBy fileLe l).map canonE = Emit.sortBy fileLe (l.map canonE) := by
  unfold Emit.sortBy
  apply List.map_mergeSort
  intro a _ b _
  rfl

theorem files_perm {s s' : State} (h : PermS s s') (hk : WK s.reg) : Emit.files s' = Emit.files s := by
  have e : ∀ (t : State) (ms : List (Path × Mod)), (∀ key m, Emit.moduleFile t key m = Emit.moduleFile s key (canonM m)) →
      (Emit.sortBy fileLe (ms.filter fun e => !e.1.isEmpty)).map (fun e => Emit.moduleFile t e.1 e.2)
        = (Emit.sortBy fileLe ((ms.map canonE).filter fun e => !e.1.isEmpty)).map (fun e => Emit.moduleFile s e.1 e.2) := by
    intro t ms ht
    have : (ms.map canonE).filter (fun e => !e.1.isEmpty) = (ms.filter fun e => !e.1.isEmpty).map canonE := by
      rw [List.filter_map]; rfl
    rw [this, ← sortBy_canonE, List.map_map]
    apply List.map_congr_left
    intro x _
    exact ht x.1 x.2
  unfold Emit.files
  simp only []
  rw [e s' s'.modules (fun key m => by rw [moduleFile_sim s s' h.regSim, moduleFile_canon s hk]),
      e s s.modules (fun key m => (moduleFile_canon s hk key m).symm), h.mods]

theorem o3Of_perm {o o' : BuildOutcome} (h : RelO PermS o o') (hk : ∀ s, o = .ok s → WK s.reg) :
    o3Of o' = o3Of o := by
  revert hk
  refine h.ind (P := fun o o' => (∀ s, o = .ok s → WK s.reg) → o3Of o' = o3Of o) ?_ (fun _ _ _ => rfl)
  intro s s' hs hk
  simp only [o3Of, files_perm hs (hk s rfl)]

theorem flatMap_perm_of_image {α β γ} (g : α → β) (k : α → List γ) (hk : ∀ a a', g a' = g a → (k a').Perm (k a)) :
    ∀ (l l' : List α), l'.map g = l.map g → (l'.flatMap k).Perm (l.flatMap k)
  | [], [], _ => List.Perm.refl _
  | [], _ :: _, h => by cases h
  | _ :: _, [], h => by cases h
  | a :: l, a' :: l', h => by
    simp only [List.map_cons, List.cons.injEq] at h
    simp only [List.flatMap_cons]
    exact List.Perm.append (hk a a' h.1) (flatMap_perm_of_image g k hk l l' h.2)

theorem resolvedS_perm {s s' : State} (h : PermS s s') (hk : WK s.reg) : Obs.resolvedS s' = Obs.resolvedS s := by
  have hget : s'.reg.get = s.reg.get := funext h.get
  -- the extern values
  have hx : (s'.modules.flatMap fun e => e.2.xvals.map fun x => (e.1, x))
      = (s.modules.flatMap fun e => e.2.xvals.map fun x => (e.1, x)) := by
    have e : ∀ (ms : List (Path × Mod)), (ms.flatMap fun e => e.2.xvals.map fun x => (e.1, x))
        = ((ms.map canonE).flatMap fun e => e.2.xvals.map fun x => (e.1, x)) := by
      intro ms
      rw [List.flatMap_map]
      rfl
    rw [e s'.modules, e s.modules, h.mods]
  -- the items: the same, up to order, and each is the one stored under its own path
  have hperm : (s'.modules.flatMap fun e => e.2.defPaths.filterMap s'.reg.get).Perm
      (s.modules.flatMap fun e => e.2.defPaths.filterMap s.reg.get) := by
    rw [hget]
    refine flatMap_perm_of_image canonE _ (fun a a' hq => ?_) _ _ h.mods
    exact (canonM_perm (congrArg Prod.snd hq)).filterMap _
  have hsort := sortBy_path_perm (hperm.filter (!·.isPredefined)) s.reg.get (fun x hx => by
    obtain ⟨e, _, hxe⟩ := List.mem_flatMap.mp (List.mem_filter.mp hx).1
    obtain ⟨q, _, hq⟩ := List.mem_filterMap.mp hxe
    rw [h.get] at hq
    rw [hk q x hq]
    exact hq)
  unfold Obs.resolvedS
  simp only []
  rw [hsort, hx]

theorem outcomeS_perm {o o' : BuildOutcome} (h : RelO PermS o o') (hk : ∀ s, o = .ok s → WK s.reg) :
    Obs.outcomeS o' = Obs.outcomeS o := by
  revert hk
  refine h.ind (P := fun o o' => (∀ s, o = .ok s → WK s.reg) → Obs.outcomeS o' = Obs.outcomeS o) ?_
    (fun _ _ _ => rfl)
  intro s s' hs hk
  exact resolvedS_perm hs (hk s rfl)

end PyxisVerif.C20
