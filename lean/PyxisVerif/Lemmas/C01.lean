import PyxisVerif.Spec.C01
import PyxisVerif.Lemmas.Build
import PyxisVerif.Lemmas.C20
/-!
# The layout core on accepted inputs (C01, C02)

`reg` is what one `push` appends; with it `place` and `resolve` are followed region by region, the running offsets
of the placed list against `specOffsets`.  Then the modelled compiler on a list that passed `fieldsAligned`, and the
alignment block by cases.
-/
namespace PyxisVerif.C01
open Layout

/-! ## `push` in closed form -/

/-- what one `push` appends -/
def reg {β} (s : Nat) (al : Option Nat) (arr : Bool) (src : Option β) : List (Placed β) :=
  if s = 0 ∧ arr = true then [] else [⟨s, al, src⟩]

theorem mem_reg {β} {r : Placed β} {s : Nat} {al : Option Nat} {arr : Bool} {src : Option β} :
    r ∈ reg s al arr src ↔ ¬ (s = 0 ∧ arr = true) ∧ r = ⟨s, al, src⟩ := by
  unfold reg
  split <;> simp [*]

theorem push_ok_inv {β} (st st' : St β) (sz : Res (Option Nat)) (al : Option Nat) (arr : Bool)
    (src : Option β) (h : push st sz al arr src = .ok st') :
    ∃ s, sz = .ok (some s) ∧ st' = (st.1 ++ reg s al arr src, st.2 + s) := by
  unfold push at h
  split at h
  · cases h
  · rename_i s
    refine ⟨s, rfl, ?_⟩
    unfold reg
    by_cases c : s = 0 ∧ arr = true
    · simp only [c, and_self, if_true] at h
      cases h
      obtain ⟨rfl, rfl⟩ := c
      simp
    · simp only [c, if_false] at h
      split at h
      · cases h; simp [c]
      · cases h
  · cases h
  · cases h
  · cases h

theorem sumSizes_nil {β} : sumSizes ([] : List (Placed β)) = 0 := rfl

theorem sumSizes_cons {β} (r : Placed β) (rs : List (Placed β)) :
    sumSizes (r :: rs) = r.size + sumSizes rs := by
  simp [sumSizes]

theorem sumSizes_append {β} (a b : List (Placed β)) : sumSizes (a ++ b) = sumSizes a + sumSizes b := by
  simp [sumSizes]

theorem sumSizes_reg {β} (s : Nat) (al : Option Nat) (arr : Bool) (src : Option β) :
    sumSizes (reg s al arr src) = s := by
  unfold reg
  by_cases c : s = 0 ∧ arr = true
  · simp [c, sumSizes]
  · simp [c, sumSizes]

theorem offsets_append {β} (o : Nat) (a b : List (Placed β)) :
    offsets o (a ++ b) = offsets o a ++ offsets (o + sumSizes a) b := by
  induction a generalizing o with
  | nil => simp [offsets, sumSizes]
  | cons r a ih =>
    simp only [List.cons_append, offsets, ih, List.cons.injEq, true_and, sumSizes_cons]
    simp [Nat.add_assoc]

/-- the source regions of a placed list with running offsets from `o` -/
def srcOffs {β} (o : Nat) (rs : List (Placed β)) : List (Nat × β) :=
  (offsets o rs).filterMap fun p => p.2.src.map fun v => (p.1, v)

theorem sourceOffsets_eq {β} (rs : List (Placed β)) : sourceOffsets rs = srcOffs 0 rs := rfl

theorem srcOffs_append {β} (o : Nat) (a b : List (Placed β)) :
    srcOffs o (a ++ b) = srcOffs o a ++ srcOffs (o + sumSizes a) b := by
  simp [srcOffs, offsets_append]

theorem srcOffs_reg_none {β} (o s : Nat) (al : Option Nat) (arr : Bool) :
    srcOffs o (reg s al arr (none : Option β)) = [] := by
  unfold reg srcOffs
  split <;> simp [offsets]

/-- the right-hand side of `placed_at_spec` for the fields -/
def specSrc {β} (e : Nat) (fields : List (PField β)) : List (Nat × β) :=
  ((fields.zip (specOffsets e fields)).filter (fun p => emitted p.1)).map (fun p => (p.2, p.1.val))

theorem specSrc_nil {β} (e : Nat) : specSrc e ([] : List (PField β)) = [] := rfl

theorem specSrc_cons {β} (e : Nat) (f : PField β) (fs : List (PField β)) :
    specSrc e (f :: fs) =
      (if emitted f then [(f.addr.getD e, f.val)] else []) ++ specSrc (f.addr.getD e + fsize f) fs := by
  unfold specSrc
  simp only [specOffsets, List.zip_cons_cons, List.filter_cons]
  cases emitted f <;> simp

theorem reg_of_size {β} (f : PField β) (s : Nat) (h : f.size = .ok (some s)) (al : Option Nat) (src : Option β) :
    fsize f = s ∧ reg s al f.isArr src = if emitted f then [⟨s, al, src⟩] else [] := by
  unfold emitted fsize reg
  rw [h]
  refine ⟨rfl, ?_⟩
  cases f.isArr <;> simp

theorem pushField_step {β} (st st2 : St β) (f : PField β) (hinv : sumSizes st.1 = st.2)
    (h : pushField st f = .ok st2) :
    sumSizes st2.1 = st2.2 ∧ st2.2 = st.2 + fsize f ∧
      srcOffs 0 st2.1 = srcOffs 0 st.1 ++ (if emitted f then [(st.2, f.val)] else []) := by
  unfold pushField at h
  obtain ⟨s, hs, rfl⟩ := push_ok_inv _ _ _ _ _ _ h
  obtain ⟨h1, h2⟩ := reg_of_size f s hs f.align (some f.val)
  refine ⟨by simp [sumSizes_append, sumSizes_reg, hinv], by simp [h1], ?_⟩
  rw [srcOffs_append, h2, Nat.zero_add, hinv]
  cases emitted f <;> simp [srcOffs, offsets]

theorem pushPad_step {β} (st st1 : St β) (n : Nat) (hinv : sumSizes st.1 = st.2)
    (h : pushPad st n = .ok st1) :
    sumSizes st1.1 = st1.2 ∧ st1.2 = st.2 + n ∧ srcOffs 0 st1.1 = srcOffs 0 st.1 := by
  unfold pushPad at h
  obtain ⟨s, hs, rfl⟩ := push_ok_inv _ _ _ _ _ _ h
  cases hs
  refine ⟨by simp [sumSizes_append, sumSizes_reg, hinv], rfl, ?_⟩
  simp [srcOffs_append, srcOffs_reg_none]

theorem place_cons_inv {β} (st st' : St β) (f : PField β) (fs : List (PField β))
    (h : place st (f :: fs) = .ok st') :
    (f.addr = none ∧ ∃ st2, pushField st f = .ok st2 ∧ place st2 fs = .ok st') ∨
    (∃ a, f.addr = some a ∧ st.2 ≤ a ∧
      ∃ st1 st2, pushPad st (a - st.2) = .ok st1 ∧ pushField st1 f = .ok st2 ∧ place st2 fs = .ok st') := by
  rw [C20.place_cons] at h
  obtain ⟨st2, h2, h3⟩ := Res.bind_eq_ok.mp h
  unfold C20.placeStep at h2
  split at h2
  · next a ha =>
    split at h2
    · cases h2
    · obtain ⟨st1, h1, hp⟩ := Res.bind_eq_ok.mp h2
      exact .inr ⟨a, ha, by omega, st1, st2, h1, hp, h3⟩
  · next ha => exact .inl ⟨ha, st2, h2, h3⟩

/-- the placement loop puts every emitted source field where `specOffsets` says -/
theorem place_spec {β} (st st' : St β) (fields : List (PField β)) (hinv : sumSizes st.1 = st.2)
    (h : place st fields = .ok st') :
    sumSizes st'.1 = st'.2 ∧ srcOffs 0 st'.1 = srcOffs 0 st.1 ++ specSrc st.2 fields := by
  induction fields generalizing st with
  | nil =>
    simp only [place] at h
    cases h
    simp [hinv, specSrc_nil]
  | cons f fs ih =>
    rcases place_cons_inv st st' f fs h with ⟨ha, st2, h2, h3⟩ | ⟨a, ha, hle, st1, st2, h1, h2, h3⟩
    · obtain ⟨i1, i2, i3⟩ := pushField_step st st2 f hinv h2
      obtain ⟨j1, j2⟩ := ih st2 i1 h3
      refine ⟨j1, ?_⟩
      rw [j2, i3, i2, specSrc_cons, ha]
      simp
    · obtain ⟨p1, p2, p3⟩ := pushPad_step st st1 _ hinv h1
      obtain ⟨i1, i2, i3⟩ := pushField_step st1 st2 f p1 h2
      obtain ⟨j1, j2⟩ := ih st2 i1 h3
      refine ⟨j1, ?_⟩
      have e : st1.2 = a := by omega
      rw [j2, i3, i2, p3, specSrc_cons, ha, e]
      simp

theorem padTail_step {β} (st st2 : St β) (target : Option Nat) (hinv : sumSizes st.1 = st.2)
    (h : padTail st target = .ok st2) :
    sumSizes st2.1 = st2.2 ∧ srcOffs 0 st2.1 = srcOffs 0 st.1 := by
  unfold padTail at h
  split at h
  · split at h
    · obtain ⟨p1, _, p3⟩ := pushPad_step st st2 _ hinv h
      exact ⟨p1, p3⟩
    · cases h; exact ⟨hinv, rfl⟩
  · cases h; exact ⟨hinv, rfl⟩

/-- what `push` keeps, the placement loop keeps -/
theorem place_invariant {β} {P : St β → Prop}
    (hpush : ∀ st sz al arr src st', P st → push st sz al arr src = .ok st' → P st')
    {st st' : St β} {fs : List (PField β)} (h0 : P st) (h : place st fs = .ok st') : P st' := by
  induction fs generalizing st with
  | nil => cases h; exact h0
  | cons f fs ih =>
    rcases place_cons_inv st st' f fs h with ⟨_, st2, h2, h3⟩ | ⟨_, _, _, st1, st2, h1, h2, h3⟩
    · exact ih (hpush _ _ _ _ _ _ h0 h2) h3
    · exact ih (hpush _ _ _ _ _ _ (hpush _ _ _ _ _ _ h0 h1) h2) h3

theorem padTail_invariant {β} {P : St β → Prop}
    (hpush : ∀ st sz al arr src st', P st → push st sz al arr src = .ok st' → P st')
    {st st' : St β} {target : Option Nat} (h0 : P st) (h : padTail st target = .ok st') : P st' := by
  unfold padTail at h
  split at h
  · split at h
    · exact hpush _ _ _ _ _ _ h0 h
    · cases h; exact h0
  · cases h; exact h0

theorem resolve_inv {β} (vptr : Option (PField β)) (fields : List (PField β)) (target : Option Nat)
    (placed : List (Placed β)) (size : Nat) (h : resolve vptr fields target = .ok (placed, size)) :
    ∃ st0 st1 st2,
      (match vptr with | some v => pushField ([], 0) v | none => .ok ([], 0)) = .ok st0 ∧
      place st0 fields = .ok st1 ∧ padTail st1 target = .ok st2 ∧
      placed = st2.1 ∧ size = sumSizes st2.1 ∧ ∀ t, target = some t → size = t := by
  unfold resolve at h
  split at h
  · rename_i st0 h0
    split at h
    · rename_i st1 h1
      split at h
      · rename_i st2 h2
        refine ⟨st0, st1, st2, h0, h1, h2, ?_⟩
        simp only [] at h
        split at h
        · rename_i t
          split at h
          · cases h
          · rename_i hne
            cases h
            refine ⟨rfl, rfl, ?_⟩
            intro t' ht'
            cases ht'
            exact Classical.byContradiction fun hc => hne hc
        · cases h
          exact ⟨rfl, rfl, fun t ht => by cases ht⟩
      all_goals cases h
    all_goals cases h
  all_goals cases h

/-- the first step of `resolve`: the vftable pointer, when the type owns one -/
def vpush {β} (vptr : Option (PField β)) : Res (St β) :=
  match vptr with | some v => pushField ([], 0) v | none => .ok ([], 0)

theorem resolve_of_steps {β} {vptr : Option (PField β)} {fields : List (PField β)} {target : Option Nat}
    {st0 st1 st2 : St β} (h0 : vpush vptr = .ok st0)
    (h1 : place st0 fields = .ok st1) (h2 : padTail st1 target = .ok st2) :
    resolve vptr fields target =
      match (generalizing := false) target with
      | some t =>
        if sumSizes st2.1 ≠ t then .err "calculated size does not match target size"
        else .ok (st2.1, sumSizes st2.1)
      | none => .ok (st2.1, sumSizes st2.1) := by
  unfold vpush at h0
  unfold resolve
  split
  · rename_i h
    cases h0.symm.trans h
    simp only [h1, h2]
    cases target <;> rfl
  all_goals rename_i h; cases h0.symm.trans h

theorem resolve_of_place_err {β} {vptr : Option (PField β)} {fields : List (PField β)} {target : Option Nat}
    {st0 : St β} {m : String} (h0 : vpush vptr = .ok st0)
    (h1 : place st0 fields = .err m) : resolve vptr fields target = .err m := by
  unfold vpush at h0
  unfold resolve
  split
  · rename_i h
    cases h0.symm.trans h
    simp only [h1]
  all_goals rename_i h; cases h0.symm.trans h

/-- where the first field starts: after the vftable pointer, if the type owns one -/
def vstart {β} (vptr : Option (PField β)) : Nat :=
  match vptr with | some v => (if emitted v then fsize v else 0) | none => 0

def vhead {β} (vptr : Option (PField β)) : List (Nat × β) :=
  match vptr with | some v => (if emitted v then [(0, v.val)] else []) | none => []

theorem fsize_of_not_emitted {β} (v : PField β) (he : emitted v = false) : fsize v = 0 := by
  unfold emitted at he
  simp only [Bool.not_eq_false', Bool.and_eq_true, beq_iff_eq] at he
  exact he.1

theorem vptr_step {β} (vptr : Option (PField β)) (st0 : St β)
    (h0 : (match vptr with | some v => pushField ([], 0) v | none => .ok ([], 0)) = .ok st0) :
    sumSizes st0.1 = st0.2 ∧ st0.2 = vstart vptr ∧ srcOffs 0 st0.1 = vhead vptr := by
  cases vptr with
  | none => cases h0; exact ⟨rfl, rfl, rfl⟩
  | some v =>
    simp only [] at h0
    obtain ⟨i1, i2, i3⟩ := pushField_step ([], 0) st0 v rfl h0
    refine ⟨i1, ?_, ?_⟩
    · simp only [Nat.zero_add] at i2
      rw [i2]
      show fsize v = if emitted v = true then fsize v else 0
      by_cases he : emitted v = true
      · rw [if_pos he]
      · rw [if_neg he]
        exact fsize_of_not_emitted v (by simpa using he)
    · rw [i3]; simp [srcOffs, offsets, vhead]

theorem resolve_spec {β} (vptr : Option (PField β)) (fields : List (PField β)) (target : Option Nat)
    (placed : List (Placed β)) (size : Nat)
    (h : resolve vptr fields target = .ok (placed, size)) :
    sourceOffsets placed = vhead vptr ++ specSrc (vstart vptr) fields ∧ size = sumSizes placed := by
  obtain ⟨st0, st1, st2, h0, h1, h2, rfl, rfl, _⟩ := resolve_inv vptr fields target placed size h
  refine ⟨?_, rfl⟩
  obtain ⟨k1, k2, k3⟩ := vptr_step vptr st0 h0
  obtain ⟨j1, j2⟩ := place_spec st0 st1 fields k1 h1
  obtain ⟨l1, l2⟩ := padTail_step st1 st2 target j1 h2
  rw [sourceOffsets_eq, l2, j2, k3, k2]

/-! ## the modelled compiler on regions that pass pyxis's checks -/

theorem alignUp_of_dvd (o a : Nat) (ha : a ≠ 0) (h : o % a = 0) : RustSem.alignUp o a = o := by
  unfold RustSem.alignUp
  rw [if_neg ha]
  obtain ⟨k, rfl⟩ := Nat.dvd_of_mod_eq_zero h
  have e : a * k + a - 1 = a * k + (a - 1) := by omega
  rw [e, Nat.mul_add_div (by omega), Nat.div_eq_of_lt (by omega)]
  simp [Nat.mul_comm]

theorem alignUp_one (o : Nat) : RustSem.alignUp o 1 = o := by
  simp [RustSem.alignUp]

theorem rust_packed {β} (o : Nat) (rs : List (Placed β)) :
    RustSem.offsets true o (rs.map toFld) = (offsets o rs).map (·.1) ∧
      RustSem.endOf true o (rs.map toFld) = o + sumSizes rs := by
  induction rs generalizing o with
  | nil => simp [RustSem.offsets, RustSem.endOf, offsets, sumSizes]
  | cons r rs ih =>
    obtain ⟨h1, h2⟩ := ih (o + r.size)
    simp only [List.map_cons, RustSem.offsets, RustSem.endOf, offsets, if_true, toFld, sumSizes_cons] at h1 h2 ⊢
    refine ⟨by rw [h1], ?_⟩
    rw [h2]; omega

theorem fieldsAligned_cons_inv {β} (off : Nat) (r : Placed β) (rs : List (Placed β))
    (h : fieldsAligned off (r :: rs) = .ok ()) :
    ∃ a, r.align = some a ∧ a ≠ 0 ∧ off % a = 0 ∧ fieldsAligned (off + r.size) rs = .ok () := by
  unfold fieldsAligned at h
  split at h
  · cases h
  · rename_i a ha
    split at h
    · cases h
    · rename_i h0
      split at h
      · cases h
      · rename_i hm
        split at h
        · cases h
        · exact ⟨a, ha, h0, by omega, h⟩

theorem fieldsAligned_all {β} (off : Nat) (rs : List (Placed β)) (h : fieldsAligned off rs = .ok ()) :
    ∀ r ∈ rs, ∃ x, r.align = some x ∧ x ≠ 0 := by
  induction rs generalizing off with
  | nil => intro r hr; cases hr
  | cons r rs ih =>
    obtain ⟨a, ha, h0, _, h'⟩ := fieldsAligned_cons_inv off r rs h
    intro r' hr'
    rcases List.mem_cons.mp hr' with rfl | hr'
    · exact ⟨a, ha, h0⟩
    · exact ih _ h' r' hr'

theorem rust_unpacked {β} (o : Nat) (rs : List (Placed β)) (h : fieldsAligned o rs = .ok ()) :
    RustSem.offsets false o (rs.map toFld) = (offsets o rs).map (·.1) ∧
      RustSem.endOf false o (rs.map toFld) = o + sumSizes rs := by
  induction rs generalizing o with
  | nil => simp [RustSem.offsets, RustSem.endOf, offsets, sumSizes]
  | cons r rs ih =>
    obtain ⟨a, ha, h0, hm, h'⟩ := fieldsAligned_cons_inv o r rs h
    obtain ⟨h1, h2⟩ := ih (o + r.size) h'
    have hal : RustSem.alignUp o ((toFld r).align) = o := by
      simp only [toFld, ha, Option.getD_some]
      exact alignUp_of_dvd o a h0 hm
    simp only [List.map_cons, RustSem.offsets, RustSem.endOf, offsets, Bool.false_eq_true, if_false,
      hal, sumSizes_cons, List.cons.injEq, true_and]
    simp only [toFld] at h1 h2 ⊢
    refine ⟨h1, ?_⟩
    rw [h2]; omega

theorem offsets_zip {β} (o : Nat) (rs : List (Placed β)) :
    ((offsets o rs).map (·.1)).zip rs = offsets o rs := by
  induction rs generalizing o with
  | nil => rfl
  | cons r rs ih => simp [offsets, ih]

def lcmFrom {β} (acc : Nat) (rs : List (Placed β)) : Res Nat :=
  Res.foldlM (fun acc (r : Placed β) => match r.align with | some a => lcmStep acc a | none => .ok acc)
    acc rs

theorem lcmAll_eq {β} (rs : List (Placed β)) : lcmAll rs = lcmFrom 1 rs := rfl

theorem lcmStep_ok (acc x m : Nat) (h : lcmStep acc x = .ok m) :
    acc ∣ m ∧ x ∣ m ∧ (0 < acc → 0 < x → 0 < m) := by
  unfold lcmStep at h
  split at h
  · cases h
  · split at h
    · cases h
    · cases h
      have hg1 : Nat.gcd acc x ∣ acc := Nat.gcd_dvd_left acc x
      have hg2 : Nat.gcd acc x ∣ x := Nat.gcd_dvd_right acc x
      refine ⟨?_, Nat.dvd_mul_left _ _, ?_⟩
      · obtain ⟨k, hk⟩ := hg2
        refine ⟨k, ?_⟩
        calc acc / Nat.gcd acc x * x = acc / Nat.gcd acc x * (Nat.gcd acc x * k) := by rw [← hk]
          _ = (acc / Nat.gcd acc x * Nat.gcd acc x) * k := by rw [Nat.mul_assoc]
          _ = acc * k := by rw [Nat.div_mul_cancel hg1]
      · intro ha hx
        have hle : Nat.gcd acc x ≤ acc := Nat.le_of_dvd ha hg1
        have hgp : 0 < Nat.gcd acc x := Nat.gcd_pos_of_pos_left x ha
        have : 0 < acc / Nat.gcd acc x := Nat.div_pos hle hgp
        exact Nat.mul_pos this hx

theorem lcmStep_of_dvd {acc x : Nat} (h : acc ∣ x) (ha : 0 < acc) (hx : x ≤ usizeMax) : lcmStep acc x = .ok x := by
  unfold lcmStep
  rw [Nat.gcd_eq_left h, Nat.div_self ha, Nat.one_mul, if_neg (by omega), if_neg (by omega)]

theorem lcmStep_of_dvd' {acc x : Nat} (h : x ∣ acc) (hx : 0 < x) (ha : acc ≤ usizeMax) : lcmStep acc x = .ok acc := by
  unfold lcmStep
  rw [Nat.gcd_eq_right h, Nat.div_mul_cancel h, if_neg (by omega), if_neg (by omega)]

theorem lcmFrom_ok {β} (acc : Nat) (rs : List (Placed β)) (L : Nat) (h : lcmFrom acc rs = .ok L)
    (hall : ∀ r ∈ rs, ∃ x, r.align = some x ∧ x ≠ 0) (hacc : 0 < acc) :
    0 < L ∧ acc ∣ L ∧ ∀ r ∈ rs, ∀ x, r.align = some x → x ∣ L := by
  induction rs generalizing acc with
  | nil =>
    cases Res.foldlM_nil_ok.mp h
    exact ⟨hacc, Nat.dvd_refl _, fun r hr => by cases hr⟩
  | cons r rs ih =>
    obtain ⟨x, hx, hx0⟩ := hall r (by simp)
    obtain ⟨m, hm, h⟩ := Res.foldlM_cons_ok.mp h
    simp only [hx] at hm
    obtain ⟨d1, d2, d3⟩ := lcmStep_ok acc x m hm
    obtain ⟨i1, i2, i3⟩ := ih m h (fun r' hr' => hall r' (by simp [hr'])) (d3 hacc (by omega))
    refine ⟨i1, Nat.dvd_trans d1 i2, ?_⟩
    intro r' hr' x' hx'
    rcases List.mem_cons.mp hr' with rfl | hr'
    · rw [hx] at hx'; cases hx'
      exact Nat.dvd_trans d2 i2
    · exact i3 r' hr' x' hx'

theorem foldl_max_le (fs : List RustSem.Fld) (m a : Nat) (hm : m ≤ a) (h : ∀ f ∈ fs, f.align ≤ a) :
    fs.foldl (fun m f => max m f.align) m ≤ a := by
  induction fs generalizing m with
  | nil => exact hm
  | cons f fs ih =>
    simp only [List.foldl_cons]
    have := h f (by simp)
    exact ih _ (by omega) (fun g hg => h g (by simp [hg]))

theorem isPow2_pos (a : Nat) (h : isPow2 a = true) : 1 ≤ a := by
  unfold isPow2 at h
  simp only [Bool.and_eq_true, bne_iff_ne, ne_eq] at h
  omega

theorem alignCheck_packed_inv {β} (ps : Nat) (align? : Option Nat) (rs : List (Placed β)) (size a : Nat)
    (h : alignCheck ps true align? rs size = .ok a) : a = 1 ∧ align? = none := by
  unfold alignCheck at h
  simp only [if_true] at h
  split at h
  · cases h
  · rename_i hn
    cases h
    refine ⟨rfl, ?_⟩
    cases align? with
    | none => rfl
    | some x => simp at hn

theorem alignCheck_unpacked_inv {β} (ps : Nat) (align? : Option Nat) (rs : List (Placed β)) (size a : Nat)
    (h : alignCheck ps false align? rs size = .ok a) :
    a = requestedAlign ps align? rs ∧ isPow2 a = true ∧
      (∃ L, lcmAll rs = .ok L ∧ L ≤ a) ∧ fieldsAligned 0 rs = .ok () ∧ a ≠ 0 ∧ size % a = 0 := by
  unfold alignCheck at h
  simp only [Bool.false_eq_true, if_false] at h
  split at h
  · cases h
  · rename_i hp
    split at h
    · rename_i L hL
      split at h
      · cases h
      · rename_i hle
        split at h
        · rename_i hfa
          split at h
          · cases h
          · rename_i h0
            split at h
            · cases h
            · rename_i hmod
              cases h
              refine ⟨rfl, by simpa using hp, ⟨L, hL, by omega⟩, hfa, h0, by omega⟩
        all_goals cases h
    all_goals cases h

theorem rustc_offsets_lem {β} (ps : Nat) (packed : Bool) (align? : Option Nat) (rs : List (Placed β)) (size a : Nat)
    (hs : size = sumSizes rs) (h : alignCheck ps packed align? rs size = .ok a) :
    RustSem.offsets packed 0 (rs.map toFld) = (offsets 0 rs).map (·.1)
    ∧ RustSem.structSize packed (if packed then none else some a) (rs.map toFld) = size
    ∧ RustSem.structAlign packed (if packed then none else some a) (rs.map toFld) = a := by
  cases packed with
  | true =>
    obtain ⟨rfl, _⟩ := alignCheck_packed_inv ps align? rs size a h
    obtain ⟨h1, h2⟩ := rust_packed 0 rs
    refine ⟨h1, ?_, ?_⟩
    · simp only [RustSem.structSize, RustSem.structAlign, if_true, h2, alignUp_one]
      omega
    · simp [RustSem.structAlign]
  | false =>
    obtain ⟨_, hp, ⟨L, hL, hLa⟩, hfa, h0, hmod⟩ := alignCheck_unpacked_inv ps align? rs size a h
    obtain ⟨h1, h2⟩ := rust_unpacked 0 rs hfa
    have hall := fieldsAligned_all 0 rs hfa
    rw [lcmAll_eq] at hL
    obtain ⟨l1, _, l3⟩ := lcmFrom_ok 1 rs L hL hall (by omega)
    have ha1 := isPow2_pos a hp
    have hmax : RustSem.maxAlign (rs.map toFld) ≤ a := by
      unfold RustSem.maxAlign
      apply foldl_max_le _ _ _ ha1
      intro f hf
      obtain ⟨r, hr, rfl⟩ := List.mem_map.mp hf
      obtain ⟨x, hx, _⟩ := hall r hr
      have := Nat.le_of_dvd l1 (l3 r hr x hx)
      simp only [toFld, hx, Option.getD_some]
      omega
    have hsa : RustSem.structAlign false (some a) (rs.map toFld) = a := by
      simp only [RustSem.structAlign, Bool.false_eq_true, if_false, Option.getD_some]
      omega
    refine ⟨h1, ?_, ?_⟩
    · simp only [Bool.false_eq_true, if_false]
      unfold RustSem.structSize
      rw [hsa, h2, Nat.zero_add, ← hs]
      exact alignUp_of_dvd size a h0 hmod
    · simpa using hsa

def isFieldStmt (st : G.Stmt) : Bool := match st.field with | .field .. => true | .vftable _ => false

theorem stmts_pending (reg : Registry) (scope : List Path) (l : List (Nat × G.Stmt)) (acc acc' : StmtAcc)
    (h : Res.foldlM (stmtStep reg scope) acc l = .ok acc') :
    acc'.pending.length = acc.pending.length + ((l.map (·.2)).filter isFieldStmt).length := by
  induction l generalizing acc with
  | nil => cases Res.foldlM_nil_ok.mp h; rfl
  | cons x l ih =>
    obtain ⟨acc1, h1, h2⟩ := Res.foldlM_cons_ok.mp h
    obtain ⟨idx, st⟩ := x
    rw [ih acc1 h2, List.map_cons, List.filter_cons]
    rcases stmtStep_ok h1 with ⟨_, _, _, _, _, _, _, hf, _, _, _, _, _, _, rfl⟩ | ⟨_, _, _, hf, _, _, _, _, rfl⟩
    · rw [show isFieldStmt st = true by simp only [isFieldStmt, hf], if_pos rfl, List.length_append,
        List.length_cons, List.length_cons, List.length_nil]
      omega
    · rw [show isFieldStmt st = false by simp only [isFieldStmt, hf], if_neg nofun]

theorem zipIdx_swap_snd {α} (l : List α) (i : Nat) :
    ((l.zipIdx i).map fun p => (p.2, p.1)).map (·.2) = l := by
  induction l generalizing i with
  | nil => rfl
  | cons a l ih => simp [List.zipIdx_cons, ih]

theorem mem_zipIdx_swap {α} {l : List α} {ist : Nat × α} (h : ist ∈ l.zipIdx.map fun p => (p.2, p.1)) :
    ist.2 ∈ l := by
  have := List.mem_map_of_mem (f := (·.2)) h
  rwa [zipIdx_swap_snd] at this

/-- what naming does to one placed region -/
def NamedAs (reg : Registry) (p : Placed Region) (r' : Region) : Prop :=
  match p.src with
  | some r => r'.ty = r.ty ∧ (r.name.isSome → r' = r)
  | none => ∃ t, reg.paddingType p.size = .ok t ∧ r'.ty = .data t ∧ r'.vis = .priv

theorem nameRegions_types_lem (reg : Registry) (off : Nat) (placed : List (Placed Region)) (regions : List Region)
    (h : nameRegions reg off placed = .ok regions) :
    regions.length = placed.length ∧
    ∀ k (hk : k < placed.length) (hk' : k < regions.length), NamedAs reg placed[k] regions[k] := by
  refine ⟨(nameRegions_ok h).1, fun k hk hk' => ?_⟩
  obtain ⟨r, o, hsrc, hr⟩ := (nameRegions_ok h).2 k hk hk'
  rw [hr]
  unfold NamedAs C17.renamed
  rcases hsrc with hsrc | ⟨hsrc, t, ht, rfl⟩
  · rw [hsrc]
    cases hn : r.name with
    | none => exact ⟨rfl, fun hs => by simp [hn] at hs⟩
    | some n => exact ⟨rfl, fun _ => rfl⟩
  · rw [hsrc]
    exact ⟨t, ht, rfl, rfl⟩

end PyxisVerif.C01
