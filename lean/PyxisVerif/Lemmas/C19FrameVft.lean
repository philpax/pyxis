import PyxisVerif.Lemmas.MonoVft
import PyxisVerif.Lemmas.C20E2E
/-!
# helper lemmas for the end-to-end frame theorem of C19 (`Props/C19FrameVft.lean`)

The frame property for states (`frame_statesV`), on top of `Lemmas/MonoVft.lean` and of the part of the argument that
does not look at `vftable` blocks (`Lemmas/C19Frame.lean`), for descriptions in which nothing mentions a generated
`<T>Vftable` item by name (`C09.NoGenRefs`).

A registry extension directly under `path` (`RegExt`) is an agreement outside the list of new keys (`C09.AgreeOut`),
and every lookup made with a scope that does not mention `path` or a child of it is clean with respect to that list; so
`C09.btV_out` / `C09.genOf_out` (written for the generated paths) give the locality of one attempt (`attempt_extV`), and
every run of the old state is a run of the new state.  The item an old type generates is the same in both initial
states, and the concrete final registries (abstract registry plus generated items, `C09.Rep`) are again a `RegExt`
directly under `path`: a generated path has the parent of its owner.  The generated items have no `#[base]` region, so
the fuel of `dfs_hierarchy` (`Settled`) is not exhausted on them either.  The definition paths of an old module may be
listed in a different order in the two final states (`add_item` prepends the generated paths in attempt order); the
emitted file sorts them (`C20.reorder_definitions_lem`).
-/
namespace PyxisVerif.C19
open C09 Work Layout Mono

def newKeys (s t : Registry) : List Path := (C10.keys t).filter fun q => !s.contains q

theorem mem_newKeys {s t : Registry} {q : Path} :
    q ∈ newKeys s t ↔ t.contains q = true ∧ s.contains q = false := by
  unfold newKeys
  rw [List.mem_filter, ← C10.contains_iff_mem_keys]
  simp

theorem RegExt.agreeOut {path : Path} {s t : Registry} (h : RegExt path s t) : AgreeOut (newKeys s t) s t := by
  refine ⟨h.ps, fun q hq => ?_⟩
  cases hs : s.contains q with
  | true => exact h.old q hs
  | false =>
    cases ht : t.contains q with
    | true => exact absurd (mem_newKeys.mpr ⟨ht, hs⟩) hq
    | false => rw [Registry.contains_eq_false.mp hs, Registry.contains_eq_false.mp ht]

theorem RegExt.newKeys_under {path : Path} {s t : Registry} (h : RegExt path s t) {q : Path}
    (hq : q ∈ newKeys s t) : ∃ x, q = path ++ [x] := by
  obtain ⟨ht, hs⟩ := mem_newKeys.mp hq
  rcases h.new q ht with h1 | h1
  · rw [hs] at h1; cases h1
  · exact h1

theorem RegExt.notNew_out {path : Path} {s t : Registry} (h : RegExt path s t) {q : Path} (hq : NotNew path q) :
    q ∉ newKeys s t := by
  intro hm
  obtain ⟨x, hx⟩ := h.newKeys_under hm
  exact hq x hx

theorem u8_notNew {path : Path} (hne : path ≠ []) : NotNew path ["u8"] := by
  intro x hx
  have := (List.append_inj' (s₁ := []) (t₁ := ["u8"]) hx rfl).1
  exact hne this.symm

section clean
variable {path : Path} {s t : Registry} (h : RegExt path s t) (hne : path ≠ []) {scope : List Path}
  (hs : GoodScope path scope)
include h hne hs

theorem cleanName_good (name : String) : CleanName (newKeys s t) scope name :=
  fun _ hq => h.notNew_out (cand_notNew hne hs hq)

theorem cleanIds_good (ids : List String) : CleanIds (newKeys s t) scope ids :=
  fun nm _ => cleanName_good h hne hs nm

theorem resolveTy_ext : t.resolveTy scope = s.resolveTy scope :=
  funext fun ty => resolveTy_out h.agreeOut (h.notNew_out (u8_notNew hne)) (cleanIds_good h hne hs _)

end clean

/-- **`type_definition::build` is local**, with or without a `vftable` block -/
theorem btV_ext {path : Path} {s t : Registry} (h : RegExt path s t) (hne : path ≠ []) (module : Mod)
    (hs : GoodScope path module.scope) (k : Path) (vis : Vis) (d : G.TypeDef) :
    btV t (some module) k vis d = btV s (some module) k vis d :=
  btV_out (h.notNew_out (u8_notNew hne)) h.agreeOut module k vis d
    (fun _ _ => cleanIds_good h hne hs _) (fun _ _ _ _ => cleanIds_good h hne hs _)

/-- … and so is the item it generates -/
theorem genOf_ext {path : Path} {s t : Registry} (h : RegExt path s t) (hne : path ≠ []) (module : Mod)
    (hs : GoodScope path module.scope) (k : Path) (vis : Vis) (d : G.TypeDef) :
    genOf t (some module) k vis d = genOf s (some module) k vis d :=
  genOf_out (h.notNew_out (u8_notNew hne)) h.agreeOut module k vis d (fun _ _ => cleanIds_good h hne hs _)

/-- **one attempt on an old item is local**, with `vftable` blocks, when nothing mentions a generated name -/
theorem attempt_extV {path : Path} (hne : path ≠ []) {s0 t0 : State} (hx : StExt path s0 t0)
    (hf : FrameInv path s0) (cs : Ctx s0) (ct : Ctx t0) (R : Reg Path Resolved) {k : Path}
    (hp : Pending s0 k) : attempt t0 R k = attempt s0 R k := by
  obtain ⟨i, d, hi, hpre, hst⟩ := hp
  have hit : t0.reg.get k = some i := hx.reg.get_ext hi
  obtain ⟨m, hm⟩ := cs.ok.ok.parents k i hi (by simp [hpre])
  obtain ⟨hmt, hgs⟩ := moduleFor_ext hx hf k m hm
  have hxr := regExt_stateOf hx.reg R
  cases hin : d.inner with
  | type td =>
    rw [attempt_type hit hpre hst hin, attempt_type hi hpre hst hin, buildType_canon ct R hit hst hin,
      buildType_canon cs R hi hst hin, hmt, hm, btV_ext hxr hne m hgs k d.vis td]
  | enum ed =>
    rw [attempt_enum hit hpre hst hin, attempt_enum hi hpre hst hin,
      buildEnum_out (hxr.notNew_out (u8_notNew hne)) hxr.agreeOut k m m.defPaths hm hmt ed
        (cleanIds_good hxr hne hgs _)]

theorem run_transportV {path : Path} (hne : path ≠ []) {s0 t0 : State} (hx : StExt path s0 t0)
    (hf : FrameInv path s0) (cs : Ctx s0) (ct : Ctx t0) {R : Reg Path Resolved}
    (r : Run (attempt s0) R0 R) : Run (attempt t0) R0 R := by
  induction r with
  | start => exact Run.start
  | step R k v _ hk ha ih =>
    refine Run.step R k v ih hk ?_
    rw [attempt_extV hne hx hf cs ct R (attempt_pending s0 R k (by rw [ha]; intro e; cases e))]
    exact ha

theorem gen_ext {path : Path} (hne : path ≠ []) {s0 t0 : State} (hx : StExt path s0 t0) (hf : FrameInv path s0)
    (cs : Ctx s0) {T : Path} {item : ItemDef} (hT : s0.reg.contains T = true) :
    C09.Gen t0 T item ↔ C09.Gen s0 T item := by
  have hg : t0.reg.get T = s0.reg.get T := hx.reg.old T hT
  have key : ∀ i d td, s0.reg.get T = some i → i.isPredefined = false → i.state = .unres d → d.inner = .type td →
      genOf t0.reg (t0.moduleFor T) T d.vis td = genOf s0.reg (s0.moduleFor T) T d.vis td := by
    intro i d td hi hpre _ _
    obtain ⟨m, hm⟩ := cs.ok.ok.parents T i hi (by simp [hpre])
    obtain ⟨hmt, hgs⟩ := moduleFor_ext hx hf T m hm
    rw [hmt, hm, genOf_ext hx.reg hne m hgs T d.vis td]
  constructor
  · rintro ⟨i, d, td, h1, h2, h3, h4, h5⟩
    rw [hg] at h1
    exact ⟨i, d, td, h1, h2, h3, h4, by rw [← key i d td h1 h2 h3 h4]; exact h5⟩
  · rintro ⟨i, d, td, h1, h2, h3, h4, h5⟩
    exact ⟨i, d, td, by rw [hg]; exact h1, h2, h3, h4, by rw [key i d td h1 h2 h3 h4]; exact h5⟩

theorem gen_contains {s0 : State} {T : Path} {a : ItemDef} (ha : C09.Gen s0 T a) : s0.reg.contains T = true := by
  obtain ⟨i, _, _, h1, _⟩ := ha
  exact contains_of_get h1

theorem rep_get_old {s0 : State} {R : Reg Path Resolved} {s : State} (h : Rep s0 R s) {q : Path}
    (hq : s0.reg.contains q = true) : s.reg.get q = (stateOf s0 R).reg.get q := by
  rcases h.entries q with e | ⟨e0, _⟩
  · exact e
  · unfold Registry.contains at hq
    rw [e0] at hq
    cases hq

theorem rep_contains_old {s0 : State} {R : Reg Path Resolved} {s : State} (h : Rep s0 R s) {q : Path}
    (hq : s0.reg.contains q = true) : s.reg.contains q = true := by
  unfold Registry.contains
  rw [rep_get_old h hq]
  have := contains_stateOf s0 R q
  unfold Registry.contains at this
  rw [this]
  exact hq

theorem rep_get_gen {s0 : State} {R : Reg Path Resolved} {s : State} (rep : Rep s0 R s) (tot : Total s0 R)
    {T : Path} {item : ItemDef} (hg : C09.Gen s0 T item) : s.reg.get item.path = some item := by
  obtain ⟨v, hv⟩ := Option.isSome_iff_exists.mp (tot T hg.pending)
  exact rep.registered T v item hv hg

/-- **the concrete final registries** (abstract registry plus generated items) of the old and of the new state agree on
    everything that is not directly under `path`: a generated item has the parent of its owner, and an old owner
    generates the same item in both -/
theorem rep_regExt {path : Path} (hne : path ≠ []) {s0 t0 : State} (hx : StExt path s0 t0) (hf : FrameInv path s0)
    (cs : Ctx s0) {R1 R2 : Reg Path Resolved} {s1 s2 : State}
    (hfin : RegExt path (stateOf s0 R1).reg (stateOf t0 R2).reg) (rep1 : Rep s0 R1 s1) (rep2 : Rep t0 R2 s2)
    (t1 : Total s0 R1) (t2 : Total t0 R2) : RegExt path s1.reg s2.reg := by
  refine ⟨rep2.ps.trans (hx.reg.ps.trans rep1.ps.symm), ?_, ?_⟩
  · intro q hq
    rcases rep1.entries q with e | ⟨_, T, item, hg, rfl, e⟩
    · -- an entry of the abstract registry: its key is a key of `s0`, hence of `t0`
      have hc : (stateOf s0 R1).reg.contains q = true := by rw [Registry.contains, ← e]; exact hq
      have hc0 : s0.reg.contains q = true := by rw [contains_stateOf] at hc; exact hc
      have hct : t0.reg.contains q = true := by rw [Registry.contains, hx.reg.old q hc0]; exact hc0
      rw [rep_get_old rep2 hct, hfin.old q hc, e]
    · rw [rep_get_gen rep2 t2 ((gen_ext hne hx hf cs (gen_contains hg)).mpr hg), e]
  · intro q hq
    rcases rep2.entries q with e | ⟨_, T, item, hg, rfl, e⟩
    · have hc : (stateOf t0 R2).reg.contains q = true := by rw [Registry.contains, ← e]; exact hq
      refine (hfin.new q hc).imp_left fun h1 => rep_contains_old rep1 ?_
      rw [contains_stateOf] at h1
      exact h1
    · by_cases hT : s0.reg.contains T = true
      · exact .inl (contains_of_get (rep_get_gen rep1 t1 ((gen_ext hne hx hf cs hT).mp hg)))
      · -- a new owner is directly under `path`, and so is the path it generates
        rcases hx.reg.new T (gen_contains hg) with h1 | ⟨x, hx'⟩
        · exact absurd h1 hT
        · obtain ⟨name, _, e2⟩ := vftablePath_eq hg.path
          refine .inr ⟨PyxisVerif.Gen.fmtVftableType name, ?_⟩
          rw [e2, hx']
          simp

theorem btTail_regions {reg : Registry} {m : Mod} {path : Path} {doc : Option String} {ta : TypeAttrs}
    {regions : List Region} {vft : Option Vft} {size : Nat} {placed : List (Placed Region)} {v : Resolved}
    (h : btTail reg m path doc ta regions vft size placed = .ok v) : ∃ td, v.inner = .type td ∧ td.regions = regions := by
  unfold btTail at h
  simp only [] at h
  split at h
  · split at h
    · split at h
      · split at h
        · cases h; exact ⟨_, rfl, rfl⟩
        · exact absurd h (Res.cast_ne_ok _ _)
      · exact absurd h (Res.cast_ne_ok _ _)
    · exact absurd h (Res.cast_ne_ok _ _)
  · exact absurd h (Res.cast_ne_ok _ _)

theorem btV_inv {reg : Registry} {m : Mod} {path : Path} {vis : Vis} {d : G.TypeDef} {v : Resolved}
    (h : btV reg (some m) path vis d = .ok v) :
    ∃ doc ta sa regions vft size placed, foldStmts reg m.scope d = .ok sa ∧
      rrV reg (regAfter reg path vis sa.vfns) path ta.targetSize sa.pending sa.vfns
        = .ok (regions, vft, size, placed) ∧
      btTail (regAfter reg path vis sa.vfns) m path doc ta regions vft size placed = .ok v := by
  obtain ⟨doc, _, h⟩ := Res.bind_eq_ok.mp h
  obtain ⟨ta, _, h⟩ := Res.bind_eq_ok.mp h
  obtain ⟨sa, hsa, h⟩ := Res.bind_eq_ok.mp h
  obtain ⟨⟨regions, vft, size, placed⟩, hrr, h⟩ := Res.bind_eq_ok.mp h
  exact ⟨doc, ta, sa, regions, vft, size, placed, hsa, hrr, h⟩

theorem known_of_regAfter {Gs : List Path} (r : Registry) (owner : Path) (vis : Vis) (vfns : Option (List SFunc))
    (hg : ∀ item, genItem r owner vis vfns = some item → item.path ∈ Gs) (t : RTy)
    (hk : KnownR (regAfter r owner vis vfns) t) (ho : OutR Gs t) : KnownR r t := by
  unfold regAfter at hk
  cases hgi : genItem r owner vis vfns with
  | none => rw [hgi] at hk; exact hk
  | some item =>
    rw [hgi] at hk
    simp only [] at hk
    cases t with
    | fn cc args ret => trivial
    | data d =>
      intro q hq
      obtain ⟨i, res, hi, hres⟩ := hk q hq
      rw [C14.get_add, if_neg (fun (e : q = item.path) => ho q hq (by rw [e]; exact hg item hgi))] at hi
      exact ⟨i, res, hi, hres⟩

theorem attempt_done_knownV {s0 : State} (cs : Ctx s0) (R : Reg Path Resolved) (k : Path)
    (v : Resolved) (td : TypeDefn) (ha : attempt s0 R k = .done v) (hin : v.inner = .type td) :
    ∀ r ∈ td.regions, KnownR (stateOf s0 R).reg r.ty := by
  have hus : U8 (stateOf s0 R).reg := stateOf_u8 s0 R (u8_of_ok cs.ok.ok)
  obtain ⟨i0, d0, hi0, hpre, hst0⟩ := attempt_pending s0 R k (by rw [ha]; intro e; cases e)
  cases hinn : d0.inner with
  | enum ed =>
    rw [attempt_enum hi0 hpre hst0 hinn] at ha
    obtain ⟨e, _, he, _⟩ := C02.buildEnum_inv (stateOf s0 R) k ed v (toOut_done ha)
    rw [hin] at he
    cases he
  | type td0 =>
    obtain ⟨m, hm⟩ := cs.ok.ok.parents k i0 hi0 (by simp [hpre])
    rw [attempt_type hi0 hpre hst0 hinn, buildType_canon cs R hi0 hst0 hinn, hm] at ha
    obtain ⟨doc, ta, sa, regions, vft, size, placed, hsa, hrr, htail⟩ := btV_inv (toOut_done ha)
    obtain ⟨td', hin', rfl⟩ := btTail_regions htail
    rw [hin] at hin'
    cases hin'
    -- `rrV` answers with regions known in the registry AFTER the generated item was added; the regions do not
    -- mention a generated path, and that item sits at one
    have hpo : PendOut (genPaths s0) sa :=
      stmts_fold_pendOut cs.u8 _ _ (fun ist hist => cs.stmts hi0 hst0 hinn hm _
        (C01.mem_zipIdx_swap hist)) sa hsa
    have hgen : ∀ item, genItem (stateOf s0 R).reg k d0.vis sa.vfns = some item → item.path ∈ genPaths s0 := by
      intro item hitem
      have e1 : genOf (stateOf s0 R).reg (some m) k d0.vis td0 = some item := by
        simp only [genOf, vfnsOf, hsa]; exact hitem
      rw [genOf_keys s0.reg (stateOf s0 R).reg (contains_stateOf s0 R) rfl] at e1
      exact genOf_mem hi0 hst0 hinn e1
    intro r hr
    exact known_of_regAfter _ k d0.vis sa.vfns hgen r.ty
      (rrV_known (u8_regAfter _ k d0.vis sa.vfns hus) hrr r hr) (rrV_out cs.u8 hpo hrr r hr)

/-- **along a run every resolved type is settled from fuel "number of resolved entries" on**, with `vftable` blocks -/
theorem run_settledV {s0 : State} (cs : Ctx s0) (hflat : Flat s0)
    {R : Reg Path Resolved} (r : Run (attempt s0) R0 R) : AllSettled (stateOf s0 R).reg (cnt s0 R) := by
  induction r with
  | start =>
    intro p i res td hi hres hin
    rw [stateOf_R0] at hi ⊢
    exact (settled_flat s0.reg td (hflat p i hi res td (state_of_resolved hres) hin)).mono
      (ResLe.refl _) (Nat.zero_le _)
  | step R k v _ hk ha ih =>
    have hpend := attempt_pending s0 R k (by rw [ha]; intro e; cases e)
    have hle : ResLe (stateOf s0 R).reg (stateOf s0 (upd R k v)).reg :=
      ResLe.of_regLe (stateOf_le s0 R (upd R k v) (le_upd R k v hk))
    have hc := cnt_step s0 R k v hpend hk
    intro p i res td hi hres hin
    rw [get_stateOf] at hi
    by_cases hpk : p = k
    · subst hpk
      obtain ⟨i0, d0, hi0, _, hst0⟩ := hpend
      rw [hi0] at hi
      simp only [Option.map_some, Option.some.injEq] at hi
      rw [resItem_some (upd R p v) p i0 d0 v hst0 (by simp [upd])] at hi
      subst hi
      simp only [ItemDef.resolved?, Option.some.injEq] at hres
      subst hres
      exact (settled_step _ (cnt s0 R) td (attempt_done_knownV cs R p v td ha hin) ih).mono hle hc
    · rw [resItem_upd_ne' R k v p hpk, ← get_stateOf] at hi
      exact (ih p i res td hi hres hin).mono hle (by omega)

theorem genItem_noBase {reg : Registry} {owner : Path} {vis : Vis} {vfns : Option (List SFunc)} {item : ItemDef}
    {res : Resolved} {td : TypeDefn} (h : genItem reg owner vis vfns = some item) (hres : item.resolved? = some res)
    (hin : res.inner = .type td) : ∀ r ∈ td.regions, r.isBase = false := by
  unfold genItem at h
  cases vfns with
  | none => cases h
  | some fns =>
    simp only [Option.bind_some] at h
    unfold buildVftableItem at h
    obtain ⟨q, _, rfl⟩ := Option.map_eq_some_iff.mp h
    simp only [ItemDef.resolved?, Option.some.injEq] at hres
    subst hres
    simp only [SInner.type.injEq] at hin
    subst hin
    intro r hr
    obtain ⟨f, _, rfl⟩ := List.mem_map.mp hr
    rfl

theorem settled_noBase (reg : Registry) (n : Nat) (td : TypeDefn) (hb : ∀ r ∈ td.regions, r.isBase = false) :
    Settled reg n td := by
  refine ⟨fun _ => [], ?_⟩
  intro reg' _ m _ fp
  cases m with
  | zero => simp only [Emit.dfsHierarchy]
  | succ m => exact dfs_no_bases reg' m td fp hb

theorem rep_resLe {s0 : State} {R : Reg Path Resolved} {s : State} (rep : Rep s0 R s) :
    ResLe (stateOf s0 R).reg s.reg := by
  intro q i res hi hr
  refine ⟨i, ?_, hr⟩
  have hc : s0.reg.contains q = true := by rw [← contains_stateOf s0 R q]; exact contains_of_get hi
  rw [rep_get_old rep hc]
  exact hi

theorem rep_allSettled {s0 : State} {R : Reg Path Resolved} {s : State} (rep : Rep s0 R s) {n : Nat}
    (a : AllSettled (stateOf s0 R).reg n) : AllSettled s.reg n := by
  intro p i res td hi hres hin
  rcases rep.entries p with e | ⟨_, T, item, hg, hp, e⟩
  · rw [e] at hi
    exact (a p i res td hi hres hin).mono (rep_resLe rep) (Nat.le_refl n)
  · rw [e] at hi
    cases hi
    obtain ⟨i', d, td', _, _, _, _, h5⟩ := hg
    exact settled_noBase _ _ _ (genItem_noBase h5 hres hin)

theorem rep_length {s0 : State} {R : Reg Path Resolved} {s : State} (rep : Rep s0 R s)
    (hn0 : (C10.keys s0.reg).Nodup) : s0.reg.types.length ≤ s.reg.types.length := by
  have := C10.nodup_subset_length (C10.keys s0.reg) (C10.keys s.reg) hn0 (fun q hq =>
    (C10.contains_iff_mem_keys s.reg q).mp (rep_contains_old rep ((C10.contains_iff_mem_keys s0.reg q).mpr hq)))
  simpa [C10.keys] using this

theorem cnt_le_rep {s0 : State} {R : Reg Path Resolved} {s : State} (rep : Rep s0 R s)
    (hn0 : (C10.keys s0.reg).Nodup) : cnt s0 R ≤ s.reg.types.length := by
  have h1 := cnt_le s0 R
  have h2 : (stateOf s0 R).reg.types.length = s0.reg.types.length := by simp [stateOf]
  have h3 := rep_length rep hn0
  omega

theorem dpRep_under {s0 : State} {reg : Registry} {key : Path} {m0 : Mod} {dp : List Path}
    (h : DpRep s0 reg key m0 dp) (hd : ∀ p ∈ m0.defPaths, ∃ x, p = key ++ [x]) : ∀ p ∈ dp, ∃ x, p = key ++ [x] := by
  obtain ⟨L, h1, _, h3⟩ := h
  intro p hp
  rw [h1] at hp
  rcases List.mem_append.mp hp with hp | hp
  · exact parent_eq ((h3 p).mp hp).2.2.2
  · exact hd p hp

theorem dpRep_perm {path : Path} {s0 t0 : State} (hx : StExt path s0 t0) {r1 r2 : Registry}
    (hfin : RegExt path r1 r2) {key : Path} (hk : key ≠ path) {m0 : Mod} {dp1 dp2 : List Path}
    (h1 : DpRep s0 r1 key m0 dp1) (h2 : DpRep t0 r2 key m0 dp2) : dp2.Perm dp1 := by
  obtain ⟨L1, a1, b1, c1⟩ := h1
  obtain ⟨L2, a2, b2, c2⟩ := h2
  rw [a1, a2]
  refine List.Perm.append_right _ ?_
  rw [List.perm_ext_iff_of_nodup b2 b1]
  intro q
  rw [c1 q, c2 q]
  constructor
  · rintro ⟨x1, x2, x3, x4⟩
    obtain ⟨x, rfl⟩ := parent_eq x4
    have hnn := notNew_of_parent hk x
    exact ⟨x1, by rw [← hx.reg.get_notNew hnn]; exact x2, by rw [← hfin.contains_notNew hnn]; exact x3, x4⟩
  · rintro ⟨x1, x2, x3, x4⟩
    obtain ⟨x, rfl⟩ := parent_eq x4
    have hnn := notNew_of_parent hk x
    exact ⟨x1, by rw [hx.reg.get_notNew hnn]; exact x2, by rw [hfin.contains_notNew hnn]; exact x3, x4⟩

theorem resolveXVals_ext {path : Path} {s t : Registry} (h : RegExt path s t) (hne : path ≠ []) (m : Mod)
    (hs : GoodScope path m.scope) : resolveXVals t m = resolveXVals s m := by
  unfold resolveXVals
  rw [resolveTy_ext h hne hs]

theorem xvals_modules {path : Path} {s t : Registry} (h : RegExt path s t) (hne : path ≠ [])
    (mods : List (Path × Mod)) (hgs : ∀ e ∈ mods, GoodScope path e.2.scope) (M : Mod) (ms1 ms2 : List (Path × Mod))
    (h1 : Res.mapM' (xvStep s) mods = .ok ms1) (h2 : Res.mapM' (xvStep t) ((path, M) :: mods) = .ok ms2) :
    ∃ M', ms2 = (path, M') :: ms1 := by
  obtain ⟨b, bs', hb, hbs, rfl⟩ := Res.mapM'_cons_ok.mp h2
  have e : Res.mapM' (xvStep t) mods = Res.mapM' (xvStep s) mods := by
    apply mapM'_congr
    intro a ha
    unfold xvStep
    rw [resolveXVals_ext h hne a.2 (hgs a ha)]
  rw [e, h1] at hbs
  cases hbs
  obtain ⟨hb1, _⟩ := xvStep_inv t _ b hb
  obtain ⟨b1, b2⟩ := b
  simp only at hb1
  subst hb1
  exact ⟨b2, rfl⟩

theorem mapM'_xv_ok {reg : Registry} {f : Path → List Path} {l ms : List (Path × Mod)}
    (h : Res.mapM' (xvStep reg) (l.map fun e => (e.1, { e.2 with defPaths := f e.1 })) = .ok ms) :
    ∃ base, Res.mapM' (xvStep reg) l = .ok base ∧ ms = base.map fun e => (e.1, { e.2 with defPaths := f e.1 }) := by
  rw [mapM'_xv] at h
  split at h
  · next base hb => cases h; exact ⟨base, hb, rfl⟩
  all_goals cases h

/-- **frame, for states, with `vftable` blocks**: `t0` is `s0` plus a module `path` that no scope of `s0` mentions, nothing in
    either state mentions a generated name; when both builds succeed (under any two priorities), the final registries
    agree on everything that is not directly under `path` (`RegExt`: this covers the generated items of the old modules,
    which are there in both, and puts the generated items of the new module among the new entries), the final module
    list of `t0` is that of `s0` plus the new module up to the order of the definition paths, and every module of the
    old final state is printed identically from the new final state -/
theorem frame_statesV {path : Path} (hne : path ≠ []) {s0 t0 : State} (hx : StExt path s0 t0)
    (hf : FrameInv path s0) (cs : Ctx s0) (ct : Ctx t0) (hfs : Flat s0) (hft : Flat t0) (p1 p2 : List Path)
    (s s' : State) (h : s0.build p1 = .ok s) (h' : t0.build p2 = .ok s') :
    RegExt path s.reg s'.reg ∧
    ∃ (base : List (Path × Mod)) (f1 f2 : Path → List Path) (M' : Mod),
      s.modules = base.map (fun e => (e.1, { e.2 with defPaths := f1 e.1 })) ∧
      s'.modules = (path, M') :: base.map (fun e => (e.1, { e.2 with defPaths := f2 e.1 })) ∧
      (∀ e ∈ base, e.1 ≠ path) ∧
      base.map (·.1) = s0.modules.map (·.1) ∧
      (∀ e ∈ base, (f2 e.1).Perm (f1 e.1)) ∧
      (∀ e ∈ base, Emit.moduleFile s' e.1 { e.2 with defPaths := f2 e.1 }
        = Emit.moduleFile s e.1 { e.2 with defPaths := f1 e.1 }) := by
  obtain ⟨s1, ms1, l1, m1, rfl⟩ := State.build_ok_inv h
  obtain ⟨s2, ms2, l2, m2, rfl⟩ := State.build_ok_inv h'
  have hns := cs.ok.ok.reg.keys
  have hnt := ct.ok.ok.reg.keys
  have q1 := (sim_rep cs).loop p1 (2 * s0.nUnres + 2) R0 Run.start s0 (Rep.init cs) hns
  have q2 := (sim_rep ct).loop p2 (2 * t0.nUnres + 2) R0 Run.start t0 (Rep.init ct) hnt
  rw [l1] at q1
  rw [l2] at q2
  obtain ⟨R1, r1, rep1, n1, tot1⟩ := q1
  obtain ⟨R2, r2, rep2, n2, tot2⟩ := q2
  have hfin : RegExt path s1.reg s2.reg :=
    rep_regExt hne hx hf cs
      (final_regExt hx (attempt_monoV ct) r1 (run_transportV hne hx hf cs ct r1) r2 tot1 tot2) rep1 rep2 tot1 tot2
  have hwk2 : C20.WK s2.reg := C20.WK.resolveLoop p2 _ (fun q i hi => ct.ok.ok.reg.wellKeyed q i hi) l2
  -- the module lists: those of the initial states with other definition paths, through the extern-value pass
  obtain ⟨f1, hf1, hd1⟩ := rep1.mods
  obtain ⟨f2, hf2, hd2⟩ := rep2.mods
  obtain ⟨M, hM⟩ := hx.mods
  rw [← xvStep_eq, hf1] at m1
  rw [← xvStep_eq, hf2, hM] at m2
  obtain ⟨base, hb1, rfl⟩ := mapM'_xv_ok m1
  obtain ⟨base2, hb2, rfl⟩ := mapM'_xv_ok m2
  obtain ⟨M'', rfl⟩ := xvals_modules hfin hne s0.modules hf.scopes M base base2 hb1 hb2
  have hkeys : base.map (·.1) = s0.modules.map (·.1) := (CaseLift2.final_modules s1.reg s0.modules base hb1).1
  have hsrc : ∀ e ∈ base, ∃ e0 ∈ s0.modules, e0.1 = e.1 := fun e he =>
    List.mem_map.mp (hkeys ▸ List.mem_map_of_mem (f := (·.1)) he)
  have hperm : ∀ e ∈ base, (f2 e.1).Perm (f1 e.1) := by
    intro e he
    obtain ⟨e0, he0, hk⟩ := hsrc e he
    rw [← hk]
    exact dpRep_perm hx hfin (hf.nokey e0 he0) (hd1 e0 he0)
      (hd2 e0 (by rw [hM]; exact List.mem_cons_of_mem _ he0))
  have hkp : ∀ e ∈ base, e.1 ≠ path := by
    intro e he
    obtain ⟨e0, he0, hk⟩ := hsrc e he
    rw [← hk]
    exact hf.nokey e0 he0
  refine ⟨hfin, base, f1, f2, { M'' with defPaths := f2 path }, rfl, rfl, hkp, hkeys, hperm, ?_⟩
  intro e he
  have a1 : AllSettled s1.reg (cnt s0 R1) := rep_allSettled rep1 (run_settledV cs hfs r1)
  have a2 : AllSettled s2.reg (cnt t0 R2) := rep_allSettled rep2 (run_settledV ct hft r2)
  have hunder : ∀ p ∈ f1 e.1, ∃ x, p = e.1 ++ [x] := by
    obtain ⟨e0, he0, hk⟩ := hsrc e he
    rw [← hk]
    exact dpRep_under (hd1 e0 he0) (hf.defs e0 he0)
  refine (C20.reorder_definitions_lem _ e.1 { e.2 with defPaths := f1 e.1 } _ (hperm e he) hwk2 rfl).trans ?_
  apply module_file_lem
  · intro p hp
    obtain ⟨x, rfl⟩ := hunder p hp
    exact hfin.get_notNew (notNew_of_parent (hkp e he) x)
  · intro p _ i hi
    exact itemItems_settled (ResLe.of_regExt hfin) a1 a2 (cnt_le_rep rep1 hns) (cnt_le_rep rep2 hnt) p i hi
      (hfin.get_ext hi)

end PyxisVerif.C19
