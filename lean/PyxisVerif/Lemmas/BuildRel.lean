import PyxisVerif.Lemmas.Mono
import PyxisVerif.Lemmas.RelRes
/-!
# Two builds, related state by state

`Lemmas/Pipeline.lean` carries a predicate on one state along the stages of `pyxis::build`.  This file
carries a relation `R` between two states along the same stages: if `R` is kept by the two writes of an
attempt (`add_item` of a generated, resolved item and `setState`), and related states answer every read of
the builder alike (`BuildRel R`), then one attempt keeps `R` and gives the same answer on both sides
(`attemptItem_rel`), and so do a round, the resolution loop and `SemanticState::build` up to the
extern-value pass (`runRound_rel`, `resolveLoop_rel`, `State.build_rel`, `runFrom_rel`; `LoopRel R`).

What the builder reads:
* of the registry, the resolved information under a key, never the definition stored in an unresolved
  entry: `RegSim r r'`, under which every reader gives the same answer (`dsize_sim` … `resolveXVals_sim`);
* of the modules, the one stored under the parent of a path, and of it the scope and the `impl` blocks,
  never the order of its definition paths: `canonM`.

The stages are used through their equations (`buildType_btOf`, `resolveRegions_head` of `Lemmas/Build.lean`;
`attemptItem_of_unres`, `buildVftable_added` … of `Lemmas/Stages.lean`), so that no proof has to open them again.
-/
namespace PyxisVerif.C20
open Layout

/-- a step that gives a new state and an answer, on two sides: related states, the same answer -/
def StepRel {α} (R : State → State → Prop) (x y : State × Res α) : Prop := R x.1 y.1 ∧ y.2 = x.2

theorem StepRel.bindS {α β} {R : State → State → Prop} {x y : State × Res α} {k k' : State → α → Res β}
    (h : StepRel R x y) (hk : ∀ s s' a, R s s' → k' s' a = k s a) : StepRel R (bindS x k) (bindS y k') := by
  obtain ⟨s1, res⟩ := x
  obtain ⟨s1', res'⟩ := y
  obtain ⟨h1, h2⟩ := h
  simp only [] at h1 h2
  subst h2
  cases res' with
  | ok a => exact ⟨h1, hk s1 s1' a h1⟩
  | _ => exact ⟨h1, rfl⟩

theorem StepRel.liftS {α β} {R : State → State → Prop} {s s' : State} (h : R s s') (x : Res α)
    {k k' : α → State × Res β} (hk : ∀ a, StepRel R (k a) (k' a)) : StepRel R (liftS s x k) (liftS s' x k') := by
  cases x with
  | ok a => exact hk a
  | _ => exact ⟨h, rfl⟩

/-! ## registries that agree up to the definitions stored in unresolved entries -/

/-- an item with the definition stored in an unresolved entry erased -/
def eraseI (i : ItemDef) : ItemDef :=
  match i.state with
  | .unres _ => { i with state := .unres default }
  | .res _ => i

theorem eraseI_resolved (i : ItemDef) : (eraseI i).resolved? = i.resolved? := by
  unfold eraseI ItemDef.resolved?
  cases h : i.state <;> simp [h]

theorem eraseI_vis (i : ItemDef) : (eraseI i).vis = i.vis := by
  unfold eraseI; cases i.state <;> rfl
theorem eraseI_path (i : ItemDef) : (eraseI i).path = i.path := by
  unfold eraseI; cases i.state <;> rfl
theorem eraseI_cat (i : ItemDef) : (eraseI i).cat = i.cat := by
  unfold eraseI; cases i.state <;> rfl

theorem eraseI_idem (i : ItemDef) : eraseI (eraseI i) = eraseI i := by
  unfold eraseI; cases h : i.state <;> simp [h]

theorem eraseI_of_res {i : ItemDef} {r : Resolved} (hi : i.state = .res r) : eraseI i = i := by
  unfold eraseI; rw [hi]

/-- a resolved item is determined by its erasure -/
theorem eq_of_eraseI_res (i i' : ItemDef) (r : Resolved) (hi : i.state = .res r)
    (h : eraseI i' = eraseI i) : i' = i := by
  rw [eraseI_of_res hi] at h
  cases hs : i'.state with
  | res r' => rw [eraseI_of_res hs] at h; exact h
  | unres d =>
    have : (eraseI i').state = .unres default := by unfold eraseI; rw [hs]
    rw [h, hi] at this
    cases this

structure RegSim (r r' : Registry) : Prop where
  ps : r'.ps = r.ps
  len : r'.types.length = r.types.length
  get : ∀ q, (r'.get q).map eraseI = (r.get q).map eraseI

theorem RegSim.refl (r : Registry) : RegSim r r := ⟨rfl, rfl, fun _ => rfl⟩

theorem RegSim.symm {r r' : Registry} (h : RegSim r r') : RegSim r' r :=
  ⟨h.ps.symm, h.len.symm, fun q => (h.get q).symm⟩

theorem Option.map_eq_map_cases {α β} {f : α → β} {o o' : Option α} (h : o'.map f = o.map f) :
    (o = none ∧ o' = none) ∨ ∃ a a', o = some a ∧ o' = some a' ∧ f a' = f a := by
  cases o <;> cases o' <;> first
    | exact Or.inl ⟨rfl, rfl⟩
    | cases h
    | exact Or.inr ⟨_, _, rfl, rfl, Option.some.inj h⟩

theorem RegSim.get_cases {r r' : Registry} (h : RegSim r r') (q : Path) :
    (r.get q = none ∧ r'.get q = none) ∨
    ∃ i i', r.get q = some i ∧ r'.get q = some i' ∧ eraseI i' = eraseI i ∧ i'.resolved? = i.resolved? := by
  rcases Option.map_eq_map_cases (h.get q) with h0 | ⟨i, i', h1, h2, he⟩
  · exact Or.inl h0
  · exact Or.inr ⟨i, i', h1, h2, he, by rw [← eraseI_resolved i', he, eraseI_resolved]⟩

theorem RegSim.contains {r r' : Registry} (h : RegSim r r') (q : Path) : r'.contains q = r.contains q := by
  unfold Registry.contains
  rcases h.get_cases q with ⟨h1, h2⟩ | ⟨i, i', h1, h2, _⟩ <;> rw [h1, h2] <;> rfl

variable {r r' : Registry}

theorem RegSim.seen (h : RegSim r r') (q : Path) : r'.seen q = r.seen q := by
  rcases h.get_cases q with ⟨h1, h2⟩ | ⟨i, i', h1, h2, _, he⟩
  · simp only [Registry.seen, h1, h2, Option.map_none]
  · simp only [Registry.seen, h1, h2, Option.map_some, he]

section readers
open C09
variable (h : RegSim r r')
include h

theorem dsize_sim (t : DTy) : t.size r' = t.size r := (dsize_congr h.ps fun p _ => h.seen p).1

theorem dalign_sim (t : DTy) : t.align r' = t.align r := (dsize_congr h.ps fun p _ => h.seen p).2

theorem rsize_sim (t : RTy) : t.size r' = t.size r := (rsize_congr h.ps fun p _ => h.seen p).1

theorem toPField_sim : toPField r' = toPField r :=
  funext fun addr => funext fun _ => toPField_congr h.ps addr fun p _ => h.seen p

theorem regionNameAndTypeDef_sim (reg : Region) : regionNameAndTypeDef r' reg = regionNameAndTypeDef r reg :=
  regionNameAndTypeDef_congr fun p _ => h.seen p

theorem baseVftable_sim (fb : Option Region) : baseVftable r' fb = baseVftable r fb :=
  baseVftable_congr fb fun _ _ p _ => h.seen p

theorem injectBases_sim : injectBases r' = injectBases r :=
  funext fun regions => funext fun acc => injectBases_congr regions acc fun _ _ p _ => h.seen p

theorem checkDefaultable_sim : checkDefaultable r' = checkDefaultable r :=
  funext fun regions => checkDefaultable_congr regions fun _ _ p _ => h.seen p

end readers

theorem buildVftableItem_sim (h : RegSim r r') : buildVftableItem r' = buildVftableItem r := by
  funext owner vis fns
  simp only [buildVftableItem, h.ps]

theorem vftCheck_sim (h : RegSim r r') : C06.vftCheck r' = C06.vftCheck r := by
  funext fb fns p
  simp only [C06.vftCheck, baseVftable_sim h]

theorem resolveXVals_sim (h : RegSim r r') : resolveXVals r' = resolveXVals r := by
  funext m
  simp only [resolveXVals, Mono.resolveTy_fun r r' h.contains]

theorem xvalPass_sim (h : RegSim r r') : xvalPass r' = xvalPass r := by
  funext e
  simp only [xvalPass, resolveXVals_sim h]

theorem conflict_sim (h : RegSim r r') (item : ItemDef) (x : Resolved) (hx : item.state = .res x) :
    conflict r' item = conflict r item := by
  unfold conflict
  rcases h.get_cases item.path with ⟨h1, h2⟩ | ⟨i, i', h1, h2, he, _⟩
  · rw [h1, h2]
  · rw [h1, h2]
    -- a resolved item is stored on both sides or on neither
    have : i' = item ↔ i = item :=
      ⟨fun e => eq_of_eraseI_res item i x hx (by rw [← he, e]),
       fun e => eq_of_eraseI_res item i' x hx (by rw [he, e])⟩
    rw [Bool.eq_iff_iff, bne_iff_ne, bne_iff_ne]
    exact not_congr this

theorem buildVftableItem_res (reg : Registry) (owner : Path) (vis : Vis) (fns : List SFunc) (item : ItemDef)
    (h : buildVftableItem reg owner vis fns = some item) : ∃ x, item.state = .res x := by
  unfold buildVftableItem at h
  obtain ⟨q, _, rfl⟩ := Option.map_eq_some_iff.mp h
  exact ⟨_, rfl⟩

/-! ## what an attempt reads of a module -/

theorem sortPaths_perm (l l' : List Path) (h : l'.Perm l) : l'.mergeSort Path.le = l.mergeSort Path.le :=
  mergeSort_perm_eq Path.le ple_trans ple_total l' l h (fun a b _ _ h1 h2 => ple_antisymm a b h1 h2)

/-- a module with its definition paths in canonical (sorted) order -/
def canonM (m : Mod) : Mod := { m with defPaths := m.defPaths.mergeSort Path.le }

def canonE (e : Path × Mod) : Path × Mod := (e.1, canonM e.2)

theorem canonM_perm {m m' : Mod} (h : canonM m' = canonM m) : m'.defPaths.Perm m.defPaths := by
  have : m'.defPaths.mergeSort Path.le = m.defPaths.mergeSort Path.le := congrArg Mod.defPaths h
  exact ((List.mergeSort_perm m'.defPaths Path.le).symm.trans (this ▸ List.Perm.refl _)).trans
    (List.mergeSort_perm m.defPaths Path.le)

theorem canonM_rest {m m' : Mod} (h : canonM m' = canonM m) : m' = { m with defPaths := m'.defPaths } := by
  cases m; cases m'
  simp only [canonM, Mod.mk.injEq] at h ⊢
  obtain ⟨h1, h2, _, h4, h5, h6, h7⟩ := h
  exact ⟨h1, h2, trivial, h4, h5, h6, h7⟩

theorem canonM_scope {m m' : Mod} (h : canonM m' = canonM m) : m'.scope = m.scope := by
  rw [canonM_rest h]; rfl

theorem canonM_implFor {m m' : Mod} (h : canonM m' = canonM m) (p : Path) : m'.implFor p = m.implFor p := by
  rw [canonM_rest h]; rfl

/-- `R` relates states that every read of the builder cannot tell apart, and is kept by the two writes of an
    attempt: `add_item` of the generated (resolved) vftable item and `setState` of the attempted item -/
structure BuildRel (R : State → State → Prop) : Prop where
  sim : ∀ {s s'}, R s s' → RegSim s.reg s'.reg
  moduleFor : ∀ {s s'}, R s s' → ∀ q, (s'.moduleFor q).map canonM = (s.moduleFor q).map canonM
  addItem : ∀ {s s'} (i : ItemDef) (x : Resolved), R s s' → i.state = .res x →
    RelRes R (s.addItem i) (s'.addItem i)
  setState : ∀ {s s'} (q : Path) (x : Resolved), R s s' →
    R { s with reg := s.reg.setState q (.res x) } { s' with reg := s'.reg.setState q (.res x) }

theorem rrTail_sim {r r' : Registry} (h : RegSim r r') : rrTail r' = rrTail r := by
  funext pending target vft vregion
  simp only [rrTail, toPField_sim h, C09.nameRegions_congr (C09.paddingType_congr (h.contains _))]

section walk
variable {R : State → State → Prop} (hR : BuildRel R)
include hR

theorem BuildRel.moduleFor_cases {s s' : State} (h : R s s') (q : Path) :
    (s.moduleFor q = none ∧ s'.moduleFor q = none) ∨
    ∃ m m', s.moduleFor q = some m ∧ s'.moduleFor q = some m' ∧ m'.scope = m.scope ∧
      ∀ p, m'.implFor p = m.implFor p := by
  rcases Option.map_eq_map_cases (hR.moduleFor h q) with h0 | ⟨m, m', h1, h2, hm⟩
  · exact Or.inl h0
  · exact Or.inr ⟨m, m', h1, h2, canonM_scope hm, canonM_implFor hm⟩

theorem buildVftable_rel {s s' : State} (h : R s s') (owner : Path) (vis : Vis) (fb : Option Region)
    (vfns : Option (List SFunc)) :
    StepRel R (buildVftable s owner vis fb vfns) (buildVftable s' owner vis fb vfns) := by
  have hsim := hR.sim h
  cases vfns with
  | none =>
    simp only [buildVftable, baseVftable_sim hsim]
    exact ⟨h, rfl⟩
  | some fns =>
    have hi' : buildVftableItem s'.reg owner vis fns = buildVftableItem s.reg owner vis fns := by
      rw [buildVftableItem_sim hsim]
    cases hi : buildVftableItem s.reg owner vis fns with
    | none =>
      rw [buildVftable_none_item s owner vis fb fns hi, buildVftable_none_item s' owner vis fb fns (hi'.trans hi)]
      exact ⟨h, rfl⟩
    | some item =>
      obtain ⟨x, hx⟩ := buildVftableItem_res s.reg owner vis fns item hi
      have hcc := conflict_sim hsim item x hx
      cases hc : conflict s.reg item with
      | true =>
        rw [buildVftable_conflict s owner vis fb fns item hi hc,
            buildVftable_conflict s' owner vis fb fns item (hi'.trans hi) (hcc.trans hc)]
        exact ⟨h, rfl⟩
      | false =>
        rcases hR.addItem item x h hx with ⟨he, hn⟩ | ⟨a, b, h1, h2, hab⟩
        · rw [buildVftable_addfail s owner vis fb fns item hi hc (fun s1 hx => hn s1 hx),
              buildVftable_addfail s' owner vis fb fns item (hi'.trans hi) (hcc.trans hc)
                (fun s1 hx => hn s1 (he.trans hx)), he]
          exact ⟨h, rfl⟩
        · rw [buildVftable_added s a owner vis fb fns item hi hc h1,
              buildVftable_added s' b owner vis fb fns item (hi'.trans hi) (hcc.trans hc) h2,
              vftCheck_sim (hR.sim hab)]
          exact ⟨hab, rfl⟩

theorem resolveRegions_rel {s s' : State} (h : R s s') (owner : Path) (vis : Vis) (target : Option Nat)
    (pending : List (Option Nat × Region)) (vfns : Option (List SFunc)) :
    StepRel R (resolveRegions s owner vis target pending vfns) (resolveRegions s' owner vis target pending vfns) := by
  rw [resolveRegions_head, resolveRegions_head]
  refine StepRel.bindS ?_ (fun s1 s1' v h1 => by rw [rrTail_sim (hR.sim h1)])
  unfold rrHead baseGate
  simp only [rsize_sim (hR.sim h)]
  split
  · exact ⟨h, rfl⟩
  · exact ⟨h, rfl⟩
  · exact ⟨h, rfl⟩
  · exact ⟨h, rfl⟩
  · exact buildVftable_rel hR h owner vis _ vfns

theorem btAfter_rel {s1 s1' : State} (h : R s1 s1') (path : Path) (doc : Option String) (ta : TypeAttrs)
    (x : RROut) : btAfter s1' path doc ta x = btAfter s1 path doc ta x := by
  have hsim := hR.sim h
  unfold btAfter
  rcases hR.moduleFor_cases h path with ⟨h1, h2⟩ | ⟨m, m', h1, h2, hsc, him⟩
  · rw [h1, h2]
  · rw [h1, h2]
    simp only [injectBases_sim hsim, checkDefaultable_sim hsim,
      Mono.addImplFns_fun s1.reg s1'.reg hsim.contains, hsim.ps, hsc, him]

theorem buildType_rel {s s' : State} (h : R s s') (path : Path) (vis : Vis) (td : G.TypeDef) :
    StepRel R (buildType s path vis td) (buildType s' path vis td) := by
  have hsim := hR.sim h
  rw [buildType_btOf, buildType_btOf]
  unfold btOf
  rcases hR.moduleFor_cases h path with ⟨h1, h2⟩ | ⟨m, m', h1, h2, hsc, _⟩
  · rw [h1, h2]; exact ⟨h, rfl⟩
  · rw [h1, h2]
    simp only [hsc, stmtFold, Mono.stmtStep_fun s.reg s'.reg hsim.contains]
    cases G.docOf td.attrs with
    | none => exact ⟨h, rfl⟩
    | some doc =>
      refine StepRel.liftS h _ (fun ta => StepRel.liftS h _ (fun sa => ?_))
      exact StepRel.bindS (resolveRegions_rel hR h path vis ta.targetSize sa.pending sa.vfns)
        (fun s1 s1' x h1 => btAfter_rel hR h1 path doc ta x)

theorem buildEnum_rel {s s' : State} (h : R s s') (path : Path) (ed : G.EnumDef) :
    buildEnum s' path ed = buildEnum s path ed := by
  have hsim := hR.sim h
  unfold buildEnum
  rcases hR.moduleFor_cases h path with ⟨h1, h2⟩ | ⟨m, m', h1, h2, hsc, _⟩
  · rw [h1, h2]
  · rw [h1, h2]
    simp only [hsc, Mono.resolveTy_fun s.reg s'.reg hsim.contains, dsize_sim hsim, dalign_sim hsim]

theorem attemptDef_rel {s s' : State} (h : R s s') (q : Path) (d : G.Item) :
    StepRel R (attemptDef s q d) (attemptDef s' q d) := by
  unfold attemptDef
  cases d.inner with
  | type td => exact buildType_rel hR h q d.vis td
  | enum ed => exact ⟨h, buildEnum_rel hR h q ed⟩

theorem finishAttempt_rel (q : Path) {x x' : State × Res Resolved} (h : StepRel R x x') :
    StepRel R (finishAttempt q x) (finishAttempt q x') := by
  obtain ⟨s1, res⟩ := x
  obtain ⟨s1', res'⟩ := x'
  obtain ⟨h1, h2⟩ := h
  simp only [] at h1 h2
  subst h2
  cases res' with
  | ok r => exact ⟨hR.setState q r h1, rfl⟩
  | _ => exact ⟨h1, rfl⟩

/-- **one attempt keeps the relation and gives the same answer**, provided that, if the attempted entry
    holds different definitions on the two sides (`RegSim` allows it), they give the same attempt -/
theorem attemptItem_rel {s s' : State} (h : R s s') (q : Path)
    (hd : ∀ i i' d d', s.reg.get q = some i → s'.reg.get q = some i' → i.state = .unres d →
      i'.state = .unres d' → attemptDef s q d' = attemptDef s q d) :
    StepRel R (attemptItem s q) (attemptItem s' q) := by
  rcases (hR.sim h).get_cases q with ⟨h1, h2⟩ | ⟨i, i', h1, h2, he, hres⟩
  · rw [attemptItem_of_none h1, attemptItem_of_none h2]; exact ⟨h, rfl⟩
  · cases hst : i.state with
    | res x =>
      rw [attemptItem_of_res h1 hst, attemptItem_of_res h2 (eq_of_eraseI_res i i' x hst he ▸ hst)]
      exact ⟨h, rfl⟩
    | unres d =>
      cases hst' : i'.state with
      | res x' =>
        have := eq_of_eraseI_res i' i x' hst' he.symm
        rw [this, hst'] at hst
        cases hst
      | unres d' =>
        rw [attemptItem_of_unres h1 hst, attemptItem_of_unres h2 hst', ← hd i i' d d' h1 h2 hst hst']
        exact finishAttempt_rel hR q (attemptDef_rel hR h q d')

end walk

/-- `R` is kept by every attempt, with the same answer, and related states pass the same loop tests -/
structure LoopRel (R : State → State → Prop) : Prop where
  step : ∀ {s s'} (q : Path), R s s' → StepRel R (attemptItem s q) (attemptItem s' q)
  unresolved : ∀ {s s'}, R s s' → ∀ prio, s'.reg.unresolved prio = s.reg.unresolved prio
  length : ∀ {s s'}, R s s' → s'.reg.types.length = s.reg.types.length
  nUnres : ∀ {s s'}, R s s' → s'.nUnres = s.nUnres

/-- a `BuildRel` between states with the same entry under every key -/
theorem BuildRel.loopRel {R : State → State → Prop} (hR : BuildRel R)
    (hget : ∀ {s s'}, R s s' → ∀ q, s'.reg.get q = s.reg.get q)
    (hunres : ∀ {s s'}, R s s' → ∀ prio, s'.reg.unresolved prio = s.reg.unresolved prio)
    (hn : ∀ {s s'}, R s s' → s'.nUnres = s.nUnres) : LoopRel R where
  step q h := attemptItem_rel hR h q (fun i i' d d' h1 h2 hst hst' => by
    rw [hget h q, h1] at h2
    cases h2
    rw [hst] at hst'
    cases hst'
    rfl)
  unresolved := hunres
  length h := (hR.sim h).len
  nUnres := hn

section loop
variable {R : State → State → Prop} (hL : LoopRel R)
include hL

theorem runRound_rel (l : List Path) {s s' : State} (h : R s s') : StepRel R (runRound s l) (runRound s' l) := by
  induction l generalizing s s' with
  | nil => exact ⟨h, rfl⟩
  | cons q qs ih =>
    obtain ⟨h1, h2⟩ := hL.step q h
    rw [runRound_cons, runRound_cons]
    cases ha : attemptItem s q with
    | mk s2 r2 =>
      cases ha' : attemptItem s' q with
      | mk s2' r2' =>
        rw [ha, ha'] at h1 h2
        simp only [] at h1 h2
        subst h2
        cases r2' with
        | ok u => exact ih h1
        | _ => exact ⟨h1, rfl⟩

theorem resolveLoop_rel (prio : List Path) (fuel : Nat) {s s' : State} (h : R s s') :
    RelO R (resolveLoop prio fuel s) (resolveLoop prio fuel s') := by
  induction fuel generalizing s s' with
  | zero => exact trivial
  | succ n ih =>
    unfold resolveLoop
    simp only [hL.unresolved h]
    split
    · exact h
    · obtain ⟨h1, h2⟩ := runRound_rel hL (s.reg.unresolved prio) h
      cases hr : runRound s (s.reg.unresolved prio) with
      | mk s1 res =>
        cases hr' : runRound s' (s.reg.unresolved prio) with
        | mk s1' res' =>
          rw [hr, hr'] at h1 h2
          simp only [] at h1 h2
          subst h2
          cases res' with
          | ok u =>
            simp only [hL.unresolved h1, hL.length h, hL.length h1]
            split
            · rfl
            · exact ih h1
          | _ => rfl

/-- `SemanticState::build` of related states, up to the extern-value pass -/
theorem State.build_rel (prio : List Path) {s s' : State} (h : R s s') :
    ∃ o o', RelO R o o' ∧ s.build prio = buildFinish o ∧ s'.build prio = buildFinish o' :=
  ⟨_, _, resolveLoop_rel hL prio (2 * s.nUnres + 2) h, State.build_eq s prio, by
    rw [State.build_eq, hL.nUnres h]⟩

end loop

/-! ## along an accepted run

When the two attempts agree only because of what the run goes on to do (the value an item gets is the one
found in the final registry), the step hypothesis may use a property `Post` of the state the attempt leaves,
provided `Post` is closed backwards: it holds of the last state and is inherited by every earlier one. -/

theorem resolveLoop_ok_inv (prio : List Path) (n : Nat) (s sf : State) (h : resolveLoop prio (n + 1) s = .ok sf) :
    ((s.reg.unresolved prio).isEmpty = true ∧ sf = s) ∨
    ((s.reg.unresolved prio).isEmpty = false ∧ ∃ s1, runRound s (s.reg.unresolved prio) = (s1, .ok ()) ∧
      (s.reg.unresolved prio == s1.reg.unresolved prio && s.reg.types.length == s1.reg.types.length) = false ∧
      resolveLoop prio n s1 = .ok sf) := by
  unfold resolveLoop at h
  simp only [] at h
  by_cases he : (s.reg.unresolved prio).isEmpty = true
  · rw [if_pos he] at h
    cases h
    exact Or.inl ⟨he, rfl⟩
  · rw [if_neg he] at h
    right
    refine ⟨by simpa using he, ?_⟩
    cases hr : runRound s (s.reg.unresolved prio) with
    | mk s1 res =>
      rw [hr] at h
      cases res with
      | ok u =>
        simp only [] at h
        by_cases hc : (s.reg.unresolved prio == s1.reg.unresolved prio && s.reg.types.length == s1.reg.types.length) = true
        · rw [if_pos hc] at h; cases h
        · rw [if_neg hc] at h
          exact ⟨s1, rfl, by simpa using hc, h⟩
      | _ => cases h

section accepted
variable {Post : State → Prop} (back : ∀ s q, Post (attemptItem s q).1 → Post s)
include back

theorem runRound_back (l : List Path) (s : State) (h : Post (runRound s l).1) : Post s := by
  induction l generalizing s with
  | nil => exact h
  | cons q qs ih =>
    rw [runRound_cons] at h
    refine back s q ?_
    cases ha : attemptItem s q with
    | mk s2 r2 =>
      rw [ha] at h
      cases r2 with
      | ok u => exact ih s2 h
      | _ => exact h

theorem resolveLoop_back (prio : List Path) (fuel : Nat) {s sf : State} (h : resolveLoop prio fuel s = .ok sf)
    (hp : Post sf) : Post s := by
  induction fuel generalizing s with
  | zero => cases h
  | succ n ih =>
    rcases resolveLoop_ok_inv prio n s sf h with ⟨_, rfl⟩ | ⟨_, s1, hr, _, hl⟩
    · exact hp
    · exact runRound_back back _ s (by rw [hr]; exact ih hl)

variable {R : State → State → Prop}
  (step : ∀ {s s'} (q : Path), R s s' → (attemptItem s q).2 = .ok () → Post (attemptItem s q).1 →
    StepRel R (attemptItem s q) (attemptItem s' q))
include step

theorem runRound_rel_ok (l : List Path) {s s' s1 : State} (h : R s s') (hr : runRound s l = (s1, .ok ()))
    (hp : Post s1) : StepRel R (runRound s l) (runRound s' l) := by
  induction l generalizing s s' with
  | nil => exact ⟨h, rfl⟩
  | cons q qs ih =>
    rw [runRound_cons] at hr ⊢
    rw [runRound_cons]
    cases ha : attemptItem s q with
    | mk s2 r2 =>
      rw [ha] at hr
      cases r2 with
      | ok u =>
        simp only [] at hr ⊢
        have hp2 : Post s2 := runRound_back back qs s2 (by rw [hr]; exact hp)
        obtain ⟨h1, h2⟩ := step q h (by rw [ha]) (by rw [ha]; exact hp2)
        rw [ha] at h1 h2
        cases ha' : attemptItem s' q with
        | mk s2' r2' =>
          rw [ha'] at h1 h2
          simp only [] at h1 h2
          subst h2
          exact ih h1 hr
      | defer => cases hr
      | err m => cases hr
      | panic m => cases hr

theorem resolveLoop_rel_ok (unres : ∀ {s s'}, R s s' → ∀ prio, s'.reg.unresolved prio = s.reg.unresolved prio)
    (len : ∀ {s s'}, R s s' → s'.reg.types.length = s.reg.types.length)
    (prio : List Path) (fuel : Nat) {s s' sf : State} (h : R s s') (hl : resolveLoop prio fuel s = .ok sf)
    (hp : Post sf) : ∃ sf', resolveLoop prio fuel s' = .ok sf' ∧ R sf sf' := by
  induction fuel generalizing s s' with
  | zero => cases hl
  | succ n ih =>
    rcases resolveLoop_ok_inv prio n s sf hl with ⟨he, rfl⟩ | ⟨he, s1, hr, hc, hl1⟩
    · refine ⟨s', ?_, h⟩
      unfold resolveLoop
      simp only [unres h, he, if_true]
    · have hp1 : Post s1 := resolveLoop_back back prio n hl1 hp
      obtain ⟨h1, h2⟩ := runRound_rel_ok back step _ h hr hp1
      rw [hr] at h1 h2
      cases hr' : runRound s' (s.reg.unresolved prio) with
      | mk s1' res' =>
        rw [hr'] at h1 h2
        simp only [] at h1 h2
        subst h2
        obtain ⟨sf', e1, e2⟩ := ih h1 hl1
        refine ⟨sf', ?_, e2⟩
        unfold resolveLoop
        simp only [unres h, he, Bool.false_eq_true, if_false, hr', unres h1, len h, len h1, hc]
        exact e1

end accepted

/-- `Case.run`, from the outcome of `Case.initialState` -/
def runFrom (prio : List Path) : Res State → BuildOutcome
  | .ok s => s.build prio
  | .err m => .err m
  | .panic m => .panic m
  | .defer => .err "unreachable"

theorem Case.run_eq_runFrom (c : Case) : c.run = runFrom c.prio c.initialState := rfl

theorem runFrom_rel {R : State → State → Prop} (hL : LoopRel R) (prio : List Path) {x x' : Res State}
    (h : RelRes R x x') :
    ∃ o o', RelO R o o' ∧ runFrom prio x = buildFinish o ∧ runFrom prio x' = buildFinish o' :=
  h.ind (P := fun x x' => ∃ o o', RelO R o o' ∧ runFrom prio x = buildFinish o ∧ runFrom prio x' = buildFinish o')
    (fun _ _ hs => State.build_rel hL prio hs)
    ⟨.err "unreachable", .err "unreachable", rfl, rfl, rfl⟩ (fun m => ⟨.err m, .err m, rfl, rfl, rfl⟩)
    (fun m => ⟨.panic m, .panic m, rfl, rfl, rfl⟩)

/-- what holds of the finished builds of related accepted states, and of a failure against itself, holds of
    the finished builds of related outcomes -/
theorem RelO.finish {R : State → State → Prop} {Q : BuildOutcome → BuildOutcome → Prop}
    {o o' : BuildOutcome} (h : RelO R o o')
    (ok : ∀ s s', R s s' → Q (buildFinish (.ok s)) (buildFinish (.ok s')))
    (same : ∀ o, (∀ s, o ≠ .ok s) → Q o o) : Q (buildFinish o) (buildFinish o') :=
  h.ind (P := fun o o' => Q (buildFinish o) (buildFinish o')) ok
    (fun o ho => by rw [buildFinish_of_not_ok ho]; exact same o ho)

end PyxisVerif.C20
