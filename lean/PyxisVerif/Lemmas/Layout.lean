import PyxisVerif.Spec.C03
import PyxisVerif.Lemmas.C01
/-!
# The layout core (`Model/Layout.lean`) on a C03 description

`specRegs` / `specAll` give the region list of a `TypeSpec` in closed form; `place_spec` /
`resolve_spec` show that the executable placement loop produces exactly that list (or an error);
the remaining lemmas establish the properties of the closed form that the alignment block inspects.
-/
namespace PyxisVerif.Layout
open PyxisVerif.C03
open PyxisVerif.C01 (reg sumSizes_append sumSizes_reg lcmFrom)

theorem isPow2_iff (n : Nat) : isPow2 n = true ↔ ∃ k, n = 2 ^ k := by
  unfold isPow2
  constructor
  · intro h
    simp only [Bool.and_eq_true, bne_iff_ne, ne_eq, beq_iff_eq] at h
    exact ⟨n.log2, h.2.symm⟩
  · rintro ⟨k, rfl⟩
    simp [Nat.log2_two_pow]

/-- `x` succeeds with `v` when `P` holds and fails with an error, neither a deferral nor a panic, when not -/
def Decides {α} (P : Prop) (x : Res α) (v : α) : Prop := (P → x = .ok v) ∧ (¬ P → ∃ m, x = .err m)

theorem Decides.ok {α} {P : Prop} {v : α} (h : P) : Decides P (.ok v) v :=
  ⟨fun _ => rfl, fun hn => absurd h hn⟩

theorem Decides.err {α} {P : Prop} {m : String} {v : α} (hn : ¬ P) : Decides P (.err m) v :=
  ⟨fun h => absurd h hn, fun _ => ⟨m, rfl⟩⟩

/-- regions produced by the placement loop for fields `fs` numbered from `i`, starting at offset `e` -/
def specRegs : Nat → Nat → List FieldSpec → List (Placed Nat)
  | _, _, [] => []
  | e, i, f :: fs =>
    reg (fieldOffset e f - e) (some 1) true none ++
      (reg f.size (some f.align) f.isArray (some (i + 1)) ++
        specRegs (fieldOffset e f + f.size) (i + 1) fs)

def headRegs (ps : Nat) (t : TypeSpec) : List (Placed Nat) :=
  if t.vft then [⟨ps, some ps, some 0⟩] else []

def tailRegs (ps : Nat) (t : TypeSpec) : List (Placed Nat) :=
  reg (totalSize ps t - naturalEnd (start ps t) t.fields) (some 1) true none

def specAll (ps : Nat) (t : TypeSpec) : List (Placed Nat) :=
  headRegs ps t ++ (specRegs (start ps t) 0 t.fields ++ tailRegs ps t)

/-- the pending fields of `fs` numbered from `i` -/
def pf (i : Nat) (fs : List FieldSpec) : List (PField Nat) :=
  (fs.zipIdx i).map fun p => p.1.toPField (p.2 + 1)

theorem pfields_eq (t : TypeSpec) : pfields t = pf 0 t.fields := rfl

theorem pf_cons (i : Nat) (f : FieldSpec) (fs : List FieldSpec) :
    pf i (f :: fs) = f.toPField (i + 1) :: pf (i + 1) fs := rfl

theorem emitted_eq_false_iff (f : FieldSpec) : f.emitted = false ↔ (f.size = 0 ∧ f.isArray = true) := by
  unfold FieldSpec.emitted
  cases f.isArray <;> simp

theorem reg_field (f : FieldSpec) (al src : Option Nat) :
    reg f.size al f.isArray src = if f.emitted then [⟨f.size, al, src⟩] else [] := by
  unfold reg FieldSpec.emitted
  cases f.isArray <;> simp

/-- the sum in `C03.bound` (`Props/C03.lean`): a crude bound on where the fields end -/
def wt (fs : List FieldSpec) : Nat := (fs.map fun f => f.addr.getD 0 + f.size).sum

theorem wt_cons (f : FieldSpec) (fs : List FieldSpec) :
    wt (f :: fs) = f.addr.getD 0 + f.size + wt fs := by
  simp [wt]

theorem fieldOffset_le (e : Nat) (f : FieldSpec) : fieldOffset e f ≤ e + f.addr.getD 0 := by
  unfold fieldOffset
  cases f.addr <;> simp

theorem naturalEnd_le (e : Nat) (fs : List FieldSpec) : naturalEnd e fs ≤ e + wt fs := by
  induction fs generalizing e with
  | nil => simp [naturalEnd, wt]
  | cons f fs ih =>
    have h1 := ih (fieldOffset e f + f.size)
    have h2 := fieldOffset_le e f
    rw [wt_cons]
    simp only [naturalEnd]
    omega

/-! ## `push`, `place`, `resolve` compute the closed form -/

theorem push_ok (rs : List (Placed Nat)) (e s : Nat) (al : Option Nat) (arr : Bool) (src : Option Nat)
    (h : e + s ≤ usizeMax) :
    push (rs, e) (.ok (some s)) al arr src = .ok (rs ++ reg s al arr src, e + s) := by
  unfold push reg
  by_cases c : s = 0 ∧ arr = true
  · simp [c]
  · simp [c, h]

theorem nonOverlap_le (e : Nat) (f : FieldSpec) (fs : List FieldSpec) (h : NonOverlap e (f :: fs)) :
    e ≤ fieldOffset e f := by
  unfold fieldOffset
  cases ha : f.addr with
  | none => simp
  | some a => simpa using h.1 a ha

theorem sumSizes_specRegs (e i : Nat) (fs : List FieldSpec) (h : NonOverlap e fs) :
    sumSizes (specRegs e i fs) + e = naturalEnd e fs := by
  induction fs generalizing e i with
  | nil => simp [specRegs, naturalEnd, sumSizes]
  | cons f fs ih =>
    have := ih _ (i + 1) h.2
    have := nonOverlap_le e f fs h
    simp only [specRegs, naturalEnd, sumSizes_append, sumSizes_reg]
    omega

theorem nonOverlap_cons (e : Nat) (f : FieldSpec) (fs : List FieldSpec) :
    NonOverlap e (f :: fs) ↔ e ≤ fieldOffset e f ∧ NonOverlap (fieldOffset e f + f.size) fs := by
  refine and_congr_left' ⟨fun h => nonOverlap_le e f [] ⟨h, trivial⟩, fun h a ha => ?_⟩
  rwa [fieldOffset, ha] at h

/-- one iteration of the placement loop on a field of a description: padding up to its offset, then the field;
    an error if it would start before its predecessor ends -/
theorem place_cons (rs : List (Placed Nat)) (e i : Nat) (f : FieldSpec) (ps : List (PField Nat))
    (hb : e + (f.addr.getD 0 + f.size) ≤ usizeMax) :
    place (rs, e) (f.toPField (i + 1) :: ps) =
      if e ≤ fieldOffset e f then
        place (rs ++ (reg (fieldOffset e f - e) (some 1) true none ++
          reg f.size (some f.align) f.isArray (some (i + 1))), fieldOffset e f + f.size) ps
      else .err "attempted to insert padding, but overlapped with existing region" := by
  have hf : ∀ rs' o, o + f.size ≤ usizeMax → pushField (rs', o) (f.toPField (i + 1)) =
      .ok (rs' ++ reg f.size (some f.align) f.isArray (some (i + 1)), o + f.size) :=
    fun rs' o ho => push_ok rs' o f.size _ _ _ ho
  rw [place]
  cases ha : f.addr with
  | none =>
    rw [show (f.toPField (i + 1)).addr = none from ha]
    simp only [fieldOffset, ha, Option.getD_none, Nat.le_refl, if_true, Nat.sub_self]
    rw [hf rs e (by omega)]
    rfl
  | some a =>
    rw [show (f.toPField (i + 1)).addr = some a from ha]
    simp only [fieldOffset, ha, Option.getD_some] at hb ⊢
    by_cases hlt : a < e
    · rw [if_pos hlt, if_neg (by omega)]
    · have hp : pushPad (rs, e) (a - e) = .ok (rs ++ reg (a - e) (some 1) true none, e + (a - e)) :=
        push_ok rs e (a - e) (some 1) true none (by omega)
      rw [if_neg hlt, if_pos (by omega), hp]
      simp only
      rw [show e + (a - e) = a by omega, hf _ a (by omega), List.append_assoc]

theorem place_spec (rs : List (Placed Nat)) (e i : Nat) (fs : List FieldSpec)
    (hb : e + wt fs ≤ usizeMax) :
    Decides (NonOverlap e fs) (place (rs, e) (pf i fs)) (rs ++ specRegs e i fs, naturalEnd e fs) := by
  induction fs generalizing rs e i with
  | nil => simpa [pf, place, specRegs, naturalEnd, NonOverlap] using Decides.ok trivial
  | cons f fs ih =>
    rw [wt_cons] at hb
    rw [pf_cons, place_cons rs e i f _ (by omega), nonOverlap_cons]
    by_cases hle : e ≤ fieldOffset e f
    · have ih' := ih (rs ++ (reg (fieldOffset e f - e) (some 1) true none ++
        reg f.size (some f.align) f.isArray (some (i + 1)))) (fieldOffset e f + f.size) (i + 1)
        (by have := fieldOffset_le e f; omega)
      rw [List.append_assoc, List.append_assoc] at ih'
      rw [if_pos hle, specRegs, naturalEnd]
      exact ⟨fun h => ih'.1 h.2, fun h => ih'.2 fun h' => h ⟨hle, h'⟩⟩
    · rw [if_neg hle]
      exact .err fun h => hle h.1

/-- the checks of `resolve_regions`: no overlap, declared size not exceeded -/
def Pre (ps : Nat) (t : TypeSpec) : Prop :=
  NonOverlap (start ps t) t.fields ∧
    ∀ ts, t.size? = some ts → naturalEnd (start ps t) t.fields ≤ ts

theorem padTail_eq (rs : List (Placed Nat)) (e : Nat) (target : Option Nat) (h : target.getD 0 ≤ usizeMax) :
    padTail (rs, e) target =
      .ok (rs ++ reg (target.getD e - e) (some 1) true none, e + (target.getD e - e)) := by
  cases target with
  | none => simp [padTail, reg]
  | some ts =>
    simp only [padTail, Option.getD_some] at h ⊢
    by_cases c : e < ts
    · rw [if_pos c]
      exact push_ok rs e (ts - e) (some 1) true none (by omega)
    · rw [if_neg c, show ts - e = 0 by omega]
      simp [reg]

theorem head_push (ps : Nat) (t : TypeSpec) (hps : ps ≤ usizeMax) :
    C01.vpush (if t.vft then some (vptrField ps) else none) = .ok (headRegs ps t, start ps t) := by
  unfold headRegs start
  cases t.vft
  · rfl
  · have := push_ok [] 0 ps (some ps) false (some 0) (by omega)
    simpa [C01.vpush, pushField, vptrField, reg] using this

theorem sumSizes_headRegs (ps : Nat) (t : TypeSpec) : sumSizes (headRegs ps t) = start ps t := by
  unfold headRegs start
  cases t.vft <;> simp [sumSizes]

theorem resolve_spec (ps : Nat) (t : TypeSpec)
    (hsm : ps + wt t.fields + t.size?.getD 0 ≤ usizeMax) :
    Decides (Pre ps t) (resolve (if t.vft then some (vptrField ps) else none) (pfields t) t.size?)
      (specAll ps t, totalSize ps t) := by
  have h0 := head_push ps t (by omega)
  have hpl := place_spec (headRegs ps t) (start ps t) 0 t.fields
    (by unfold start; split <;> omega)
  rw [pfields_eq]
  by_cases hno : NonOverlap (start ps t) t.fields
  · rw [C01.resolve_of_steps h0 (hpl.1 hno) (padTail_eq _ _ t.size? (by omega)),
      show reg (t.size?.getD (naturalEnd (start ps t) t.fields) - naturalEnd (start ps t) t.fields)
        (some 1) true none = tailRegs ps t from rfl,
      List.append_assoc, ← specAll]
    have hsum : sumSizes (specAll ps t) = naturalEnd (start ps t) t.fields +
        (totalSize ps t - naturalEnd (start ps t) t.fields) := by
      rw [specAll, tailRegs, sumSizes_append, sumSizes_append, sumSizes_reg, sumSizes_headRegs,
        ← sumSizes_specRegs _ 0 _ hno]
      omega
    rw [hsum]
    unfold Pre totalSize
    cases hs : t.size? with
    | none => simpa [hno] using Decides.ok trivial
    | some ts =>
      simp only [Option.getD_some, Option.some.injEq, forall_eq']
      by_cases hle : naturalEnd (start ps t) t.fields ≤ ts
      · rw [show naturalEnd (start ps t) t.fields + (ts - naturalEnd (start ps t) t.fields) = ts by omega]
        simpa [hno, hle] using Decides.ok trivial
      · rw [if_pos (by omega)]
        exact .err fun h => hle h.2
  · obtain ⟨m, hm⟩ := hpl.2 hno
    rw [C01.resolve_of_place_err h0 hm]
    exact .err fun h => hno h.1

/-- an alignment pyxis can work with: a power of two whose `lcm` with another such fits `usize` -/
def PA (a : Nat) : Prop := ∃ k, k ≤ 63 ∧ a = 2 ^ k

/-- every region has an alignment, and it is such a power of two -/
def AllP (rs : List (Placed Nat)) : Prop := ∀ r ∈ rs, ∃ a, r.align = some a ∧ PA a

theorem PA_one : PA 1 := ⟨0, by omega, rfl⟩

theorem PA.pos {a : Nat} (h : PA a) : 0 < a := by
  obtain ⟨k, _, rfl⟩ := h
  exact Nat.two_pow_pos k

/-- the alignments of the scalar types, and both pointer widths -/
theorem PA.of_small {a : Nat} (h : a = 1 ∨ a = 2 ∨ a = 4 ∨ a = 8 ∨ a = 16) : PA a := by
  rcases h with rfl | rfl | rfl | rfl | rfl
  · exact ⟨0, by omega, rfl⟩
  · exact ⟨1, by omega, rfl⟩
  · exact ⟨2, by omega, rfl⟩
  · exact ⟨3, by omega, rfl⟩
  · exact ⟨4, by omega, rfl⟩

/-- of two powers of two one divides the other, so their `lcm` is the larger -/
theorem lcmStep_spec (acc x : Nat) (ha : PA acc) (hx : PA x) :
    ∃ m, lcmStep acc x = .ok m ∧ PA m ∧ ∀ A, m ≤ A ↔ acc ≤ A ∧ x ≤ A := by
  have ⟨k, hk, ek⟩ := ha
  have ⟨j, hj, ej⟩ := hx
  have bound : ∀ i, i ≤ 63 → 2 ^ i ≤ usizeMax := fun i hi =>
    Nat.le_trans (Nat.pow_le_pow_right (by decide) hi) (by decide)
  rcases Nat.le_total k j with hkj | hjk
  · have hd : acc ∣ x := ek ▸ ej ▸ Nat.pow_dvd_pow 2 hkj
    have hpos : 0 < acc := ek ▸ Nat.two_pow_pos k
    have := Nat.le_of_dvd (ej ▸ Nat.two_pow_pos j) hd
    exact ⟨x, C01.lcmStep_of_dvd hd hpos (ej ▸ bound j hj), hx, fun A => by omega⟩
  · have hd : x ∣ acc := ek ▸ ej ▸ Nat.pow_dvd_pow 2 hjk
    have hpos : 0 < x := ej ▸ Nat.two_pow_pos j
    have := Nat.le_of_dvd (ek ▸ Nat.two_pow_pos k) hd
    exact ⟨acc, C01.lcmStep_of_dvd' hd hpos (ek ▸ bound k hk), ha, fun A => by omega⟩

theorem lcmFrom_spec (acc : Nat) (rs : List (Placed Nat)) (hrs : AllP rs) (ha : PA acc) :
    ∃ m, lcmFrom acc rs = .ok m ∧ PA m ∧
      ∀ A, m ≤ A ↔ acc ≤ A ∧ ∀ r ∈ rs, ∀ a, r.align = some a → a ≤ A := by
  induction rs generalizing acc with
  | nil => exact ⟨acc, rfl, ha, by simp⟩
  | cons r rs ih =>
    obtain ⟨a, hra, hpa⟩ := hrs r (by simp)
    obtain ⟨m1, h1, hp1, hm1⟩ := lcmStep_spec acc a ha hpa
    obtain ⟨m, h2, hp2, hm2⟩ := ih m1 (fun r' hr' => hrs r' (by simp [hr'])) hp1
    refine ⟨m, ?_, hp2, ?_⟩
    · unfold lcmFrom Res.foldlM
      simp only [hra, h1]
      exact h2
    · intro A
      rw [hm2, hm1]
      simp only [List.mem_cons, forall_eq_or_imp, hra, Option.some.injEq, forall_eq']
      exact and_assoc

/-- the alignments of the non-padding regions -/
def real (rs : List (Placed Nat)) : List (Option Nat) := (rs.filter (·.src.isSome)).map (·.align)

/-- when the non-padding regions carry the alignments `as` and padding has alignment 1, the `lcm` of all
    alignments is the largest of `as` (and at least 1) -/
theorem lcmAll_of_real {rs : List (Placed Nat)} {as : List Nat} (hreal : real rs = as.map some)
    (hpad : ∀ r ∈ rs, r.src = none → r.align = some 1) (hpa : ∀ a ∈ as, PA a) :
    ∃ m, lcmAll rs = .ok m ∧ ∀ A, 1 ≤ A → (m ≤ A ↔ ∀ a ∈ as, a ≤ A) := by
  have h1 : ∀ r ∈ rs, ∃ a, r.align = some a ∧ (a = 1 ∨ a ∈ as) := fun r hr => by
    cases hs : r.src with
    | none => exact ⟨1, hpad r hr hs, Or.inl rfl⟩
    | some j =>
      have : r.align ∈ real rs := List.mem_map.mpr ⟨r, List.mem_filter.mpr ⟨hr, by simp [hs]⟩, rfl⟩
      rw [hreal] at this
      obtain ⟨a, ha, e⟩ := List.mem_map.mp this
      exact ⟨a, e.symm, Or.inr ha⟩
  have hall : AllP rs := fun r hr => by
    obtain ⟨a, e, rfl | h⟩ := h1 r hr
    · exact ⟨1, e, PA_one⟩
    · exact ⟨a, e, hpa a h⟩
  obtain ⟨m, hm, _, hmA⟩ := lcmFrom_spec 1 rs hall PA_one
  refine ⟨m, hm, fun A hA => ?_⟩
  rw [hmA]
  constructor
  · rintro ⟨_, h⟩ a ha
    have : some a ∈ real rs := hreal ▸ List.mem_map_of_mem ha
    obtain ⟨r, hr, e⟩ := List.mem_map.mp this
    exact h r (List.mem_filter.mp hr).1 a e
  · intro h
    refine ⟨hA, fun r hr a e => ?_⟩
    obtain ⟨a', e', rfl | h'⟩ := h1 r hr
    · rw [e'] at e; cases e; exact hA
    · rw [e'] at e; cases e; exact h _ h'

theorem fieldsAligned_reg (off s a : Nat) (arr : Bool) (src : Option Nat) (rest : List (Placed Nat))
    (ha : a ≠ 0) (hs : off + s ≤ usizeMax) :
    ((s = 0 ∧ arr = true) ∨ off % a = 0 →
      fieldsAligned off (reg s (some a) arr src ++ rest) = fieldsAligned (off + s) rest) ∧
    (¬ ((s = 0 ∧ arr = true) ∨ off % a = 0) →
      ∃ m, fieldsAligned off (reg s (some a) arr src ++ rest) = .err m) := by
  unfold reg
  by_cases c : s = 0 ∧ arr = true
  · simp [c]
  · have hs' : ¬ off + s > usizeMax := by omega
    by_cases hm : off % a = 0
    · simp [c, hm, fieldsAligned, ha, hs']
    · simp [c, hm, fieldsAligned, ha]

theorem fieldsAligned_pad (off n : Nat) (rest : List (Placed Nat)) (hs : off + n ≤ usizeMax) :
    fieldsAligned off (reg n (some 1) true none ++ rest) = fieldsAligned (off + n) rest :=
  (fieldsAligned_reg off n 1 true none rest (by decide) hs).1 (Or.inr (Nat.mod_one off))

theorem fieldsAligned_specRegs (e i : Nat) (fs : List FieldSpec) (tl : List (Placed Nat))
    (hal : ∀ f ∈ fs, PA f.align) (hno : NonOverlap e fs) (hb : e + wt fs ≤ usizeMax) :
    (FieldsDivisible e fs →
      fieldsAligned e (specRegs e i fs ++ tl) = fieldsAligned (naturalEnd e fs) tl) ∧
    (¬ FieldsDivisible e fs → ∃ m, fieldsAligned e (specRegs e i fs ++ tl) = .err m) := by
  induction fs generalizing e i with
  | nil => simp [specRegs, naturalEnd, FieldsDivisible]
  | cons f fs ih =>
    have hle := nonOverlap_le e f fs hno
    have hub := fieldOffset_le e f
    rw [wt_cons] at hb
    have hfa : f.align ≠ 0 := Nat.ne_of_gt (hal f (by simp)).pos
    have ih' := ih (fieldOffset e f + f.size) (i + 1) (fun g hg => hal g (by simp [hg])) hno.2
      (by omega)
    have g := fieldsAligned_reg (fieldOffset e f) f.size f.align f.isArray (some (i + 1))
      (specRegs (fieldOffset e f + f.size) (i + 1) fs ++ tl) hfa (by omega)
    simp only [specRegs, List.append_assoc, naturalEnd, FieldsDivisible, emitted_eq_false_iff]
    rw [fieldsAligned_pad _ _ _ (by omega), show e + (fieldOffset e f - e) = fieldOffset e f by omega]
    by_cases c : (f.size = 0 ∧ f.isArray = true) ∨ fieldOffset e f % f.align = 0
    · rw [g.1 c]
      exact ⟨fun h => ih'.1 h.2, fun h => ih'.2 fun h' => h ⟨c, h'⟩⟩
    · exact ⟨fun h => absurd h.1 c, fun _ => g.2 c⟩

theorem fieldsAligned_specAll (ps : Nat) (t : TypeSpec) (hps : PA ps)
    (hal : ∀ f ∈ t.fields, PA f.align) (hsm : ps + wt t.fields + t.size?.getD 0 ≤ usizeMax)
    (hpre : Pre ps t) :
    Decides (FieldsDivisible (start ps t) t.fields) (fieldsAligned 0 (specAll ps t)) () := by
  have hst : start ps t + wt t.fields ≤ usizeMax := by unfold start; split <;> omega
  have hhead : ∀ rest, fieldsAligned 0 (headRegs ps t ++ rest) = fieldsAligned (start ps t) rest := by
    intro rest
    unfold headRegs start
    cases t.vft
    · rfl
    · have h1 : ps ≠ 0 := Nat.ne_of_gt hps.pos
      have h2 : ¬ ps > usizeMax := by omega
      simp [fieldsAligned, h1, h2]
  have hts : naturalEnd (start ps t) t.fields ≤ totalSize ps t ∧ totalSize ps t ≤ usizeMax := by
    have := naturalEnd_le (start ps t) t.fields
    unfold totalSize
    cases hs : t.size? with
    | none => simp only [Option.getD_none]; omega
    | some ts => have := hpre.2 ts hs; simp only [hs, Option.getD_some] at hsm ⊢; omega
  have htail := fieldsAligned_pad (naturalEnd (start ps t) t.fields)
    (totalSize ps t - naturalEnd (start ps t) t.fields) [] (by omega)
  rw [List.append_nil] at htail
  have hmid := fieldsAligned_specRegs (start ps t) 0 t.fields (tailRegs ps t) hal hpre.1 hst
  rw [specAll, hhead]
  exact ⟨fun h => by rw [hmid.1 h, tailRegs, htail, fieldsAligned], hmid.2⟩

theorem real_append (a b : List (Placed Nat)) : real (a ++ b) = real a ++ real b := by
  simp [real]

theorem real_reg_none (s : Nat) (al : Option Nat) (arr : Bool) : real (reg s al arr none) = [] := by
  unfold reg real
  split <;> simp

theorem real_specRegs (e i : Nat) (fs : List FieldSpec) :
    real (specRegs e i fs) = ((fs.filter (·.emitted)).map (·.align)).map some := by
  induction fs generalizing e i with
  | nil => simp [specRegs, real]
  | cons f fs ih =>
    simp only [specRegs, real_append, real_reg_none, reg_field, ih, List.nil_append, List.filter_cons]
    cases f.emitted <;> simp [real]

theorem real_specAll (ps : Nat) (t : TypeSpec) :
    real (specAll ps t) = (emittedAligns ps t).map some := by
  unfold specAll tailRegs emittedAligns
  rw [real_append, real_append, real_reg_none, real_specRegs, List.append_nil, List.map_append]
  congr 1
  unfold headRegs
  cases t.vft <;> simp [real]

theorem pad_specRegs (e i : Nat) (fs : List FieldSpec) :
    ∀ r ∈ specRegs e i fs, r.src = none → r.align = some 1 := by
  induction fs generalizing e i with
  | nil => simp [specRegs]
  | cons f fs ih =>
    simp only [specRegs, List.mem_append, C01.mem_reg]
    rintro r (⟨_, rfl⟩ | ⟨_, rfl⟩ | hr) hs
    · rfl
    · cases hs
    · exact ih _ _ r hr hs

theorem pad_specAll (ps : Nat) (t : TypeSpec) :
    ∀ r ∈ specAll ps t, r.src = none → r.align = some 1 := by
  simp only [specAll, tailRegs, List.mem_append, C01.mem_reg]
  rintro r (hr | hr | ⟨_, rfl⟩) hs
  · unfold headRegs at hr
    split at hr
    · cases List.mem_singleton.mp hr
      cases hs
    · cases hr
  · exact pad_specRegs _ _ _ r hr hs
  · rfl

theorem length_pad (n : Nat) (al : Option Nat) (src : Option Nat) :
    (reg n al true src).length = if 0 < n then 1 else 0 := by
  cases n <;> simp [reg]

theorem length_specRegs (e i : Nat) (fs : List FieldSpec) :
    (specRegs e i fs).length = (fs.filter (·.emitted)).length + gapCount e fs := by
  induction fs generalizing e i with
  | nil => simp [specRegs, gapCount]
  | cons f fs ih =>
    simp only [specRegs, List.length_append, length_pad, reg_field, ih, gapCount, List.filter_cons,
      Nat.sub_pos_iff_lt]
    cases f.emitted <;> simp <;> omega

theorem length_specAll (ps : Nat) (t : TypeSpec) :
    (specAll ps t).length = regionCount ps t := by
  have h1 : (headRegs ps t).length = if t.vft then 1 else 0 := by
    unfold headRegs; cases t.vft <;> simp
  unfold specAll regionCount tailRegs
  simp only [List.length_append, h1, length_pad, Nat.sub_pos_iff_lt, length_specRegs]
  omega

/-! ## the minimum and the requested alignment of the closed form are the declarative ones -/

theorem lcmAll_specAll (ps : Nat) (t : TypeSpec) (hps : PA ps)
    (hal : ∀ f ∈ t.fields, PA f.align) :
    ∃ m, lcmAll (specAll ps t) = .ok m ∧
      ∀ A, 1 ≤ A → (m ≤ A ↔ ∀ a ∈ emittedAligns ps t, a ≤ A) := by
  refine lcmAll_of_real (real_specAll ps t) (pad_specAll ps t) fun a ha => ?_
  simp only [emittedAligns, List.mem_append, List.mem_map, List.mem_filter] at ha
  rcases ha with ha | ⟨f, ⟨hf, _⟩, rfl⟩
  · split at ha
    · cases List.mem_singleton.mp ha
      exact hps
    · cases ha
  · exact hal f hf

/-- the sole region of a one-region list is padding (alignment 1) or the one non-padding region -/
theorem requestedAlign_of_real (ps : Nat) {rs : List (Placed Nat)} {as : List Nat}
    (hreal : real rs = as.map some) (hpad : ∀ r ∈ rs, r.src = none → r.align = some 1) :
    requestedAlign ps none rs =
      if rs.length = 1 then (match (generalizing := false) as with | [a] => a | _ => 1) else ps := by
  match rs with
  | [] => rfl
  | _ :: _ :: _ => simp [requestedAlign]
  | [r] =>
    cases hs : r.src with
    | none =>
      have h1 : r.align = some 1 := hpad r (by simp) hs
      have h2 : as = [] := by simpa [real, hs] using hreal.symm
      simp [requestedAlign, h1, h2]
    | some j =>
      have h2 : as.map some = [r.align] := by simpa [real, hs] using hreal.symm
      cases as with
      | nil => simp at h2
      | cons a l =>
        simp only [List.map_cons, List.cons.injEq, List.map_eq_nil_iff] at h2
        obtain ⟨h2a, rfl⟩ := h2
        simp [requestedAlign, ← h2a]

theorem requestedAlign_specAll (ps : Nat) (t : TypeSpec) :
    requestedAlign ps t.align? (specAll ps t) = effAlign ps t := by
  unfold effAlign
  cases t.align? with
  | some a => rfl
  | none =>
    rw [requestedAlign_of_real ps (real_specAll ps t) (pad_specAll ps t), length_specAll]
    rfl

/-- the non-packed clauses of `Realisable` -/
def AlignOK (ps : Nat) (t : TypeSpec) : Prop :=
  FieldsDivisible (start ps t) t.fields
    ∧ IsPow2 (effAlign ps t)
    ∧ (∀ a ∈ emittedAligns ps t, a ≤ effAlign ps t)
    ∧ totalSize ps t % effAlign ps t = 0

/-- the checks in program order; the first one that fails refutes one clause of `AlignOK` -/
theorem alignCheck_unpacked (ps : Nat) (t : TypeSpec) (hps : PA ps)
    (hal : ∀ f ∈ t.fields, PA f.align) (hsm : ps + wt t.fields + t.size?.getD 0 ≤ usizeMax)
    (hpre : Pre ps t) :
    Decides (AlignOK ps t) (alignCheck ps false t.align? (specAll ps t) (totalSize ps t))
      (effAlign ps t) := by
  unfold alignCheck
  simp only [Bool.false_eq_true, if_false, requestedAlign_specAll ps t]
  by_cases h2 : isPow2 (effAlign ps t) = true
  case neg =>
    rw [if_pos (by simp [h2])]
    exact .err fun h => h2 ((isPow2_iff _).mpr h.2.1)
  have hA1 := C01.isPow2_pos _ h2
  obtain ⟨m, hm, hmA⟩ := lcmAll_specAll ps t hps hal
  have hfa := fieldsAligned_specAll ps t hps hal hsm hpre
  rw [if_neg (by simp [h2]), hm]
  simp only []
  by_cases hle : m ≤ effAlign ps t
  case neg =>
    rw [if_pos (by omega)]
    exact .err fun h => hle ((hmA _ hA1).mpr h.2.2.1)
  rw [if_neg (by omega)]
  by_cases hfd : FieldsDivisible (start ps t) t.fields
  case neg =>
    obtain ⟨e, he⟩ := hfa.2 hfd
    rw [he]
    exact .err fun h => hfd h.1
  rw [hfa.1 hfd]
  simp only []
  rw [if_neg (by omega)]
  by_cases hmod : totalSize ps t % effAlign ps t = 0
  · rw [if_neg (by simp [hmod])]
    exact .ok ⟨hfd, (isPow2_iff _).mp h2, (hmA _ hA1).mp hle, hmod⟩
  · rw [if_pos hmod]
    exact .err fun h => hmod h.2.2.2

theorem alignCheck_packed_none (ps : Nat) (rs : List (Placed Nat)) (s : Nat) :
    alignCheck ps true none rs s = .ok 1 := by
  simp [alignCheck]

theorem alignCheck_packed_some (ps a : Nat) (rs : List (Placed Nat)) (s : Nat) :
    alignCheck ps true (some a) rs s = .err "cannot specify both packed and align" := by
  simp [alignCheck]

theorem realisable_iff (ps : Nat) (t : TypeSpec) :
    Realisable ps t ↔ Pre ps t ∧ (if t.packed then t.align? = none else AlignOK ps t) := by
  unfold Realisable Pre AlignOK
  exact and_assoc.symm

/-- the verdict on a description whose alignments and pointer size are powers of two up to `2 ^ 63` and whose
    numbers add up within `usize`: the declared (or natural) size and the effective alignment when it is
    realisable, an error otherwise -/
theorem verdict_spec (ps : Nat) (t : TypeSpec) (hps : PA ps)
    (hal : ∀ f ∈ t.fields, PA f.align) (hsm : ps + wt t.fields + t.size?.getD 0 ≤ usizeMax) :
    Decides (Realisable ps t) (verdict ps t)
      (totalSize ps t, if t.packed then 1 else effAlign ps t) := by
  rw [realisable_iff]
  have hres := resolve_spec ps t hsm
  unfold verdict
  by_cases hpre : Pre ps t
  · rw [hres.1 hpre]
    simp only []
    cases hpk : t.packed with
    | true =>
      simp only [if_true]
      cases ha : t.align? with
      | none =>
        rw [alignCheck_packed_none]
        exact .ok ⟨hpre, rfl⟩
      | some a =>
        rw [alignCheck_packed_some]
        exact .err fun h => nomatch h.2
    | false =>
      simp only [Bool.false_eq_true, if_false]
      have hac := alignCheck_unpacked ps t hps hal hsm hpre
      by_cases hok : AlignOK ps t
      · rw [hac.1 hok]
        exact .ok ⟨hpre, hok⟩
      · obtain ⟨m, hm⟩ := hac.2 hok
        rw [hm]
        exact .err fun h => hok h.2
  · obtain ⟨m, hm⟩ := hres.2 hpre
    rw [hm]
    exact .err fun h => hpre h.1

theorem nonOverlapB_iff (e : Nat) (fs : List FieldSpec) : nonOverlapB e fs = true ↔ NonOverlap e fs := by
  induction fs generalizing e with
  | nil => simp [nonOverlapB, NonOverlap]
  | cons f fs ih =>
    simp only [nonOverlapB, NonOverlap, Bool.and_eq_true, ih]
    cases f.addr <;> simp

theorem fieldsDivisibleB_iff (e : Nat) (fs : List FieldSpec) :
    fieldsDivisibleB e fs = true ↔ FieldsDivisible e fs := by
  induction fs generalizing e with
  | nil => simp [fieldsDivisibleB, FieldsDivisible]
  | cons f fs ih =>
    simp only [fieldsDivisibleB, FieldsDivisible, Bool.and_eq_true, ih, Bool.or_eq_true, beq_iff_eq]

theorem realisableB_spec (ps : Nat) (t : TypeSpec) : realisableB ps t = true ↔ Realisable ps t := by
  unfold realisableB Realisable
  simp only [Bool.and_eq_true, nonOverlapB_iff, and_assoc]
  refine and_congr Iff.rfl (and_congr ?_ ?_)
  · cases t.size? <;> simp
  · cases t.packed
    · simp only [Bool.false_eq_true, if_false, Bool.and_eq_true, fieldsDivisibleB_iff, isPow2B,
        isPow2_iff, List.all_eq_true, decide_eq_true_eq, beq_iff_eq, IsPow2, and_assoc]
    · cases t.align? <;> simp

end PyxisVerif.Layout
