import PyxisVerif.Spec.C14
import PyxisVerif.Lemmas.Res
/-! `add_module` as three loops (`xvalStep`, `defStep`, `xtypeStep`); a fold of `add_item`s guarded by the "defined more
than once" test registers distinct names and changes only the `defPaths` of the stored modules (`fold_addItem`) -/
namespace PyxisVerif.C14
open Gen

theorem lookup_filter_ne {α β} [BEq α] [LawfulBEq α] (l : List (α × β)) (p q : α) (h : p ≠ q) :
    List.lookup p (l.filter (fun e => e.1 != q)) = List.lookup p l := by
  induction l with
  | nil => rfl
  | cons e l ih =>
    obtain ⟨k, v⟩ := e
    by_cases hk : k = q
    · subst hk
      have : (p == k) = false := by simpa using h
      simp [List.lookup_cons, this, ih]
    · have hk' : (k != q) = true := by simpa using hk
      simp only [List.filter_cons, hk', if_true, List.lookup_cons, ih]

theorem lookup_cons_ite {α β} [BEq α] [LawfulBEq α] [DecidableEq α] (a k : α) (v : β) (l : List (α × β)) :
    List.lookup a ((k, v) :: l) = if a = k then some v else List.lookup a l := by
  rw [List.lookup_cons]
  by_cases h : a = k
  · rw [if_pos h, beq_iff_eq.mpr h]
  · rw [if_neg h, beq_eq_false_iff_ne.mpr h]

theorem mem_of_lookup {α β} [BEq α] [LawfulBEq α] (l : List (α × β)) (p : α) (v : β)
    (h : List.lookup p l = some v) : (p, v) ∈ l := by
  induction l with
  | nil => simp at h
  | cons e l ih =>
    obtain ⟨k, w⟩ := e
    rw [List.lookup_cons] at h
    by_cases hk : p = k
    · subst hk; simp at h; subst h; exact List.mem_cons_self
    · have : (p == k) = false := by simpa using hk
      rw [this] at h
      exact List.mem_cons_of_mem _ (ih h)

theorem lookup_map_replace {α β} [BEq α] [LawfulBEq α] (l : List (α × β)) (p q : α) (v : β) :
    List.lookup p (l.map fun e => if e.1 == q then (e.1, v) else e)
      = if p == q then (List.lookup p l).map (fun _ => v) else List.lookup p l := by
  induction l with
  | nil => simp
  | cons e l ih =>
    obtain ⟨k, w⟩ := e
    by_cases hkq : k = q
    · subst hkq
      by_cases hp : p = k
      · subst hp; simp
      · have : (p == k) = false := by simpa using hp
        simp [List.lookup_cons, this, ih]
    · have hkq' : (k == q) = false := by simpa using hkq
      by_cases hp : p = k
      · subst hp; simp [hkq']
      · have : (p == k) = false := by simpa using hp
        simp [hkq', List.lookup_cons, this, ih]

theorem get_add (r : Registry) (i : ItemDef) (p : Path) :
    (r.add i).get p = if p = i.path then some i else r.get p := by
  unfold Registry.add Registry.get
  simp only [List.lookup_cons]
  by_cases h : p = i.path
  · subst h; simp
  · have : (p == i.path) = false := by simpa using h
    simp only [this, if_neg h]
    exact lookup_filter_ne _ _ _ h

theorem _root_.PyxisVerif.Registry.contains_eq_false {r : Registry} {p : Path} : r.contains p = false ↔ r.get p = none := by
  unfold Registry.contains
  cases r.get p <;> simp

theorem contains_add (r : Registry) (i : ItemDef) (p : Path) :
    (r.add i).contains p = true ↔ r.contains p = true ∨ p = i.path := by
  unfold Registry.contains
  rw [get_add]
  by_cases h : p = i.path <;> simp [h]

/-- `add_item`, with the module it changes: the one stored under the parent of the item's path -/
theorem addItem_inv (s s' : State) (i : ItemDef) (h : s.addItem i = .ok s') :
    ∃ parent m, Path.parent? i.path = some parent ∧ s.getModule parent = some m ∧
      s' = { modules := s.modules.map (fun e => if e.1 == parent then
                (e.1, { m with defPaths := if m.defPaths.contains i.path then m.defPaths else i.path :: m.defPaths }) else e),
             reg := s.reg.add i } := by
  unfold State.addItem at h
  split at h
  · cases h
  · next parent hp =>
    split at h
    · cases h
    · next m hm =>
      simp only [Res.ok.injEq] at h
      exact ⟨parent, m, hp, hm, h.symm⟩

theorem addItem_reg (s s' : State) (i : ItemDef) (h : s.addItem i = .ok s') : s'.reg = s.reg.add i := by
  obtain ⟨_, _, _, _, rfl⟩ := addItem_inv s s' i h
  rfl

theorem addItem_getModule (s s' : State) (i : ItemDef) (h : s.addItem i = .ok s') (p : Path) (m : Mod)
    (hm : s.getModule p = some m) : ∃ dp, s'.getModule p = some { m with defPaths := dp } := by
  obtain ⟨parent, m0, _, hm0, rfl⟩ := addItem_inv s s' i h
  unfold State.getModule at *
  simp only [lookup_map_replace]
  by_cases hp : p = parent
  · subst hp
    rw [hm] at hm0; cases hm0
    simp [hm]
  · have : (p == parent) = false := by simpa using hp
    simp only [this, hm]
    exact ⟨m.defPaths, rfl⟩

theorem defPaths_nodup_main (s s' : State) (i : ItemDef) (h : s.addItem i = .ok s')
    (hn : ∀ e ∈ s.modules, e.2.defPaths.Nodup) : ∀ e ∈ s'.modules, e.2.defPaths.Nodup := by
  obtain ⟨parent, m0, _, hm0, rfl⟩ := addItem_inv s s' i h
  intro e he
  simp only [List.mem_map] at he
  obtain ⟨e0, he0, rfl⟩ := he
  split
  · have h0 := hn _ (mem_of_lookup _ _ _ hm0)
    simp only at h0 ⊢
    split
    · exact h0
    · next hc =>
      simp only [List.contains_eq_mem, decide_eq_true_eq] at hc
      exact List.nodup_cons.mpr ⟨hc, h0⟩
  · exact hn _ he0

theorem fold_addItem {α} (f : State → α → Res State) (path : Path) (nm : α → String)
    (hf : ∀ s a s', f s a = .ok s' → s.reg.contains (path ++ [nm a]) = false ∧
      ∃ i, i.path = path ++ [nm a] ∧ s.addItem i = .ok s')
    (l : List α) (s s' : State) (h : Res.foldlM f s l = .ok s') :
    (∀ a ∈ l, s.reg.contains (path ++ [nm a]) = false) ∧ (l.map nm).Nodup ∧
    (∀ p, s'.reg.contains p = true ↔ s.reg.contains p = true ∨ ∃ a ∈ l, p = path ++ [nm a]) ∧
    (∀ p m, s.getModule p = some m → ∃ dp, s'.getModule p = some { m with defPaths := dp }) := by
  induction l generalizing s with
  | nil =>
    cases Res.foldlM_nil_ok.mp h
    exact ⟨nofun, .nil, by simp, fun p m hm => ⟨m.defPaths, hm⟩⟩
  | cons a as ih =>
    obtain ⟨s1, h1, h2⟩ := Res.foldlM_cons_ok.mp h
    obtain ⟨hnc, i, hip, hadd⟩ := hf s a s1 h1
    obtain ⟨ih1, ih2, ih3, ih4⟩ := ih s1 h2
    have hreg := addItem_reg s s1 i hadd
    have hc1 : ∀ p, s1.reg.contains p = true ↔ s.reg.contains p = true ∨ p = path ++ [nm a] := by
      intro p; rw [hreg, contains_add, hip]
    refine ⟨?_, ?_, ?_, ?_⟩
    · intro a' ha'
      rcases List.mem_cons.mp ha' with rfl | ha'
      · exact hnc
      · have := ih1 a' ha'
        cases hs : s.reg.contains (path ++ [nm a']) with
        | false => rfl
        | true => rw [(hc1 _).mpr (Or.inl hs)] at this; cases this
    · rw [List.map_cons, List.nodup_cons]
      refine ⟨?_, ih2⟩
      intro hmem
      obtain ⟨a', ha', hnm⟩ := List.mem_map.mp hmem
      have := ih1 a' ha'
      rw [hnm, (hc1 _).mpr (Or.inr rfl)] at this
      cases this
    · intro p
      rw [ih3, hc1]
      constructor
      · rintro ((h | h) | ⟨a', ha', h⟩)
        · exact Or.inl h
        · exact Or.inr ⟨a, List.mem_cons_self, h⟩
        · exact Or.inr ⟨a', List.mem_cons_of_mem _ ha', h⟩
      · rintro (hp | ⟨a', ha', hp⟩)
        · exact Or.inl (Or.inl hp)
        · rcases List.mem_cons.mp ha' with ha' | ha'
          · subst ha'; exact Or.inl (Or.inr hp)
          · exact Or.inr ⟨a', ha', hp⟩
    · intro p m hm
      obtain ⟨dp, hdp⟩ := addItem_getModule s s1 i hadd p m hm
      obtain ⟨dp', hdp'⟩ := ih4 p _ hdp
      exact ⟨dp', hdp'⟩

def defStep (path : Path) (s : State) (d : G.Item) : Res State :=
  if s.reg.contains (path ++ [d.name]) then .err "item is defined more than once"
  else s.addItem { vis := d.vis, path := path ++ [d.name], state := .unres d, cat := .defined }

def xtypeStep (path : Path) (s : State) (xt : String × List G.Attr) : Res State :=
  match Res.foldlM xtypeAttrStep {} xt.2 with
  | .ok xa =>
    match xa.size with
    | none => .err "failed to find `size` attribute for extern type"
    | some size =>
      match xa.align with
      | none => .err "failed to find `align` attribute for extern type"
      | some align =>
        if !Layout.isPow2 align then .err "alignment of extern type is not a power of two"
        else if s.reg.contains (path ++ [xt.1]) then .err "item is defined more than once"
        else
        s.addItem { vis := .pub, path := path ++ [xt.1],
                    state := .res { size, align, inner := .type {} }, cat := .extern }
  | e => e.cast

theorem defStep_ok_inv {path : Path} {s s' : State} {d : G.Item} (h : defStep path s d = .ok s') :
    s.reg.get (path ++ [d.name]) = none ∧
      s.addItem { vis := d.vis, path := path ++ [d.name], state := .unres d, cat := .defined } = .ok s' := by
  unfold defStep at h
  split at h
  · cases h
  · next hc => exact ⟨Registry.contains_eq_false.mp (Bool.eq_false_iff.mpr hc), h⟩

theorem xtypeStep_ok_inv {path : Path} {s s' : State} {xt : String × List G.Attr} (h : xtypeStep path s xt = .ok s') :
    ∃ xa size align, Res.foldlM xtypeAttrStep {} xt.2 = .ok xa ∧ xa.align = some align ∧
      Layout.isPow2 align = true ∧ s.reg.get (path ++ [xt.1]) = none ∧
      s.addItem { vis := .pub, path := path ++ [xt.1], state := .res { size, align, inner := .type {} },
                  cat := .extern } = .ok s' := by
  unfold xtypeStep at h
  split at h
  · next xa hxa =>
    split at h
    · cases h
    · next size _ =>
      split at h
      · cases h
      · next align hal =>
        split at h
        · cases h
        · next hpow =>
          split at h
          · cases h
          · next hc =>
            exact ⟨xa, size, align, hxa, hal, by simpa using hpow, Registry.contains_eq_false.mp (Bool.eq_false_iff.mpr hc), h⟩
  · exact (Res.cast_ne_ok _ _ h).elim

theorem defStep_spec (path : Path) (s : State) (d : G.Item) (s' : State) (h : defStep path s d = .ok s') :
    s.reg.contains (path ++ [d.name]) = false ∧ ∃ i, i.path = path ++ [d.name] ∧ s.addItem i = .ok s' :=
  have ⟨hfree, ha⟩ := defStep_ok_inv h
  ⟨Registry.contains_eq_false.mpr hfree, _, rfl, ha⟩

theorem xtypeStep_spec (path : Path) (s : State) (xt : String × List G.Attr) (s' : State)
    (h : xtypeStep path s xt = .ok s') :
    s.reg.contains (path ++ [xt.1]) = false ∧ ∃ i, i.path = path ++ [xt.1] ∧ s.addItem i = .ok s' :=
  have ⟨_, _, _, _, _, _, hfree, ha⟩ := xtypeStep_ok_inv h
  ⟨Registry.contains_eq_false.mpr hfree, _, rfl, ha⟩

def xvalStep (ev : G.XVal) : Res XValue :=
  match xvalAddress ev.attrs with
  | .ok none => Res.err "failed to find `address` attribute for extern value"
  | .ok (some a) => .ok ({ vis := ev.vis, name := ev.name, gty := ev.ty, ty := none, addr := a } : XValue)
  | e => e.cast

/-- the module `add_module` stores -/
def newMod (m : G.Module) (path : Path) (xvals : List XValue) (doc : Option String) : Mod :=
  { path, uses := m.uses, defPaths := [], xvals,
    impls := m.impls.map (fun f => (path ++ [f.name], f)),
    backends := m.backends.map (fun b => (b.name, { prologue := b.prologue, epilogue := b.epilogue })),
    doc }

theorem addModule_inv (s s' : State) (m : G.Module) (path : Path) (h : s.addModule m path = .ok s') :
    ∃ xvals doc s2, Res.mapM' xvalStep m.xvals = .ok xvals ∧
      Res.foldlM (defStep path) (s.putModule path (newMod m path xvals doc)) m.defs = .ok s2 ∧
      Res.foldlM (xtypeStep path) s2 m.xtypes = .ok s' := by
  unfold State.addModule at h
  split at h
  · next xvals hx =>
    split at h
    · cases h
    · next doc _ =>
      split at h
      · cases h
      · dsimp only at h
        split at h
        · next s2 h2 => exact ⟨xvals, doc, s2, hx, h2, h⟩
        · next e hne => exact (hne _ h).elim
  · exact (Res.cast_ne_ok _ _ h).elim

theorem addModule_ok_nodup (s s' : State) (m : G.Module) (path : Path) (h : s.addModule m path = .ok s') :
    (declaredNames m).Nodup := by
  obtain ⟨xvals, doc, s2, _, h1, h2⟩ := addModule_inv s s' m path h
  obtain ⟨_, nd1, c1, _⟩ := fold_addItem (defStep path) path (·.name) (defStep_spec path) _ _ _ h1
  obtain ⟨f2, nd2, _, _⟩ := fold_addItem (xtypeStep path) path (·.1) (xtypeStep_spec path) _ _ _ h2
  unfold declaredNames
  rw [List.nodup_append]
  refine ⟨nd1, nd2, ?_⟩
  intro a ha b hb hab
  obtain ⟨d, hd, rfl⟩ := List.mem_map.mp ha
  obtain ⟨xt, hxt, rfl⟩ := List.mem_map.mp hb
  have hf := f2 xt hxt
  have ht : s2.reg.contains (path ++ [xt.1]) = true := (c1 _).mpr (Or.inr ⟨d, hd, by rw [hab]⟩)
  rw [ht] at hf
  cases hf

theorem files_mem (s : State) (f : Sexp) (hf : f ∈ Emit.files s) :
    ∃ e ∈ s.modules, e.1 ≠ [] ∧ f = Emit.moduleFile s e.1 e.2 := by
  simp only [Emit.files, Emit.sortBy, List.mem_map, List.mem_mergeSort, List.mem_filter] at hf
  obtain ⟨e, ⟨he, hne⟩, rfl⟩ := hf
  refine ⟨e, he, ?_, rfl⟩
  intro h; simp [h] at hne

theorem relFile_eq (key : Path) : Emit.relFile key = specFile key := rfl

end PyxisVerif.C14
