import PyxisVerif.Spec.C20
/-!
# C20, per item: a description and its rewritten form give the same build

The placement loop one field at a time (`placeStep`, `place_cons`) and what each rewrite of the property leaves
unchanged: an explicit address equal to the natural offset, a gap against an address, `#[size]` equal to the natural
size, `#[index]` equal to the natural index, an enum value equal to the implicit one, the order of definitions.
`RR` compares two results of the loop up to the names of padding regions.  The ordering of the `pyxis_verif` hook is
an antisymmetric total order (`prioLe_*`), so two sorted lists with the same elements are equal (`mergeSort_perm_eq`).
-/
namespace PyxisVerif.C20
open Layout

theorem pushPad_zero {β} (st : St β) : pushPad st 0 = .ok st := by
  simp [pushPad, push]

def placeStep {β} (st : St β) (f : PField β) : Res (St β) :=
  match f.addr with
  | some a =>
    if a < st.2 then .err "attempted to insert padding, but overlapped with existing region"
    else Res.bind (pushPad st (a - st.2)) (fun st1 => pushField st1 f)
  | none => pushField st f

theorem place_cons {β} (st : St β) (f : PField β) (fs : List (PField β)) :
    place st (f :: fs) = Res.bind (placeStep st f) (fun st2 => place st2 fs) := by
  rw [place.eq_def]
  simp only [placeStep]
  cases f.addr with
  | none =>
    simp only
    cases pushField st f <;> rfl
  | some a =>
    simp only
    by_cases c : a < st.2
    · simp only [c, if_true]; rfl
    · simp only [c, if_false]
      cases pushPad st (a - st.2) with
      | ok st1 =>
        simp only [Res.bind]
        cases pushField st1 f <;> rfl
      | _ => rfl

theorem place_nil {β} (st : St β) : place st [] = .ok st := by
  rw [place.eq_def]

theorem place_append {β} (st : St β) (pre post : List (PField β)) :
    place st (pre ++ post) = Res.bind (place st pre) (fun st1 => place st1 post) := by
  induction pre generalizing st with
  | nil => simp [place_nil, Res.bind]
  | cons f pre ih =>
    simp only [List.cons_append, place_cons]
    cases placeStep st f with
    | ok st2 => simp only [Res.bind]; exact ih st2
    | _ => rfl

theorem placeStep_addr_irrel_none {β} (st : St β) (f : PField β) :
    placeStep st { f with addr := some st.2 } = placeStep st { f with addr := none } := by
  simp [placeStep, pushPad_zero, Res.bind, pushField]

theorem explicit_address_noop_lem {β} (st : St β) (f : PField β) (fs : List (PField β)) :
    place st ({ f with addr := some st.2 } :: fs) = place st ({ f with addr := none } :: fs) := by
  rw [place_cons, place_cons, placeStep_addr_irrel_none]

theorem explicit_address_noop_at_lem {β} (st st1 : St β) (pre : List (PField β)) (f : PField β)
    (post : List (PField β)) (h : place st pre = .ok st1) :
    place st (pre ++ { f with addr := some st1.2 } :: post) = place st (pre ++ { f with addr := none } :: post) := by
  rw [place_append, place_append, h]
  simp only [Res.bind]
  exact explicit_address_noop_lem st1 f post

/-- two placed regions that are equal, or a source gap `r` of `n` bytes against generated padding -/
def PR (r : Region) (n : Nat) (p q : Placed Region) : Prop :=
  p = q ∨ (p.src = some r ∧ q.src = none ∧ p.size = n ∧ q.size = n ∧ p.align = q.align)

inductive LR (r : Region) (n : Nat) : List (Placed Region) → List (Placed Region) → Prop
  | nil : LR r n [] []
  | cons {p q ps qs} : PR r n p q → LR r n ps qs → LR r n (p :: ps) (q :: qs)

theorem LR.refl (r : Region) (n : Nat) (l : List (Placed Region)) : LR r n l l := by
  induction l with
  | nil => exact .nil
  | cons p ps ih => exact .cons (.inl rfl) ih

theorem LR.append {r : Region} {n : Nat} {a b c d : List (Placed Region)}
    (h1 : LR r n a b) (h2 : LR r n c d) : LR r n (a ++ c) (b ++ d) := by
  induction h1 with
  | nil => exact h2
  | cons hp _ ih => exact .cons hp ih

theorem LR.length_eq {r : Region} {n : Nat} {a b : List (Placed Region)} (h : LR r n a b) :
    a.length = b.length := by
  induction h with
  | nil => rfl
  | cons _ _ ih => simp [ih]

theorem LR.map_eq {r : Region} {n : Nat} {a b : List (Placed Region)} (h : LR r n a b) :
    a.map (fun p => (p.size, p.align)) = b.map (fun p => (p.size, p.align)) := by
  induction h with
  | nil => rfl
  | cons hp _ ih =>
    simp only [List.map_cons, ih, List.cons.injEq, and_true]
    rcases hp with rfl | ⟨_, _, h1, h2, h3⟩
    · rfl
    · rw [h1, h2, h3]

theorem LR.get {r : Region} {n : Nat} {a b : List (Placed Region)} (h : LR r n a b) :
    ∀ k (h1 : k < a.length) (h2 : k < b.length), PR r n a[k] b[k] := by
  induction h with
  | nil => intro k h1; simp at h1
  | cons hp _ ih =>
    intro k h1 h2
    cases k with
    | zero => exact hp
    | succ k => simp only [List.getElem_cons_succ]; exact ih k _ _

def SR (r : Region) (n : Nat) (s t : St Region) : Prop := s.2 = t.2 ∧ LR r n s.1 t.1

def RR (r : Region) (n : Nat) : Res (St Region) → Res (St Region) → Prop
  | .ok a, .ok b => SR r n a b
  | .defer, .defer => True
  | .err m, .err m' => m = m'
  | .panic s, .panic s' => s = s'
  | _, _ => False

theorem RR.bind {r : Region} {n : Nat} {x y : Res (St Region)} {k1 k2 : St Region → Res (St Region)}
    (h : RR r n x y) (hk : ∀ a b, SR r n a b → RR r n (k1 a) (k2 b)) :
    RR r n (Res.bind x k1) (Res.bind y k2) := by
  cases x <;> cases y <;> simp only [RR] at h <;> simp only [Res.bind, RR]
  · exact hk _ _ h
  · exact h
  · exact h

theorem RR.isOk_eq {r : Region} {n : Nat} {x y : Res (St Region)} (h : RR r n x y) : x.isOk = y.isOk := by
  cases x <;> cases y <;> simp only [RR] at h <;> rfl

theorem RR.of_ok {r : Region} {n : Nat} {x y : Res (St Region)} {a b} (h : RR r n x y)
    (hx : x = .ok a) (hy : y = .ok b) : SR r n a b := by
  subst hx hy; exact h

theorem push_congr (r : Region) (n : Nat) (s t : St Region) (h : SR r n s t) (sz : Res (Option Nat))
    (al : Option Nat) (arr : Bool) (src : Option Region) :
    RR r n (push s sz al arr src) (push t sz al arr src) := by
  unfold push
  cases sz with
  | ok o =>
    cases o with
    | none => simp [RR]
    | some v =>
      simp only
      by_cases c : v = 0 ∧ arr = true
      · simp only [c, and_self, if_true, RR]; exact h
      · simp only [c, if_false, ← h.1]
        by_cases c2 : s.2 + v ≤ usizeMax
        · simp only [c2, if_true, RR]
          exact ⟨rfl, LR.append h.2 (LR.refl _ _ _)⟩
        · simp [c2, RR]
  | defer => simp [RR]
  | err m => simp [RR]
  | panic m => simp [RR]

theorem placeStep_congr (r : Region) (n : Nat) (s t : St Region) (h : SR r n s t) (f : PField Region) :
    RR r n (placeStep s f) (placeStep t f) := by
  unfold placeStep
  cases f.addr with
  | none => exact push_congr r n s t h _ _ _ _
  | some a =>
    simp only [← h.1]
    by_cases c : a < s.2
    · simp [c, RR]
    · simp only [c, if_false]
      exact RR.bind (push_congr r n s t h _ _ _ _) (fun a b hab => push_congr r n a b hab _ _ _ _)

theorem place_congr (r : Region) (n : Nat) (fs : List (PField Region)) (s t : St Region) (h : SR r n s t) :
    RR r n (place s fs) (place t fs) := by
  induction fs generalizing s t with
  | nil => simp only [place_nil, RR]; exact h
  | cons f fs ih =>
    rw [place_cons, place_cons]
    exact RR.bind (placeStep_congr r n s t h f) (fun a b hab => ih a b hab)

theorem gap_first_step (st : St Region) (r : Region) (n : Nat) :
    RR r n (pushField st (gapField r n)) (pushPad st n) := by
  unfold pushField pushPad gapField push
  simp only
  by_cases c : n = 0
  · simp only [c, and_self, if_true, RR]; exact ⟨rfl, LR.refl _ _ _⟩
  · simp only [c, false_and, if_false]
    by_cases c2 : st.2 + n ≤ usizeMax
    · simp only [c2, if_true, RR]
      exact ⟨rfl, LR.append (LR.refl _ _ _) (.cons (.inr ⟨rfl, rfl, rfl, rfl, rfl⟩) .nil)⟩
    · simp [c2, RR]

theorem gap_vs_address_RR (st : St Region) (r : Region) (n : Nat) (g : PField Region) (fs : List (PField Region))
    (hg : g.addr = none) :
    RR r n (place st (gapField r n :: g :: fs)) (place st ({ g with addr := some (st.2 + n) } :: fs)) := by
  have e1 : place st (gapField r n :: g :: fs)
      = Res.bind (pushField st (gapField r n)) (fun s => place s (g :: fs)) := by
    rw [place_cons]; rfl
  have e2 : place st ({ g with addr := some (st.2 + n) } :: fs)
      = Res.bind (pushPad st n) (fun s => place s (g :: fs)) := by
    rw [place_cons]
    have : placeStep st { g with addr := some (st.2 + n) }
        = Res.bind (pushPad st n) (fun s => placeStep s g) := by
      simp only [placeStep, hg]
      have h1 : ¬ (st.2 + n < st.2) := by omega
      have h2 : st.2 + n - st.2 = n := by omega
      simp only [h1, if_false, h2]
      rfl
    rw [this]
    cases pushPad st n with
    | ok s => simp only [Res.bind]; rw [place_cons]; rfl
    | _ => rfl
  rw [e1, e2]
  exact RR.bind (gap_first_step st r n) (fun a b hab => place_congr r n _ a b hab)

theorem push_sum {β} (st st' : St β) (sz : Res (Option Nat)) (al : Option Nat) (arr : Bool) (src : Option β)
    (hinv : sumSizes st.1 = st.2) (h : push st sz al arr src = .ok st') : sumSizes st'.1 = st'.2 := by
  unfold push at h
  split at h
  · cases h
  · split at h
    · cases h; exact hinv
    · split at h
      · cases h
        simp only [sumSizes, List.map_append, List.sum_append, List.map_cons, List.map_nil, List.sum_cons,
          List.sum_nil] at hinv ⊢
        omega
      · cases h
  all_goals cases h

theorem placeStep_sum {β} (st st' : St β) (f : PField β) (hinv : sumSizes st.1 = st.2)
    (h : placeStep st f = .ok st') : sumSizes st'.1 = st'.2 := by
  unfold placeStep at h
  split at h
  · split at h
    · cases h
    · cases h1 : pushPad st (_ - st.2) with
      | ok st1 =>
        rw [h1] at h
        exact push_sum st1 st' _ _ _ _ (push_sum st st1 _ _ _ _ hinv h1) h
      | _ => rw [h1] at h; cases h
  · exact push_sum st st' _ _ _ _ hinv h

theorem place_sum {β} (fs : List (PField β)) (st st' : St β) (hinv : sumSizes st.1 = st.2)
    (h : place st fs = .ok st') : sumSizes st'.1 = st'.2 := by
  induction fs generalizing st with
  | nil => rw [place_nil] at h; cases h; exact hinv
  | cons f fs ih =>
    rw [place_cons] at h
    cases h1 : placeStep st f with
    | ok st2 =>
      rw [h1] at h
      exact ih st2 (placeStep_sum st st2 f hinv h1) h
    | _ => rw [h1] at h; cases h

def resolveFrom {β} (start : Res (St β)) (fields : List (PField β)) (target : Option Nat) :
    Res (List (Placed β) × Nat) :=
  match start with
  | .ok st0 =>
    match place st0 fields with
    | .ok st1 =>
      match padTail st1 target with
      | .ok st2 =>
        let size := sumSizes st2.1
        match target with
        | some t => if size ≠ t then .err "calculated size does not match target size" else .ok (st2.1, size)
        | none => .ok (st2.1, size)
      | .defer => .defer
      | .err m => .err m
      | .panic s => .panic s
    | .defer => .defer
    | .err m => .err m
    | .panic s => .panic s
  | .defer => .defer
  | .err m => .err m
  | .panic s => .panic s

theorem resolve_eq {β} (vptr : Option (PField β)) (fields : List (PField β)) (target : Option Nat) :
    resolve vptr fields target
      = resolveFrom (match vptr with | some v => pushField ([], 0) v | none => .ok ([], 0)) fields target := rfl

theorem resolveFrom_natural {β} (start : Res (St β)) (fields : List (PField β))
    (hstart : ∀ st0, start = .ok st0 → sumSizes st0.1 = st0.2)
    (placed : List (Placed β)) (size : Nat) (h : resolveFrom start fields none = .ok (placed, size)) :
    resolveFrom start fields (some size) = .ok (placed, size) := by
  unfold resolveFrom at h ⊢
  cases start with
  | ok st0 =>
    simp only at h ⊢
    cases h1 : place st0 fields with
    | ok st1 =>
      rw [h1] at h
      simp only [padTail] at h
      cases h
      have j1 := place_sum fields st0 st1 (hstart st0 rfl) h1
      simp only [padTail, j1, Nat.lt_irrefl, if_false, ne_eq, not_true_eq_false]
    | _ => rw [h1] at h; cases h
  | _ => cases h

theorem natural_size_noop_lem {β} (vptr : Option (PField β)) (fields : List (PField β))
    (placed : List (Placed β)) (size : Nat) (h : resolve vptr fields none = .ok (placed, size)) :
    resolve vptr fields (some size) = .ok (placed, size) := by
  rw [resolve_eq] at h ⊢
  refine resolveFrom_natural _ fields ?_ placed size h
  intro st0 h0
  cases vptr with
  | none => cases h0; rfl
  | some v => exact push_sum ([], 0) st0 _ _ _ _ rfl h0

theorem foldlM_append {α β} (f : β → α → Res β) (b : β) (l l' : List α) :
    Res.foldlM f b (l ++ l') = Res.bind (Res.foldlM f b l) (fun b' => Res.foldlM f b' l') := by
  induction l generalizing b with
  | nil => rfl
  | cons a l ih =>
    simp only [List.cons_append, Res.foldlM]
    cases f b a with
    | ok b' => exact ih b'
    | _ => rfl

def idxStep (acc : Option Int) (a : G.Attr) : Option Int :=
  match a with | .fn "index" [.int i] => some i | _ => acc

def idxAttrStep (acc : Option Nat) (a : G.Attr) : Res (Option Nat) :=
  match a with
  | .fn "index" [.int i] => match tryUsize i with
    | some v => .ok (some v)
    | none => .err "failed to convert `index` attribute into usize"
  | _ => .ok acc

theorem indexAttr_eq (attrs : List G.Attr) : indexAttr attrs = Res.foldlM idxAttrStep none attrs := rfl
theorem declIndex_eq (f : G.Func) : C04.declIndex f = f.attrs.foldl idxStep none := rfl

theorem foldl_idxStep_some (l : List G.Attr) (v : Int) : (l.foldl idxStep (some v)).isSome = true := by
  induction l generalizing v with
  | nil => rfl
  | cons a l ih =>
    simp only [List.foldl_cons]
    unfold idxStep
    split
    · exact ih _
    · exact ih _

theorem idxAttr_none (l : List G.Attr) (h : l.foldl idxStep none = none) :
    Res.foldlM idxAttrStep none l = .ok none := by
  induction l with
  | nil => rfl
  | cons a l ih =>
    simp only [List.foldl_cons] at h
    simp only [Res.foldlM]
    revert h
    unfold idxStep idxAttrStep
    split
    · next i =>
      intro h
      have := foldl_idxStep_some l i
      unfold idxStep at this
      rw [h] at this
      cases this
    · intro h
      exact ih h

theorem indexAttr_none (f : G.Func) (hf : C04.declIndex f = none) : indexAttr f.attrs = .ok none := by
  rw [indexAttr_eq]
  exact idxAttr_none f.attrs (by rw [← declIndex_eq]; exact hf)

theorem tryUsize_nat (k : Nat) : tryUsize (k : Int) = some k := by
  simp [tryUsize]

theorem indexAttr_withIndex (f : G.Func) (k : Nat) (hf : C04.declIndex f = none) :
    indexAttr (withIndex f k).attrs = .ok (some k) := by
  have h := indexAttr_none f hf
  rw [indexAttr_eq] at h ⊢
  simp only [withIndex, foldlM_append, h, Res.bind, Res.foldlM, idxAttrStep, tryUsize_nat]

theorem makePadding_self (out : List SFunc) : makePadding out out.length = .ok out := by
  simp [makePadding]

def docStep (acc : Option (Option String)) (a : G.Attr) : Option (Option String) :=
  match acc with
  | none => none
  | some doc =>
    match a with
    | .assign "doc" (.str v) =>
      match doc with
      | none => some (some v)
      | some d => some (some (d ++ "\n" ++ v))
    | .assign "doc" _ => none
    | _ => some doc

theorem docOf_eq_fold (l : List G.Attr) : G.docOf l = l.foldl docStep (some none) := rfl

theorem docOf_append_fn (attrs : List G.Attr) (n : String) (args : List G.Expr) :
    G.docOf (attrs ++ [.fn n args]) = G.docOf attrs := by
  rw [docOf_eq_fold, docOf_eq_fold, List.foldl_append]
  cases attrs.foldl docStep (some none) <;> rfl

theorem docOf_withIndex (f : G.Func) (k : Nat) : G.docOf (withIndex f k).attrs = G.docOf f.attrs :=
  docOf_append_fn f.attrs _ _

theorem fnAttr_withIndex (f : G.Func) (k : Nat) (st : FnAttrSt) :
    Res.foldlM (fnAttrStep true) st (withIndex f k).attrs = Res.foldlM (fnAttrStep true) st f.attrs := by
  simp only [withIndex, foldlM_append]
  cases Res.foldlM (fnAttrStep true) st f.attrs with
  | ok st' => rfl  -- on a virtual function, `fnAttrStep` lets an `index` attribute pass
  | _ => rfl

theorem buildFunction_withIndex (reg : Registry) (scope : List Path) (f : G.Func) (k : Nat) :
    buildFunction reg scope true (withIndex f k) = buildFunction reg scope true f := by
  unfold buildFunction
  rw [docOf_withIndex, fnAttr_withIndex]
  rfl

theorem natural_index_noop_lem (reg : Registry) (scope : List Path) (out : List SFunc) (f : G.Func)
    (hf : C04.declIndex f = none) :
    slotStep reg scope out (withIndex f out.length) = slotStep reg scope out f := by
  unfold slotStep
  rw [indexAttr_withIndex f _ hf, indexAttr_none f hf, buildFunction_withIndex]
  simp only [Nat.lt_irrefl, if_false, makePadding_self]

theorem convertVfuncs_fold_lem (reg : Registry) (scope : List Path) (size : Option Nat) (fns : List G.Func) :
    convertVfuncs reg scope size fns =
      (match Res.foldlM (slotStep reg scope) [] fns with
       | .ok out => (match size with
          | some n => if n < out.length then .err "vftable is declared with a size smaller than the slots its functions occupy" else makePadding out n
          | none => .ok out)
       | e => e) := rfl

theorem implicit_enum_value_lem (range : Int × Int) (acc : EnumAcc) (st : G.EnumStmt) (v : Int)
    (hl : acc.last = some v) (he : st.expr = none) :
    enumStmtStep range acc { st with expr := some (.int v) } = enumStmtStep range acc st := by
  unfold enumStmtStep
  simp only [he, hl]

theorem str_eq_of_not_lt {x y : String} (c1 : ¬ x < y) (c2 : ¬ y < x) : x = y :=
  String.le_antisymm (String.not_lt.mp c2) (String.not_lt.mp c1)

theorem plt_asymm (a b : Path) (h : Path.lt a b = true) : Path.lt b a = false := by
  induction a generalizing b with
  | nil => cases b <;> simp [Path.lt] at h ⊢
  | cons x xs ih =>
    cases b with
    | nil => simp [Path.lt] at h
    | cons y ys =>
      simp only [Path.lt] at h ⊢
      by_cases c1 : x < y
      · have := String.lt_asymm c1
        simp [c1, this]
      · by_cases c2 : y < x
        · simp [c1, c2] at h
        · simp only [c1, c2, if_false] at h ⊢
          exact ih _ h

theorem plt_negtrans (a b c : Path) (h : Path.lt a c = true) : Path.lt a b = true ∨ Path.lt b c = true := by
  induction a generalizing b c with
  | nil =>
    cases c with
    | nil => simp [Path.lt] at h
    | cons z zs => cases b <;> simp [Path.lt]
  | cons x xs ih =>
    cases c with
    | nil => simp [Path.lt] at h
    | cons z zs =>
      cases b with
      | nil => simp [Path.lt]
      | cons y ys =>
        simp only [Path.lt] at h ⊢
        by_cases c1 : x < y
        · simp [c1]
        · by_cases c2 : y < x
          · right
            by_cases c3 : x < z
            · simp [String.lt_trans c2 c3]
            · by_cases c4 : z < x
              · simp [c3, c4] at h
              · have := str_eq_of_not_lt c3 c4
                subst this
                simp [c2]
          · have := str_eq_of_not_lt c1 c2
            subst this
            simp only [c1, if_false]
            by_cases c3 : x < z
            · simp [c3]
            · by_cases c4 : z < x
              · simp [c3, c4] at h
              · simp only [c3, c4, if_false] at h ⊢
                exact ih _ _ h

theorem plt_antisymm (a b : Path) (h1 : Path.lt a b = false) (h2 : Path.lt b a = false) : a = b := by
  induction a generalizing b with
  | nil => cases b <;> simp [Path.lt] at h1 ⊢
  | cons x xs ih =>
    cases b with
    | nil => simp [Path.lt] at h2
    | cons y ys =>
      simp only [Path.lt] at h1 h2
      by_cases c1 : x < y
      · simp [c1] at h1
      · by_cases c2 : y < x
        · simp [c2] at h2
        · simp only [c1, c2, if_false] at h1 h2
          rw [str_eq_of_not_lt c1 c2, ih _ h1 h2]

theorem ple_total (a b : Path) : (Path.le a b || Path.le b a) = true := by
  unfold Path.le
  cases h : Path.lt b a
  · rfl
  · simp [plt_asymm b a h]

theorem ple_trans (a b c : Path) (h1 : Path.le a b = true) (h2 : Path.le b c = true) : Path.le a c = true := by
  unfold Path.le at *
  cases h : Path.lt c a
  · rfl
  · rcases plt_negtrans c b a h with h' | h'
    · simp [h'] at h2
    · simp [h'] at h1

theorem ple_antisymm (a b : Path) (h1 : Path.le a b = true) (h2 : Path.le b a = true) : a = b := by
  unfold Path.le at *
  exact plt_antisymm a b (by simpa using h2) (by simpa using h1)

theorem prioLe_total (prio : List Path) (a b : Path) : (prioLe prio a b || prioLe prio b a) = true := by
  unfold prioLe
  simp only
  by_cases c1 : prioIndex prio a < prioIndex prio b
  · simp [c1]
  · by_cases c2 : prioIndex prio b < prioIndex prio a
    · simp [c2]
    · simp only [c1, c2, if_false]; exact ple_total a b

theorem prioLe_trans (prio : List Path) (a b c : Path) (h1 : prioLe prio a b = true) (h2 : prioLe prio b c = true) :
    prioLe prio a c = true := by
  unfold prioLe at *
  simp only at *
  by_cases c1 : prioIndex prio a < prioIndex prio b
  · by_cases c3 : prioIndex prio b < prioIndex prio c
    · have : prioIndex prio a < prioIndex prio c := by omega
      simp [this]
    · by_cases c4 : prioIndex prio c < prioIndex prio b
      · simp [c3, c4] at h2
      · have : prioIndex prio a < prioIndex prio c := by omega
        simp [this]
  · by_cases c2 : prioIndex prio b < prioIndex prio a
    · simp [c1, c2] at h1
    · simp only [c1, c2, if_false] at h1
      by_cases c3 : prioIndex prio b < prioIndex prio c
      · have : prioIndex prio a < prioIndex prio c := by omega
        simp [this]
      · by_cases c4 : prioIndex prio c < prioIndex prio b
        · simp [c3, c4] at h2
        · simp only [c3, c4, if_false] at h2
          have e1 : ¬ prioIndex prio a < prioIndex prio c := by omega
          have e2 : ¬ prioIndex prio c < prioIndex prio a := by omega
          simp only [e1, e2, if_false]
          exact ple_trans a b c h1 h2

theorem prioLe_antisymm (prio : List Path) (a b : Path) (h1 : prioLe prio a b = true) (h2 : prioLe prio b a = true) :
    a = b := by
  unfold prioLe at *
  simp only at *
  by_cases c1 : prioIndex prio a < prioIndex prio b
  · have : ¬ prioIndex prio b < prioIndex prio a := by omega
    simp [c1, this] at h2
  · by_cases c2 : prioIndex prio b < prioIndex prio a
    · simp [c1, c2] at h1
    · simp only [c1, c2, if_false] at h1 h2
      exact ple_antisymm a b h1 h2

theorem mergeSort_perm_eq {α} (le : α → α → Bool)
    (trans : ∀ (a b c : α), le a b = true → le b c = true → le a c = true)
    (total : ∀ (a b : α), (le a b || le b a) = true)
    (l1 l2 : List α) (hp : l1.Perm l2)
    (anti : ∀ a b, a ∈ l1 → b ∈ l1 → le a b = true → le b a = true → a = b) :
    l1.mergeSort le = l2.mergeSort le := by
  apply List.Perm.eq_of_pairwise (le := fun a b => le a b = true)
  · intro a b ha hb h1 h2
    rw [List.mem_mergeSort] at ha hb
    exact anti a b ha (hp.symm.subset hb) h1 h2
  · exact List.pairwise_mergeSort trans total l1
  · exact List.pairwise_mergeSort trans total l2
  · exact (List.mergeSort_perm l1 le).trans (hp.trans (List.mergeSort_perm l2 le).symm)

/-- a list of items, each of them the one a lookup finds under its own path, is determined up to order by its
    elements: sorted by path, two such lists with the same elements are equal -/
theorem sortBy_path_perm {l l' : List ItemDef} (hp : l'.Perm l) (get : Path → Option ItemDef)
    (hmem : ∀ x ∈ l', get x.path = some x) :
    Emit.sortBy (fun (a b : ItemDef) => Path.le a.path b.path) l'
      = Emit.sortBy (fun (a b : ItemDef) => Path.le a.path b.path) l := by
  unfold Emit.sortBy
  refine mergeSort_perm_eq _ (fun a b c => ple_trans a.path b.path c.path) (fun a b => ple_total a.path b.path)
    _ _ hp (fun a b ha hb h1 h2 => ?_)
  have ka := hmem a ha
  rw [ple_antisymm _ _ h1 h2, hmem b hb] at ka
  exact (Option.some.inj ka).symm

theorem defs_sorted_eq (s : State) (ps ps' : List Path) (hp : ps'.Perm ps)
    (hk : ∀ p i, s.reg.get p = some i → i.path = p) :
    Emit.sortBy (fun (a b : ItemDef) => Path.le a.path b.path) (ps'.filterMap s.reg.get)
      = Emit.sortBy (fun (a b : ItemDef) => Path.le a.path b.path) (ps.filterMap s.reg.get) := by
  refine sortBy_path_perm (hp.filterMap _) s.reg.get (fun x hx => ?_)
  obtain ⟨p, _, hp1⟩ := List.mem_filterMap.mp hx
  rw [hk p x hp1]
  exact hp1

theorem reorder_definitions_lem (s : State) (key : Path) (m m' : Mod)
    (hp : m'.defPaths.Perm m.defPaths)
    (hk : ∀ p i, s.reg.get p = some i → i.path = p)
    (hrest : m' = { m with defPaths := m'.defPaths }) :
    Emit.moduleFile s key m' = Emit.moduleFile s key m := by
  have h := defs_sorted_eq s m.defPaths m'.defPaths hp hk
  rw [hrest]
  unfold Emit.moduleFile
  simp only [Mod.backendsFor]
  rw [h]
  rfl

theorem unresolved_order_lem (r r' : Registry) (prio : List Path) (hp : r'.types.Perm r.types) :
    r'.unresolved prio = r.unresolved prio := by
  unfold Registry.unresolved
  apply mergeSort_perm_eq
  · exact prioLe_trans prio
  · exact prioLe_total prio
  · exact (hp.filter _).map _
  · intro a b _ _ h1 h2
    exact prioLe_antisymm prio a b h1 h2

end PyxisVerif.C20
