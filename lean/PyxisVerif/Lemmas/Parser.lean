import PyxisVerif.Model.Parser
import PyxisVerif.Model.Printer
/-!
# C18 – well-formedness, and parsing the printed tokens gives the module back

One lemma `pX_print` per parser function: on the tokens the printer writes for `x`, followed by a rest that does not
continue `x` (`TermFollow`, `ItemHead`, `StopAttrs`, `NoPub`: how a printed node begins), the parser returns `x` and the
rest.  The fuel hypothesis is on the remaining input (`(pr x ++ rest).length < f`), so a sub-call gets its fuel from the
suffix it reads (`fuel_tail`, `fuel_step`, `fuel_append`).
-/
namespace PyxisVerif
namespace C18
open Lex (K Delim Tok Pos)
open Parse (isKw atEnd R R0 ModItem)

/-- a plain ASCII identifier: what the lexer reads back as one `ident` token -/
def plainId (s : String) : Bool :=
  match s.toList with
  | c :: cs => Lex.isIdStart c && cs.all Lex.isIdCont
  | [] => false

/-- an identifier `syn::Ident` accepts: plain, not a keyword, not `_` -/
def idOk (s : String) : Bool := !isKw s && plainId s
/-- a name read by pyxis's own `Ident::parse`: `_` is allowed as well -/
def nameOk (s : String) : Bool := s == "_" || idOk s

def tyOk : G.Ty → Bool
  | .cptr t => tyOk t
  | .mptr t => tyOk t
  | .arr t n => tyOk t && decide (n < Parse.usizeMax)
  | .ident s => idOk s && s != "unknown"
  | .unk n => decide (n < Parse.usizeMax)

def exprOk : G.Expr → Bool
  | .int z => decide (-(Parse.isizeMax : Int) ≤ z) && decide (z < (Parse.isizeMax : Int))
  | .str _ => true
  | .ident s => idOk s

def attrOk : G.Attr → Bool
  | .ident n => nameOk n
  | .fn n args => nameOk n && args.all exprOk
  | .assign n e => nameOk n && exprOk e

def argOk : G.Arg → Bool
  | .named n t => idOk n && tyOk t
  | _ => true

def retOk : Option G.Ty → Bool
  | some t => tyOk t
  | none => true

def funcOk (f : G.Func) : Bool :=
  nameOk f.name && f.attrs.all attrOk && f.args.all argOk && retOk f.ret

def fieldOk : G.Field → Bool
  | .field v n t => nameOk n && (v == .pub || n != "vftable") && tyOk t
  | .vftable fns => fns.all funcOk

def stmtOk (s : G.Stmt) : Bool := s.attrs.all attrOk && fieldOk s.field

def optExprOk : Option G.Expr → Bool
  | some e => exprOk e
  | none => true

def enumStmtOk (s : G.EnumStmt) : Bool := nameOk s.name && optExprOk s.expr && s.attrs.all attrOk

def innerOk : G.Inner → Bool
  | .type d => d.attrs.all attrOk && d.stmts.all stmtOk
  | .enum d => d.attrs.all attrOk && tyOk d.ty && d.stmts.all enumStmtOk

def itemOk (i : G.Item) : Bool := nameOk i.name && innerOk i.inner

def implOk (i : G.Impl) : Bool := nameOk i.name && i.attrs.all attrOk && i.fns.all funcOk

def xtypeOk (x : String × List G.Attr) : Bool := idOk x.1 && x.2.all attrOk

def xvalOk (x : G.XVal) : Bool := nameOk x.name && tyOk x.ty && x.attrs.all attrOk

def optTrimmed : Option String → Bool
  | some s => Parse.trim s == s
  | none => true

def backendOk (b : G.Backend) : Bool := nameOk b.name && optTrimmed b.prologue && optTrimmed b.epilogue

def pathOk (p : Path) : Bool := p.all idOk

def wfB (m : G.Module) : Bool :=
  m.attrs.all attrOk && m.uses.all pathOk && m.xtypes.all xtypeOk && m.xvals.all xvalOk &&
  m.defs.all itemOk && m.impls.all implOk && m.backends.all backendOk

/-- what may follow a type without being swallowed by `parse_type_ident`'s greedy tail -/
def FollowTy : List K → Prop
  | .punct c _ :: _ => c ≠ '<' ∧ c ≠ '>'
  | .ident s :: _ => isKw s = true
  | _ => True

theorem identTail_stop (f : Nat) (acc : String) (rest : List K) (h : FollowTy rest) :
    Parse.identTail f acc rest = (acc, rest) := by
  cases f with
  | zero => rfl
  | succ f =>
    unfold Parse.identTail
    match rest, h with
    | [], _ => rfl
    | .punct c j :: r, h =>
      simp only [FollowTy] at h
      simp [h.1, h.2]
    | .ident s :: r, h =>
      simp only [FollowTy] at h
      simp [h]
    | .int _ :: _, _ | .str _ :: _, _ | .lit :: _, _ | .op _ :: _, _ | .cl _ :: _, _ => rfl

theorem idOk_kw {s : String} (h : idOk s = true) : isKw s = false := by
  simp [idOk] at h; exact h.1

/-- a keyword is recognised by its place in `kwList`: evaluating `isKw` would compare it with every
    keyword in front of it -/
theorem isKw_of_get {s : String} (i : Nat) (h : Parse.kwList[i]? = some s) : isKw s = true :=
  List.contains_iff_mem.2 (List.mem_of_getElem? h)

theorem nameOk_cases {s : String} (h : nameOk s = true) : s = "_" ∨ isKw s = false := by
  simp [nameOk] at h
  rcases h with h | h
  · left; exact h
  · right; exact idOk_kw h

theorem pIdent_name {s : String} (h : nameOk s = true) (r : List K) :
    Parse.pIdent (.ident s :: r) = .ok (s, r) := by
  rcases nameOk_cases h with h | h
  · subst h; simp [Parse.pIdent]
  · by_cases e : s = "_"
    · subst e; simp [Parse.pIdent]
    · simp [Parse.pIdent, e, h]

/-! Fuel: every `…_print` lemma asks for more fuel than tokens remain (`parseK` hands out the length
    of the whole input plus one), so a call on what is left of the input has enough. -/

theorem fuel_tail {k : K} {ts : List K} {f : Nat} (h : (k :: ts).length < f) : ts.length < f :=
  Nat.lt_of_succ_lt h

theorem fuel_step {k : K} {ts : List K} {f : Nat} (h : (k :: ts).length < f + 1) : ts.length < f :=
  Nat.lt_of_succ_lt_succ h

theorem fuel_append {pre ts : List K} {f : Nat} (h : (pre ++ ts).length < f) : ts.length < f := by
  rw [List.length_append] at h; omega

theorem pType_print (t : G.Ty) (h : tyOk t = true) (rest : List K) (hr : FollowTy rest) (f : Nat)
    (hf : (Print.pTy t ++ rest).length < f) (u : Option Nat) :
    Parse.pType f (Print.pTy t ++ rest) u = .ok (t, rest, u) := by
  induction f generalizing t rest with
  | zero => cases hf
  | succ f ih =>
    cases t with
    | ident s =>
      simp only [tyOk, Bool.and_eq_true, bne_iff_ne, ne_eq] at h
      simp [Print.pTy, Parse.pType, h.2, idOk_kw h.1, identTail_stop f s rest hr]
    | unk n =>
      simp only [tyOk, decide_eq_true_eq] at h
      simp [Print.pTy, Parse.pType, Parse.expectPunct, Parse.pUsize, Parse.pLitInt, h]
    | cptr t =>
      simp only [tyOk] at h
      simp [Print.pTy, Parse.pType, ih t h rest hr (fuel_tail (fuel_step hf))]
    | mptr t =>
      simp only [tyOk] at h
      simp [Print.pTy, Parse.pType, ih t h rest hr (fuel_tail (fuel_step hf))]
    | arr t n =>
      simp only [tyOk, Bool.and_eq_true, decide_eq_true_eq] at h
      simp only [Print.pTy, List.cons_append, List.append_assoc, List.nil_append] at hf ⊢
      have := ih t h.1 (.punct ';' false :: .int n :: .cl .bracket :: rest) (by simp [FollowTy])
        (fuel_step hf)
      simp [Parse.pType, this, Parse.expectPunct, Parse.pUsize, Parse.pLitInt, h.2,
        Parse.closeLeftover]

theorem pExpr_print (e : G.Expr) (h : exprOk e = true) (rest : List K) :
    Parse.pExpr (Print.pExpr e ++ rest) = .ok (e, rest) := by
  cases e with
  | ident s => simp only [exprOk] at h; simp [Print.pExpr, Parse.pExpr, idOk_kw h]
  | str s => simp [Print.pExpr, Parse.pExpr]
  | int z =>
    simp only [exprOk, Bool.and_eq_true, decide_eq_true_eq] at h
    by_cases hz : z < 0
    · have h1 : z.natAbs ≤ Parse.isizeMax := by omega
      have h2 : -(z.natAbs : Int) = z := by omega
      simp [Print.pExpr, hz, Parse.pExpr, Parse.pLitInt, h1, h2]
    · have h1 : z.toNat < Parse.isizeMax := by omega
      have h2 : (z.toNat : Int) = z := by omega
      simp [Print.pExpr, hz, Parse.pExpr, Parse.pLitInt, h1, h2]

/-- what follows an element of a terminated list: the separator or the end of the group -/
def TermFollow (sep : Char) (rest : List K) : Prop :=
  (∃ j r, rest = .punct sep j :: r) ∨ ∃ d r, rest = .cl d :: r

def Starts : List K → Prop
  | [] => False
  | .cl _ :: _ => False
  | _ => True

theorem atEnd_starts {ks : List K} (h : Starts ks) (rest : List K) : atEnd (ks ++ rest) = false := by
  match ks, h with
  | .ident _ :: _, _ | .int _ :: _, _ | .str _ :: _, _ | .lit :: _, _ | .punct _ _ :: _, _
  | .op _ :: _, _ => rfl

/-- the loop has fuel `f` for what remains; its element parser is fixed and does its job on any input
    shorter than `F` -/
theorem pTerm_print {α : Type} (p : List K → Option Nat → R α) (pr : α → List K) (sep : Char)
    (tr : Bool) (xs : List α) (d : Delim) (rest : List K) (u : Option Nat) (F : Nat)
    (hp : ∀ x ∈ xs, ∀ rest', TermFollow sep rest' → (pr x ++ rest').length < F →
      p (pr x ++ rest') u = .ok (x, rest', u))
    (hs : ∀ x ∈ xs, Starts (pr x))
    (f : Nat) (hf : (Print.pTerm pr sep tr xs ++ .cl d :: rest).length < f) (hF : f ≤ F) :
    Parse.pTerm p sep f (Print.pTerm pr sep tr xs ++ .cl d :: rest) u
      = .ok (xs, .cl d :: rest, u) := by
  induction xs generalizing f with
  | nil =>
    obtain ⟨f, rfl⟩ := Nat.exists_eq_add_one_of_ne_zero (Nat.ne_zero_of_lt hf)
    simp [Print.pTerm, Parse.pTerm, atEnd]
  | cons x xs ih =>
    obtain ⟨f, rfl⟩ := Nat.exists_eq_add_one_of_ne_zero (Nat.ne_zero_of_lt hf)
    have hx := fun rest' hr hl => hp x (by simp) rest' hr (Nat.lt_of_lt_of_le hl hF)
    have sx := hs x (by simp)
    cases xs with
    | nil =>
      cases tr with
      | false =>
        simp only [Print.pTerm, Bool.false_eq_true, if_false, List.append_nil] at hf ⊢
        unfold Parse.pTerm
        rw [atEnd_starts sx, hx _ (Or.inr ⟨_, _, rfl⟩) hf]
        simp [atEnd]
      | true =>
        simp only [Print.pTerm, if_true, List.append_assoc, List.singleton_append] at hf ⊢
        unfold Parse.pTerm
        rw [atEnd_starts sx, hx _ (Or.inl ⟨_, _, rfl⟩) hf]
        obtain ⟨f, rfl⟩ := Nat.exists_eq_add_one_of_ne_zero
          (Nat.ne_zero_of_lt (fuel_step (fuel_append hf)))
        simp [atEnd, Parse.expectPunct, Parse.pTerm]
    | cons y ys =>
      simp only [Print.pTerm, List.append_assoc, List.cons_append] at hf ih ⊢
      unfold Parse.pTerm
      rw [atEnd_starts sx, hx _ (Or.inl ⟨_, _, rfl⟩) hf]
      simp only [atEnd, Bool.false_eq_true, if_false, Parse.expectPunct, if_true]
      rw [ih (fun z hz => hp z (by simp [hz])) (fun z hz => hs z (by simp [hz])) f
        (fuel_step (fuel_append hf)) (Nat.le_of_succ_le hF)]

theorem pGroup_print {α : Type} (p : Nat → List K → Option Nat → R α) (pr : α → List K) (sep : Char)
    (tr : Bool) (xs : List α) (d : Delim) (rest : List K) (u : Option Nat)
    (f : Nat) (hf : (Print.pGroup d pr sep tr xs ++ rest).length < f)
    (hp : ∀ x ∈ xs, ∀ rest', TermFollow sep rest' → (pr x ++ rest').length < f →
      p f (pr x ++ rest') u = .ok (x, rest', u))
    (hs : ∀ x ∈ xs, Starts (pr x)) :
    Parse.pGroup d (p f) sep f (Print.pGroup d pr sep tr xs ++ rest) u = .ok (xs, rest, u) := by
  simp only [Print.pGroup, List.cons_append, List.append_assoc, List.nil_append] at hf ⊢
  simp only [Parse.pGroup, Parse.expectOpen, if_true]
  rw [pTerm_print (p f) pr sep tr xs d rest u f hp hs f (fuel_tail hf) (Nat.le_refl f)]
  simp [Parse.expectClose]

theorem lift_ok {α : Type} (p : List K → R0 α) (ts : List K) (x : α) (r : List K) (u : Option Nat)
    (h : p ts = .ok (x, r)) : Parse.lift p ts u = .ok (x, r, u) := by
  simp [Parse.lift, h]

theorem length_flatMap_mem {α : Type} (pr : α → List K) (xs : List α) (x : α) (hx : x ∈ xs) :
    (pr x).length ≤ (xs.flatMap pr).length := by
  induction xs with
  | nil => simp at hx
  | cons y ys ih =>
    simp only [List.flatMap_cons, List.length_append]
    rcases List.mem_cons.mp hx with e | e
    · subst e; omega
    · have := ih e; omega

theorem starts_pExpr (e : G.Expr) : Starts (Print.pExpr e) := by
  cases e with
  | int z => by_cases hz : z < 0 <;> simp [Print.pExpr, hz, Starts]
  | str s => simp [Print.pExpr, Starts]
  | ident s => simp [Print.pExpr, Starts]

theorem pAttrPart_print (tr : Bool) (a : G.Attr) (h : attrOk a = true) (rest : List K)
    (hr : TermFollow ',' rest) (f : Nat) (hf : (Print.pAttrPart tr a ++ rest).length < f) :
    Parse.pAttrPart f (Print.pAttrPart tr a ++ rest) = .ok (a, rest) := by
  cases a with
  | ident n =>
    simp only [attrOk] at h
    simp only [Print.pAttrPart, Parse.pAttrPart, List.cons_append, List.nil_append, pIdent_name h]
    obtain ⟨j, r, rfl⟩ | ⟨d, r, rfl⟩ := hr
    · simp
    · rfl
  | assign n e =>
    simp only [attrOk, Bool.and_eq_true] at h
    simp [Print.pAttrPart, Parse.pAttrPart, pIdent_name h.1, pExpr_print e h.2]
  | fn n args =>
    simp only [attrOk, Bool.and_eq_true, List.all_eq_true] at h
    simp only [Print.pAttrPart, List.cons_append] at hf ⊢
    have := pGroup_print (fun _ => Parse.lift Parse.pExpr) Print.pExpr ',' tr args .paren rest none f
      (fuel_tail hf)
      (fun x hx rest' _ _ => lift_ok _ _ _ _ _ (pExpr_print x (h.2 x hx) rest'))
      (fun x _ => starts_pExpr x)
    simp only [Parse.pAttrPart, pIdent_name h.1]
    simp only [Print.pGroup, List.cons_append] at this ⊢
    rw [this]

theorem starts_pAttrPart (tr : Bool) (a : G.Attr) : Starts (Print.pAttrPart tr a) := by
  cases a <;> simp [Print.pAttrPart, Starts]

/-- where `Attribute::parse_many` stops: no `#` (`#!` for module attributes) comes next -/
def StopAttrs (inner : Bool) (rest : List K) : Prop :=
  ∀ f, Parse.pAttrs inner (f + 1) rest = .ok ([], rest)

theorem pAttrBody_print (tr : Bool) (a : G.Attr) (h : attrOk a = true) (rest : List K) (f : Nat)
    (hf : (Print.pGroup .bracket (Print.pAttrPart tr) ',' false [a] ++ rest).length < f) :
    Parse.pAttrBody f (Print.pGroup .bracket (Print.pAttrPart tr) ',' false [a] ++ rest)
      = .ok ([a], rest) := by
  have := pGroup_print (fun f => Parse.lift (Parse.pAttrPart f)) (Print.pAttrPart tr) ',' false [a]
    .bracket rest none f hf
    (fun x hx rest' hr' hl => by
      simp at hx; subst hx
      exact lift_ok _ _ _ _ _ (pAttrPart_print tr x h rest' hr' f hl))
    (fun x _ => starts_pAttrPart tr x)
  simp [Parse.pAttrBody, this]

theorem pAttrs_cons (inner tr : Bool) (a : G.Attr) (as : List G.Attr) :
    Print.pAttrs inner tr (a :: as) = .punct '#' false :: ((if inner then [K.punct '!' false] else []) ++
      (Print.pGroup .bracket (Print.pAttrPart tr) ',' false [a] ++ Print.pAttrs inner tr as)) := by
  simp [Print.pAttrs, Print.pAttr]

theorem pAttrs_print (inner tr : Bool) (as : List G.Attr) (h : as.all attrOk = true)
    (rest : List K) (hr : StopAttrs inner rest) (f : Nat)
    (hf : (Print.pAttrs inner tr as ++ rest).length < f) :
    Parse.pAttrs inner f (Print.pAttrs inner tr as ++ rest) = .ok (as, rest) := by
  induction as generalizing f with
  | nil =>
    obtain ⟨f, rfl⟩ := Nat.exists_eq_add_one_of_ne_zero (Nat.ne_zero_of_lt hf)
    exact hr f
  | cons a as ih =>
    obtain ⟨f, rfl⟩ := Nat.exists_eq_add_one_of_ne_zero (Nat.ne_zero_of_lt hf)
    simp only [List.all_cons, Bool.and_eq_true] at h
    rw [pAttrs_cons] at hf ⊢
    cases inner with
    | false =>
      simp only [Bool.false_eq_true, if_false, List.nil_append, List.cons_append,
        List.append_assoc] at hf ⊢
      unfold Parse.pAttrs
      simp only [if_true, Bool.false_eq_true, if_false]
      rw [pAttrBody_print tr a h.1 _ f (fuel_step hf)]
      simp only [ih h.2 f (fuel_append (fuel_step hf))]
      simp
    | true =>
      simp only [if_true, List.cons_append, List.nil_append, List.append_assoc] at hf ⊢
      unfold Parse.pAttrs
      simp only [if_true]
      rw [pAttrBody_print tr a h.1 _ f (fuel_tail (fuel_step hf))]
      simp only [ih h.2 f (fuel_append (fuel_tail (fuel_step hf)))]
      simp

theorem followTy_of_term {c : Char} {rest : List K} (h : TermFollow c rest) (h1 : c ≠ '<')
    (h2 : c ≠ '>') : FollowTy rest := by
  obtain ⟨j, r, rfl⟩ | ⟨d, r, rfl⟩ := h
  · exact ⟨h1, h2⟩
  · trivial

theorem peek2_term {a b c : Char} {rest : List K} (h : TermFollow c rest) (hc : c ≠ a) :
    Parse.peek2 a b rest = none := by
  obtain ⟨j, r, rfl⟩ | ⟨d, r, rfl⟩ := h
  · cases j with
    | false => rfl
    | true =>
      cases r with
      | nil => rfl
      | cons k r' => cases k <;> simp [Parse.peek2, hc]
  · rfl

theorem starts_pArg (a : G.Arg) : Starts (Print.pArg a) := by
  cases a <;> simp [Print.pArg, Starts]

theorem pArg_print (a : G.Arg) (h : argOk a = true) (rest : List K) (hr : TermFollow ',' rest)
    (f : Nat) (hf : (Print.pArg a ++ rest).length < f) (u : Option Nat) :
    Parse.pArg f (Print.pArg a ++ rest) u = .ok (a, rest, u) := by
  cases a with
  | constSelf => simp [Print.pArg, Parse.pArg]
  | mutSelf => simp [Print.pArg, Parse.pArg, Parse.expectKw]
  | named n t =>
    simp only [argOk, Bool.and_eq_true] at h
    simp only [Print.pArg, List.cons_append] at hf ⊢
    have := pType_print t h.2 rest (followTy_of_term hr (by decide) (by decide)) f
      (fuel_tail (fuel_tail hf)) u
    simp [Parse.pArg, idOk_kw h.1, Parse.expectPunct, this]

/-- `pVis` reads no `pub` here -/
def NoPub (rest : List K) : Prop := Parse.pVis rest = (.priv, rest)

theorem noPub_ident {s : String} (h : s ≠ "pub") (r : List K) : NoPub (.ident s :: r) := by
  simp [NoPub, Parse.pVis, h]

theorem pVis_print (v : G.Vis) (rest : List K) (h : NoPub rest) :
    Parse.pVis (Print.pVis v ++ rest) = (v, rest) := by
  cases v with
  | pub => simp [Print.pVis, Parse.pVis]
  | priv => exact h

theorem stopAttrs_vis (v : G.Vis) (s : String) (r : List K) :
    StopAttrs false (Print.pVis v ++ .ident s :: r) := by
  cases v <;> exact fun _ => rfl

theorem stopAttrs_ident (inner : Bool) (s : String) (r : List K) :
    StopAttrs inner (.ident s :: r) := fun _ => rfl

/-- how a printed item, function, field or statement begins: with a keyword or name, `pub`, or the
    `#[` of an attribute -/
def ItemHead (ks : List K) : Prop :=
  (∃ s r, ks = .ident s :: r) ∨ ∃ r, ks = .punct '#' false :: .op .bracket :: r

theorem itemHead_ident (s : String) (r : List K) : ItemHead (.ident s :: r) := Or.inl ⟨s, r, rfl⟩

theorem itemHead_attrs (tr : Bool) (as : List G.Attr) {body : List K} (h : ItemHead body) :
    ItemHead (Print.pAttrs false tr as ++ body) := by
  cases as with
  | nil => exact h
  | cons a as => rw [pAttrs_cons]; exact Or.inr ⟨_, rfl⟩

theorem itemHead_vis (v : G.Vis) (s : String) (r : List K) :
    ItemHead (Print.pVis v ++ .ident s :: r) := by
  cases v <;> exact itemHead_ident _ _

theorem ItemHead.starts {ks : List K} (h : ItemHead ks) : Starts ks := by
  obtain ⟨s, r, rfl⟩ | ⟨r, rfl⟩ := h <;> exact trivial

theorem ItemHead.stopAttrs {ks : List K} (h : ItemHead ks) (r : List K) : StopAttrs true (ks ++ r) := by
  obtain ⟨s, r, rfl⟩ | ⟨r, rfl⟩ := h <;> exact fun _ => rfl

theorem ItemHead.ne_nil {ks : List K} (h : ItemHead ks) : ks ≠ [] := by
  obtain ⟨s, r, rfl⟩ | ⟨r, rfl⟩ := h <;> exact List.cons_ne_nil _ _

theorem starts_pFunc (tr : Bool) (fn : G.Func) : Starts (Print.pFunc tr fn) := by
  simp only [Print.pFunc, List.append_assoc]
  exact (itemHead_attrs tr _ (itemHead_vis _ _ _)).starts

theorem length_pAttr_pos (inner tr : Bool) (a : G.Attr) : 1 ≤ (Print.pAttr inner tr a).length := by
  simp [Print.pAttr]

theorem pFunc_print (tr : Bool) (fn : G.Func) (h : funcOk fn = true) (rest : List K)
    (hr : TermFollow ';' rest) (f : Nat) (hf : (Print.pFunc tr fn ++ rest).length < f) (u : Option Nat) :
    Parse.pFunc f (Print.pFunc tr fn ++ rest) u = .ok (fn, rest, u) := by
  obtain ⟨vis, name, attrs, args, ret⟩ := fn
  simp only [funcOk, Bool.and_eq_true, List.all_eq_true] at h
  obtain ⟨⟨⟨hn, ha⟩, hargs⟩, hret⟩ := h
  simp only [Print.pFunc, List.append_assoc, List.cons_append] at hf ⊢
  have hf' := fuel_tail (fuel_tail (fuel_append (fuel_append hf)))
  simp only [Parse.pFunc]
  rw [pAttrs_print false tr attrs (List.all_eq_true.2 ha) _ (stopAttrs_vis vis "fn" _) f hf]
  simp only [pVis_print vis _ (noPub_ident (s := "fn") (by simp) _), Parse.expectKw,
    if_true, pIdent_name hn]
  rw [pGroup_print Parse.pArg Print.pArg ',' tr args .paren (Print.pRet ret ++ rest) u f hf'
    (fun x hx rest' hr' hl => pArg_print x (hargs x hx) rest' hr' f hl u)
    (fun x _ => starts_pArg x)]
  cases ret with
  | none =>
    simp only [Print.pRet, List.nil_append, peek2_term hr (show ';' ≠ '-' by decide)]
  | some t =>
    simp only [retOk] at hret
    simp only [Print.pRet, List.cons_append] at hf' ⊢
    have := pType_print t hret rest (followTy_of_term hr (by decide) (by decide)) f
      (fuel_tail (fuel_tail (fuel_append hf'))) u
    simp [Parse.peek2, this]

theorem name_ne_kw {s kw : String} (h : nameOk s = true) (hk : isKw kw = true) (hu : kw ≠ "_") :
    s ≠ kw := by
  intro e; subst e
  rcases nameOk_cases h with h | h
  · exact hu h
  · rw [h] at hk; exact absurd hk (by simp)

theorem pFuncs_print (tr : Bool) (fns : List G.Func) (h : fns.all funcOk = true) (d : Delim)
    (rest : List K) (f : Nat)
    (hf : (Print.pGroup d (Print.pFunc tr) ';' tr fns ++ rest).length < f) (u : Option Nat) :
    Parse.pGroup d (Parse.pFunc f) ';' f (Print.pGroup d (Print.pFunc tr) ';' tr fns ++ rest) u
      = .ok (fns, rest, u) :=
  pGroup_print Parse.pFunc (Print.pFunc tr) ';' tr fns d rest u f hf
    (fun x hx rest' hr' hl => pFunc_print tr x (List.all_eq_true.1 h x hx) rest' hr' f hl u)
    (fun x _ => starts_pFunc tr x)

/-- `kw` is not peeked at `[pub] s …`: under `pub` because it is not `pub`, otherwise because it is
    not `s` -/
theorem peekKw_vis (kw : String) (hp : kw ≠ "pub") (v : G.Vis) (s : String)
    (hv : v = .priv → s ≠ kw) (r : List K) :
    Parse.peekKw kw (Print.pVis v ++ .ident s :: r) = none := by
  cases v with
  | pub => simp [Print.pVis, Parse.peekKw, Ne.symm hp]
  | priv => simp [Print.pVis, Parse.peekKw, hv rfl]

theorem pField_print (tr : Bool) (fl : G.Field) (h : fieldOk fl = true) (rest : List K)
    (hr : TermFollow ',' rest) (f : Nat) (hf : (Print.pField tr fl ++ rest).length < f)
    (u : Option Nat) :
    Parse.pField f (Print.pField tr fl ++ rest) u = .ok (fl, rest, u) := by
  cases fl with
  | vftable fns =>
    simp only [fieldOk] at h
    simp only [Print.pField, List.cons_append] at hf ⊢
    simp [Parse.pField, Parse.peekKw, pFuncs_print tr fns h .brace rest f (fuel_tail hf) u]
  | field v n t =>
    simp only [fieldOk, Bool.and_eq_true, Bool.or_eq_true, beq_iff_eq, bne_iff_ne, ne_eq] at h
    obtain ⟨⟨hn, hv⟩, ht⟩ := h
    have hk := peekKw_vis "vftable" (by simp) v n (fun e => hv.resolve_left (by simp [e]))
    simp only [Print.pField, List.append_assoc, List.cons_append] at hf ⊢
    have := pType_print t ht rest (followTy_of_term hr (by decide) (by decide)) f
      (fuel_tail (fuel_tail (fuel_append hf))) u
    simp only [Parse.pField, hk, Parse.pPlainField, pVis_print v _ (noPub_ident (name_ne_kw hn (isKw_of_get 32 rfl) (by simp)) _),
      pIdent_name hn, Parse.expectPunct, if_true, this]

theorem stopAttrs_pField (tr : Bool) (fl : G.Field) (rest : List K) :
    StopAttrs false (Print.pField tr fl ++ rest) := by
  cases fl with
  | vftable fns => exact stopAttrs_ident _ _ _
  | field v n t => simp only [Print.pField, List.append_assoc]; exact stopAttrs_vis v n _

theorem itemHead_pField (tr : Bool) (fl : G.Field) : ItemHead (Print.pField tr fl) := by
  cases fl with
  | vftable fns => exact itemHead_ident _ _
  | field v n t => exact itemHead_vis v n _

theorem starts_pStmt (tr : Bool) (s : G.Stmt) : Starts (Print.pStmt tr s) :=
  (itemHead_attrs tr _ (itemHead_pField tr s.field)).starts

theorem pStmt_print (tr : Bool) (s : G.Stmt) (h : stmtOk s = true) (rest : List K)
    (hr : TermFollow ',' rest) (f : Nat) (hf : (Print.pStmt tr s ++ rest).length < f)
    (u : Option Nat) :
    Parse.pStmt f (Print.pStmt tr s ++ rest) u = .ok (s, rest, u) := by
  obtain ⟨field, attrs⟩ := s
  simp only [stmtOk, Bool.and_eq_true] at h
  simp only [Print.pStmt, List.append_assoc] at hf ⊢
  simp only [Parse.pStmt, pAttrs_print false tr attrs h.1 _ (stopAttrs_pField tr field rest) f hf,
    pField_print tr field h.2 rest hr f (fuel_append hf) u]

theorem starts_pEnumStmt (tr : Bool) (s : G.EnumStmt) : Starts (Print.pEnumStmt tr s) :=
  (itemHead_attrs tr s.attrs (itemHead_ident s.name (Print.pOptExpr s.expr))).starts

theorem pEnumStmt_print (tr : Bool) (s : G.EnumStmt) (h : enumStmtOk s = true) (rest : List K)
    (hr : TermFollow ',' rest) (f : Nat) (hf : (Print.pEnumStmt tr s ++ rest).length < f) :
    Parse.pEnumStmt f (Print.pEnumStmt tr s ++ rest) = .ok (s, rest) := by
  obtain ⟨name, expr, attrs⟩ := s
  simp only [enumStmtOk, Bool.and_eq_true] at h
  obtain ⟨⟨hn, he⟩, ha⟩ := h
  simp only [Print.pEnumStmt, List.append_assoc, List.cons_append] at hf ⊢
  simp only [Parse.pEnumStmt]
  rw [pAttrs_print false tr attrs ha _ (stopAttrs_ident _ _ _) f hf]
  simp only [pIdent_name hn]
  cases expr with
  | none =>
    simp only [Print.pOptExpr, List.nil_append]
    obtain ⟨j, r, rfl⟩ | ⟨d, r, rfl⟩ := hr
    · simp [Parse.peekPunct]
    · rfl
  | some e =>
    simp only [optExprOk] at he
    simp [Print.pOptExpr, Parse.peekPunct, pExpr_print e he]

theorem peekKw_attrs (kw : String) (tr : Bool) (as : List G.Attr) (body : List K)
    (h : Parse.peekKw kw body = none) :
    Parse.peekKw kw (Print.pAttrs false tr as ++ body) = none := by
  cases as with
  | nil => exact h
  | cons a as => rw [pAttrs_cons]; rfl

theorem pItem_attrs (tr : Bool) (attrs : List G.Attr) (ha : attrs.all attrOk = true) (body : List K)
    (hs : StopAttrs false body) (h1 : Parse.peekKw "use" body = none)
    (h2 : Parse.peekKw "backend" body = none) (f : Nat)
    (hf : (Print.pAttrs false tr attrs ++ body).length < f) (u : Option Nat) :
    Parse.pItem f (Print.pAttrs false tr attrs ++ body) u = Parse.pAttrItem f attrs body u := by
  simp only [Parse.pItem, peekKw_attrs _ tr attrs body h1, peekKw_attrs _ tr attrs body h2,
    pAttrs_print false tr attrs ha body hs f hf]

/-- the head of `pItem` for an item written `attrs [pub] kw …`, `kw` being `type`, `enum` or the
    `extern` of an extern value: attributes and visibility are read, the rest is `pVisItem`'s -/
theorem pItem_vis (tr : Bool) (attrs : List G.Attr) (ha : attrs.all attrOk = true) (vis : G.Vis)
    (kw : String) (r : List K)
    (hkw : kw ≠ "use" ∧ kw ≠ "backend" ∧ kw ≠ "impl" ∧ kw ≠ "pub")
    (hx : kw = "extern" → Parse.peekKw "type" r = none) (f : Nat)
    (hf : (Print.pAttrs false tr attrs ++ (Print.pVis vis ++ .ident kw :: r)).length < f)
    (u : Option Nat) :
    Parse.pItem f (Print.pAttrs false tr attrs ++ (Print.pVis vis ++ .ident kw :: r)) u
      = Parse.pVisItem f attrs vis (.ident kw :: r) u := by
  obtain ⟨h1, h2, h3, h4⟩ := hkw
  rw [pItem_attrs tr attrs ha _ (stopAttrs_vis vis kw _)
    (peekKw_vis "use" (by simp) vis kw (fun _ => h1) _)
    (peekKw_vis "backend" (by simp) vis kw (fun _ => h2) _) f hf]
  have he : (Parse.peekKw "extern" (Print.pVis vis ++ .ident kw :: r)).bind (Parse.peekKw "type")
      = none := by
    cases vis with
    | pub => rfl
    | priv =>
      by_cases e : kw = "extern"
      · subst e; exact hx rfl
      · simp [Print.pVis, Parse.peekKw, e]
  simp only [Parse.pAttrItem, he, peekKw_vis "impl" (by simp) vis kw (fun _ => h3) _,
    pVis_print vis _ (noPub_ident h4 r)]

theorem peekKw_ident (kw s : String) (r : List K) :
    Parse.peekKw kw (.ident s :: r) = if s = kw then some r else none := rfl

theorem pTypeBody_semi (ss : List G.Stmt) (h : ss = []) :
    Print.pTypeBody true ss = [.punct ';' false] := by
  subst h; rfl

theorem pTypeBody_brace (tr : Bool) (ss : List G.Stmt) (h : (tr && ss.isEmpty) = false) :
    Print.pTypeBody tr ss = Print.pGroup .brace (Print.pStmt tr) ',' tr ss := by
  simp only [Print.pTypeBody, h, Bool.false_eq_true, if_false]

/-- both spellings of the body of a type definition: `;` and `{ … }` -/
theorem pTypeDef_print (tr : Bool) (ss : List G.Stmt) (attrs : List G.Attr)
    (h : ss.all stmtOk = true) (rest : List K) (f : Nat)
    (hf : (Print.pTypeBody tr ss ++ rest).length < f) (u : Option Nat) :
    Parse.pTypeDef f attrs (Print.pTypeBody tr ss ++ rest) u
      = .ok ({ stmts := ss, attrs }, rest, u) := by
  cases hb : (tr && ss.isEmpty) with
  | true =>
    simp only [Bool.and_eq_true, List.isEmpty_iff] at hb
    obtain ⟨rfl, rfl⟩ := hb
    simp [Print.pTypeBody, Parse.pTypeDef, Parse.peekPunct]
  | false =>
    rw [pTypeBody_brace tr ss hb] at hf ⊢
    have hS := pGroup_print Parse.pStmt (Print.pStmt tr) ',' tr ss .brace rest u f hf
      (fun x hx rest' hr' hl => pStmt_print tr x (List.all_eq_true.1 h x hx) rest' hr' f hl u)
      (fun x _ => starts_pStmt tr x)
    have hp : Parse.peekPunct ';' (Print.pGroup .brace (Print.pStmt tr) ',' tr ss ++ rest) = none := rfl
    simp only [Parse.pTypeDef, hp, hS]

theorem starts_pTypeBody (tr : Bool) (ss : List G.Stmt) : Starts (Print.pTypeBody tr ss) := by
  simp only [Print.pTypeBody]
  split <;> simp [Print.pGroup, Starts]

theorem pEnumDef_print (tr : Bool) (d : G.EnumDef) (ht : tyOk d.ty = true)
    (hs : d.stmts.all enumStmtOk = true) (rest : List K) (f : Nat)
    (hf : (.punct ':' false :: (Print.pTy d.ty ++
      (Print.pGroup .brace (Print.pEnumStmt tr) ',' tr d.stmts ++ rest))).length < f)
    (u : Option Nat) :
    Parse.pEnumDef f d.attrs (.punct ':' false :: (Print.pTy d.ty ++
        (Print.pGroup .brace (Print.pEnumStmt tr) ',' tr d.stmts ++ rest))) u
      = .ok (d, rest, u) := by
  have hT := pType_print d.ty ht (Print.pGroup .brace (Print.pEnumStmt tr) ',' tr d.stmts ++ rest)
    trivial f (fuel_tail hf) u
  have hS := pGroup_print (fun f => Parse.lift (Parse.pEnumStmt f)) (Print.pEnumStmt tr) ',' tr
    d.stmts .brace rest u f (fuel_append (fuel_tail hf))
    (fun x hx rest' hr' hl =>
      lift_ok _ _ _ _ _ (pEnumStmt_print tr x (List.all_eq_true.1 hs x hx) rest' hr' f hl))
    (fun x _ => starts_pEnumStmt tr x)
  simp only [Parse.pEnumDef, Parse.expectPunct, if_true, hT, hS]

theorem pItemDef_print (tr : Bool) (i : G.Item) (h : itemOk i = true) (rest : List K) (f : Nat)
    (hf : (Print.pItemDef tr i ++ rest).length < f) (u : Option Nat) :
    Parse.pItem f (Print.pItemDef tr i ++ rest) u = .ok (.defn i, rest, u) := by
  obtain ⟨vis, name, inner⟩ := i
  simp only [itemOk, Bool.and_eq_true] at h
  obtain ⟨hn, hi⟩ := h
  cases inner with
  | type d =>
    obtain ⟨stmts, attrs⟩ := d
    simp only [innerOk, Bool.and_eq_true] at hi
    simp only [Print.pItemDef, List.append_assoc, List.cons_append] at hf ⊢
    rw [pItem_vis tr attrs hi.1 vis "type" _ (by simp) (fun e => absurd e (by simp)) f hf]
    have hD := pTypeDef_print tr stmts attrs hi.2 rest f
      (fuel_tail (fuel_tail (fuel_append (fuel_append hf)))) u
    simp only [Parse.pVisItem, Parse.pItemDef, peekKw_ident, if_true, pIdent_name hn, hD]
    simp
  | enum d =>
    simp only [innerOk, Bool.and_eq_true] at hi
    simp only [Print.pItemDef, List.append_assoc, List.cons_append] at hf ⊢
    rw [pItem_vis tr d.attrs hi.1.1 vis "enum" _ (by simp) (fun e => absurd e (by simp)) f hf]
    have hD := pEnumDef_print tr d hi.1.2 hi.2 rest f
      (fuel_tail (fuel_tail (fuel_append (fuel_append hf)))) u
    simp only [Parse.pVisItem, Parse.pItemDef, peekKw_ident, if_true, pIdent_name hn, hD]
    simp

theorem pImpl_print (tr : Bool) (i : G.Impl) (h : implOk i = true) (rest : List K) (f : Nat)
    (hf : (Print.pImpl tr i ++ rest).length < f) (u : Option Nat) :
    Parse.pItem f (Print.pImpl tr i ++ rest) u = .ok (.impl i, rest, u) := by
  obtain ⟨name, fns, attrs⟩ := i
  simp only [implOk, Bool.and_eq_true] at h
  obtain ⟨⟨hn, ha⟩, hfn⟩ := h
  simp only [Print.pImpl, List.append_assoc, List.cons_append] at hf ⊢
  rw [pItem_attrs tr attrs ha _ (stopAttrs_ident _ _ _) rfl rfl f hf]
  simp [Parse.pAttrItem, Parse.peekKw, pIdent_name hn,
    pFuncs_print tr fns hfn .brace rest f (fuel_tail (fuel_tail (fuel_append hf))) u]

theorem pXType_print (tr : Bool) (x : String × List G.Attr) (h : xtypeOk x = true)
    (rest : List K) (f : Nat) (hf : (Print.pXType tr x ++ rest).length < f) (u : Option Nat) :
    Parse.pItem f (Print.pXType tr x ++ rest) u = .ok (.xtype x.1 x.2, rest, u) := by
  obtain ⟨name, attrs⟩ := x
  simp only [xtypeOk, Bool.and_eq_true] at h
  simp only [Print.pXType, List.append_assoc, List.cons_append] at hf ⊢
  rw [pItem_attrs tr attrs h.2 _ (stopAttrs_ident _ _ _) rfl rfl f hf]
  simp [Parse.pAttrItem, Parse.peekKw, Parse.pTypeIdent, idOk_kw h.1,
    identTail_stop f name (.punct ';' false :: rest) (by simp [FollowTy]), Parse.expectPunct]

theorem pXVal_print (tr : Bool) (x : G.XVal) (h : xvalOk x = true)
    (rest : List K) (f : Nat) (hf : (Print.pXVal tr x ++ rest).length < f) (u : Option Nat) :
    Parse.pItem f (Print.pXVal tr x ++ rest) u = .ok (.xval x, rest, u) := by
  obtain ⟨vis, name, ty, attrs⟩ := x
  simp only [xvalOk, Bool.and_eq_true] at h
  obtain ⟨⟨hn, ht⟩, ha⟩ := h
  have hnt : name ≠ "type" := name_ne_kw hn (isKw_of_get 43 rfl) (by simp)
  simp only [Print.pXVal, List.append_assoc, List.cons_append, List.nil_append] at hf ⊢
  rw [pItem_vis tr attrs ha vis "extern" _ (by simp)
    (fun _ => by simp [Parse.peekKw, hnt]) f hf]
  have hT := pType_print ty ht (.punct ';' false :: rest) (by simp [FollowTy]) f
    (fuel_tail (fuel_tail (fuel_tail (fuel_append (fuel_append hf))))) u
  simp only [Parse.pVisItem, peekKw_ident, if_true, pIdent_name hn, Parse.expectPunct, hT]

theorem peek2_ident (a b : Char) (s : String) (r : List K) : Parse.peek2 a b (.ident s :: r) = none := rfl

theorem pPath_colon2 (f : Nat) (j : Bool) (r : List K) :
    Parse.pPath (f + 1) (.punct ':' true :: .punct ':' j :: r) = Parse.pPath f r := by
  simp [Parse.pPath, Parse.peek2]

theorem pPath_print (p : Path) (h : pathOk p = true) (rest : List K) (f : Nat)
    (hf : (Print.pPath p ++ .punct ';' false :: rest).length < f) :
    Parse.pPath f (Print.pPath p ++ .punct ';' false :: rest) = .ok (p, .punct ';' false :: rest) := by
  induction p generalizing f with
  | nil =>
    obtain ⟨f, rfl⟩ := Nat.exists_eq_add_one_of_ne_zero (Nat.ne_zero_of_lt hf)
    simp [Print.pPath, Parse.pPath, Parse.peek2]
  | cons s p ih =>
    obtain ⟨f, rfl⟩ := Nat.exists_eq_add_one_of_ne_zero (Nat.ne_zero_of_lt hf)
    simp only [pathOk, List.all_cons, Bool.and_eq_true] at h
    have hk := idOk_kw h.1
    have hsup : s ≠ "super" := fun e => by rw [e, isKw_of_get 39 rfl] at hk; cases hk
    cases p with
    | nil =>
      simp only [Print.pPath, List.cons_append, List.nil_append] at hf ⊢
      obtain ⟨f, rfl⟩ := Nat.exists_eq_add_one_of_ne_zero (Nat.ne_zero_of_lt (fuel_step hf))
      simp [Parse.pPath, hsup, hk,
        identTail_stop (f + 1) s (.punct ';' false :: rest) (by simp [FollowTy]), Parse.peek2]
    | cons t q =>
      simp only [Print.pPath, List.cons_append] at hf ih ⊢
      obtain ⟨f, rfl⟩ := Nat.exists_eq_add_one_of_ne_zero (Nat.ne_zero_of_lt (fuel_step hf))
      unfold Parse.pPath
      simp only [hsup, hk, if_false, Bool.false_eq_true,
        identTail_stop (f + 1) s (.punct ':' true :: _) (by simp [FollowTy])]
      rw [pPath_colon2, ih (by simpa [pathOk] using h.2) f (fuel_tail (fuel_step (fuel_step hf)))]

theorem pUse_print (p : Path) (h : pathOk p = true) (rest : List K) (f : Nat)
    (hf : (Print.pUse p ++ rest).length < f) (u : Option Nat) :
    Parse.pItem f (Print.pUse p ++ rest) u = .ok (.use p, rest, u) := by
  simp only [Print.pUse, List.cons_append, List.append_assoc, List.nil_append] at hf ⊢
  simp [Parse.pItem, peekKw_ident, pPath_print p h rest f (fuel_tail hf), Parse.expectPunct]

/-- the body loop runs at most three times: a prologue, an epilogue, the end -/
theorem pBackend_print (b : G.Backend) (h : backendOk b = true) (rest : List K) (f : Nat)
    (hf : 3 < f) (u : Option Nat) :
    Parse.pItem f (Print.pBackend b ++ rest) u = .ok (.backend b, rest, u) := by
  obtain ⟨name, pro, epi⟩ := b
  simp only [backendOk, Bool.and_eq_true] at h
  obtain ⟨⟨hn, hp⟩, he⟩ := h
  obtain ⟨f, rfl⟩ : ∃ g, f = g + 3 := ⟨f - 3, by omega⟩
  have body : Parse.pBackendBody (f + 3) none none
      (Print.pBlock "prologue" pro ++ (Print.pBlock "epilogue" epi ++ (.cl .brace :: rest)))
      = .ok ((pro, epi), .cl .brace :: rest) := by
    cases pro with
    | none =>
      cases epi with
      | none => simp [Print.pBlock, Parse.pBackendBody, atEnd]
      | some e =>
        simp only [optTrimmed, beq_iff_eq] at he
        simp [Print.pBlock, Parse.pBackendBody, atEnd, Parse.pBlock, peekKw_ident,
          Parse.expectPunct, he]
    | some p =>
      simp only [optTrimmed, beq_iff_eq] at hp
      cases epi with
      | none =>
        simp [Print.pBlock, Parse.pBackendBody, atEnd, Parse.pBlock, peekKw_ident,
          Parse.expectPunct, hp]
      | some e =>
        simp only [optTrimmed, beq_iff_eq] at he
        simp [Print.pBlock, Parse.pBackendBody, atEnd, Parse.pBlock, peekKw_ident,
          Parse.expectPunct, hp, he]
  simp only [Print.pBackend, List.cons_append, List.append_assoc, Parse.pItem,
    Parse.pBackend, Parse.expectKw, if_true, pIdent_name hn, Parse.pBlock, Parse.peekKw,
    Parse.expectOpen, List.nil_append]
  simp [body, Parse.expectClose]


def pModItem (tr : Bool) : ModItem → List K
  | .use p => Print.pUse p
  | .xtype n a => Print.pXType tr (n, a)
  | .xval x => Print.pXVal tr x
  | .defn i => Print.pItemDef tr i
  | .impl i => Print.pImpl tr i
  | .backend b => Print.pBackend b

def modItemOk : ModItem → Bool
  | .use p => pathOk p
  | .xtype n a => xtypeOk (n, a)
  | .xval x => xvalOk x
  | .defn i => itemOk i
  | .impl i => implOk i
  | .backend b => backendOk b

/-- the items of a module in printing order -/
def itemsOf (m : G.Module) : List ModItem :=
  m.uses.map .use ++ m.xtypes.map (fun x => .xtype x.1 x.2) ++ m.xvals.map .xval ++
    m.defs.map .defn ++ m.impls.map .impl ++ m.backends.map .backend

theorem printK_eq (tr : Bool) (m : G.Module) :
    Print.printK tr m = Print.pAttrs true tr m.attrs ++ (itemsOf m).flatMap (pModItem tr) := by
  simp [Print.printK, itemsOf, List.flatMap_append, List.flatMap_map, pModItem, List.append_assoc]

theorem itemHead_pModItem (tr : Bool) (it : ModItem) : ItemHead (pModItem tr it) := by
  cases it with
  | use p => exact itemHead_ident _ _
  | backend b => exact itemHead_ident _ _
  | xtype n a => exact itemHead_attrs tr a (itemHead_ident _ _)
  | xval x => simp only [pModItem, Print.pXVal, List.append_assoc]; exact itemHead_attrs tr _ (itemHead_vis _ _ _)
  | impl i => exact itemHead_attrs tr _ (itemHead_ident _ _)
  | defn i =>
    obtain ⟨v, n, inner⟩ := i
    cases inner <;>
      (simp only [pModItem, Print.pItemDef, List.append_assoc]
       exact itemHead_attrs tr _ (itemHead_vis _ _ _))

theorem pItem_print (tr : Bool) (it : ModItem) (h : modItemOk it = true) (rest : List K) (f : Nat)
    (hf : (pModItem tr it ++ rest).length < f) (u : Option Nat) :
    Parse.pItem f (pModItem tr it ++ rest) u = .ok (it, rest, u) := by
  cases it with
  | use p => exact pUse_print p h rest f hf u
  | xtype n a => exact pXType_print tr (n, a) h rest f hf u
  | xval x => exact pXVal_print tr x h rest f hf u
  | defn i => exact pItemDef_print tr i h rest f hf u
  | impl i => exact pImpl_print tr i h rest f hf u
  | backend b =>
    exact pBackend_print b h rest f (by
      simp only [pModItem, Print.pBackend, List.length_cons, List.length_append] at hf; omega) u

/-- `fuel` is what each item is parsed with, `f` counts the items; both exceed what remains -/
theorem pItems_print (tr : Bool) (its : List ModItem) (h : its.all modItemOk = true) (fuel : Nat)
    (hfuel : (its.flatMap (pModItem tr)).length < fuel) (f : Nat)
    (hf : (its.flatMap (pModItem tr)).length < f) (u : Option Nat) :
    Parse.pItems fuel f (its.flatMap (pModItem tr)) u = .ok (its, [], u) := by
  induction its generalizing f with
  | nil =>
    obtain ⟨f, rfl⟩ := Nat.exists_eq_add_one_of_ne_zero (Nat.ne_zero_of_lt hf)
    simp [Parse.pItems]
  | cons it its ih =>
    obtain ⟨f, rfl⟩ := Nat.exists_eq_add_one_of_ne_zero (Nat.ne_zero_of_lt hf)
    simp only [List.all_cons, Bool.and_eq_true] at h
    simp only [List.flatMap_cons] at hfuel hf ⊢
    obtain ⟨k, ks, e⟩ := List.exists_cons_of_ne_nil (itemHead_pModItem tr it).ne_nil
    have hne : (pModItem tr it ++ its.flatMap (pModItem tr)).isEmpty = false := by rw [e]; rfl
    simp only [Parse.pItems, hne, Bool.false_eq_true, if_false,
      pItem_print tr it h.1 _ fuel hfuel u,
      ih h.2 (fuel_append hfuel) f (by rw [e] at hf; exact fuel_append (fuel_step hf))]

theorem filterMap_const_none {α β : Type} (l : List α) :
    l.filterMap (fun _ => (none : Option β)) = [] := by
  simp

theorem assemble_itemsOf (m : G.Module) : Parse.assemble m.attrs (itemsOf m) = m := by
  obtain ⟨uses, xtypes, xvals, defs, impls, backends, attrs⟩ := m
  -- each selector keeps the items of its own kind and drops the others
  simp [Parse.assemble, itemsOf, List.filterMap_append, List.filterMap_map, Function.comp_def,
    Parse.selUse, Parse.selXType, Parse.selXVal, Parse.selDef, Parse.selImpl, Parse.selBackend,
    filterMap_const_none]

theorem wf_items {m : G.Module} (h : wfB m = true) : (itemsOf m).all modItemOk = true := by
  simp only [wfB, Bool.and_eq_true, List.all_eq_true] at h
  obtain ⟨⟨⟨⟨⟨⟨_, h1⟩, h2⟩, h3⟩, h4⟩, h5⟩, h6⟩ := h
  simp only [itemsOf, List.all_append, List.all_map, Bool.and_eq_true, List.all_eq_true,
    Function.comp_apply, modItemOk]
  exact ⟨⟨⟨⟨⟨h1, fun x hx => h2 x hx⟩, h3⟩, h4⟩, h5⟩, h6⟩

theorem stopAttrs_items (tr : Bool) (its : List ModItem) :
    StopAttrs true (its.flatMap (pModItem tr)) := by
  cases its with
  | nil => exact fun _ => rfl
  | cons it its => exact (itemHead_pModItem tr it).stopAttrs _

theorem parseK_printK (tr : Bool) (m : G.Module) (h : wfB m = true) :
    Parse.parseK (Print.printK tr m) = .ok m := by
  have ha : m.attrs.all attrOk = true := by
    simp only [wfB, Bool.and_eq_true] at h; exact h.1.1.1.1.1.1
  have hf := Nat.lt_succ_self (Print.pAttrs true tr m.attrs ++ (itemsOf m).flatMap (pModItem tr)).length
  rw [printK_eq]
  simp only [Parse.parseK]
  rw [pAttrs_print true tr m.attrs ha _ (stopAttrs_items tr _) _ hf]
  simp only []
  rw [pItems_print tr (itemsOf m) (wf_items h) _ (fuel_append hf) _ (fuel_append hf)]
  simp [assemble_itemsOf]


end C18
end PyxisVerif
