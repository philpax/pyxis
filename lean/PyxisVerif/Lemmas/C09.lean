import PyxisVerif.Spec.C09
import PyxisVerif.Lemmas.C20
import PyxisVerif.Lemmas.Readers
namespace PyxisVerif.Mono

theorem lookup_map_val {α β} [BEq α] [LawfulBEq α] (f : α → β → β) (l : List (α × β)) (q : α) :
    List.lookup q (l.map fun e => (e.1, f e.1 e.2)) = (List.lookup q l).map (f q) := by
  induction l with
  | nil => rfl
  | cons e l ih =>
    obtain ⟨k, v⟩ := e
    by_cases hq : q = k
    · subst hq; simp
    · have hq' : (q == k) = false := by simpa using hq
      simp only [List.map_cons, List.lookup_cons, hq', ih]

end PyxisVerif.Mono

namespace PyxisVerif.C09

/-- no unresolved type definition of the registry has a `vftable` block -/
def NoVft (s : State) : Prop :=
  ∀ p i d, s.reg.get p = some i → i.state = .unres d →
    match d.inner with
    | .type td => ∀ st ∈ td.stmts, (match st.field with | .vftable _ => False | .field .. => True)
    | .enum _ => True

/-- … and no resolved type has one either (no base can supply a vftable) -/
def NoVftResolved (s : State) : Prop :=
  ∀ p i r td, s.reg.get p = some i → i.state = .res r → r.inner = .type td → td.vft = none

/-- the verdict of a build, up to what may legitimately depend on the order: *which* error is reported
    first, and the order in which the unresolved items are listed -/
def sameVerdict : BuildOutcome → BuildOutcome → Prop
  | .ok s1, .ok s2 => (∀ p, s1.reg.get p = s2.reg.get p) ∧ s1.modules = s2.modules
  | .nonterm f1, .nonterm f2 => f1.Perm f2
  | .err _, .err _ => True
  | .panic _, .panic _ => True
  | .fuel, .fuel => True
  | _, _ => False

theorem get_resolved_mono (r r' : Registry) (h : RegLe r r') (p : Path) (i : ItemDef) (res : Resolved)
    (hi : r.get p = some i) (hr : i.resolved? = some res) :
    ∃ i', r'.get p = some i' ∧ i'.resolved? = some res := by
  obtain ⟨i', h1, _, _, _, h2⟩ := h.entries p i hi
  refine ⟨i', h1, ?_⟩
  cases h2 with
  | inl e => simp only [ItemDef.resolved?, e] at hr ⊢; exact hr
  | inr e => simp [ItemDef.isResolved, hr] at e

theorem _root_.PyxisVerif.C19.ResLe.of_regLe {s t : Registry} (h : RegLe s t) : C19.ResLe s t :=
  fun q i res hi hr => get_resolved_mono s t h q i res hi hr

theorem lookup_map_state (l : List (Path × ItemDef)) (p q : Path) (s : IState) :
    List.lookup q (l.map fun e => if e.1 == p then (e.1, { e.2 with state := s }) else e)
      = (List.lookup q l).map (fun v => if q == p then { v with state := s } else v) := by
  have e := Mono.lookup_map_val (fun (k : Path) (v : ItemDef) => if k == p then { v with state := s } else v) l q
  rw [← e]
  congr 2
  funext e
  split <;> rfl

theorem get_setState (r : Registry) (p q : Path) (s : IState) :
    (r.setState p s).get q = (r.get q).map (fun v => if q == p then { v with state := s } else v) := by
  simp only [Registry.get, Registry.setState]
  exact lookup_map_state r.types p q s

theorem setState_extends_lem (r : Registry) (p : Path) (res : Resolved) (i : ItemDef)
    (hi : r.get p = some i) (hu : i.isResolved = false) : RegLe r (r.setState p (.res res)) := by
  refine ⟨rfl, ?_, ?_⟩
  · intro q
    simp only [Registry.contains, get_setState, Option.isSome_map]
  · intro q j hq
    rw [get_setState, hq]
    by_cases e : q = p
    · subst e
      rw [hi] at hq
      cases hq
      refine ⟨{ i with state := .res res }, by simp only [Option.map_some, BEq.rfl, if_true], rfl, rfl, rfl, .inr ⟨hu, ?_⟩⟩
      simp [ItemDef.isResolved, ItemDef.resolved?]
    · have e' : (q == p) = false := by simpa using e
      exact ⟨j, by simp [e'], rfl, rfl, rfl, .inl rfl⟩

theorem eq_of_nodup_keys {α β} (l : List (α × β)) (hn : (l.map (·.1)).Nodup) (a b : α × β)
    (ha : a ∈ l) (hb : b ∈ l) (e : a.1 = b.1) : a = b := by
  induction l with
  | nil => cases ha
  | cons x l ih =>
    simp only [List.map_cons, List.nodup_cons, List.mem_map, not_exists, not_and] at hn
    rw [List.mem_cons] at ha hb
    cases ha with
    | inl ha =>
      cases hb with
      | inl hb => rw [ha, hb]
      | inr hb => subst ha; exact absurd e.symm (hn.1 b hb)
    | inr ha =>
      cases hb with
      | inl hb => subst hb; exact absurd e (hn.1 a ha)
      | inr hb => exact ih hn.2 ha hb

theorem moduleFile_reg (s s' : State) (hr : s'.reg = s.reg) (k : Path) (m : Mod) :
    Emit.moduleFile s' k m = Emit.moduleFile s k m := by
  unfold Emit.moduleFile
  rw [hr]

theorem files_order_lem (s s' : State) (hr : s'.reg = s.reg) (hp : s'.modules.Perm s.modules)
    (hn : (s.modules.map (·.1)).Nodup)
    (hinj : ∀ a ∈ s.modules, ∀ b ∈ s.modules, Emit.relFile a.1 = Emit.relFile b.1 → a.1 = b.1) :
    Emit.files s' = Emit.files s := by
  unfold Emit.files Emit.sortBy
  have hs : (s'.modules.filter fun e => !e.1.isEmpty).mergeSort
        (fun (a b : Path × Mod) => decide (Emit.relFile a.1 ≤ Emit.relFile b.1))
      = (s.modules.filter fun e => !e.1.isEmpty).mergeSort
        (fun (a b : Path × Mod) => decide (Emit.relFile a.1 ≤ Emit.relFile b.1)) := by
    apply C20.mergeSort_perm_eq
    · intro a b c h1 h2
      simp only [decide_eq_true_eq] at h1 h2 ⊢
      exact String.le_trans h1 h2
    · intro a b
      simp only [Bool.or_eq_true, decide_eq_true_eq]
      exact String.le_total _ _
    · exact hp.filter _
    · intro a b ha hb h1 h2
      simp only [decide_eq_true_eq] at h1 h2
      have ha' := hp.subset (List.mem_filter.mp ha).1
      have hb' := hp.subset (List.mem_filter.mp hb).1
      exact eq_of_nodup_keys s.modules hn a b ha' hb' (hinj a ha' b hb' (String.le_antisymm h1 h2))
  simp only [hs]
  apply List.map_congr_left
  intro e _
  exact moduleFile_reg s s' hr e.1 e.2

end PyxisVerif.C09
