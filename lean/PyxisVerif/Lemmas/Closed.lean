import PyxisVerif.Lemmas.Stages
/-!
# Properties that every step of a run keeps

`Lemmas/Stages.lean` takes `SemanticState::new`, `add_module` and an attempt apart into `putModule`, `add_item` and the
`setState` that stores a result.  A property that `add_item` and `setState` keep (`CaseLift2.Closed`) is therefore kept by a whole run, as soon
as it holds of the empty state and storing a module keeps it (`Closed.run`).
-/
namespace PyxisVerif

namespace CaseLift2

structure Closed (I : State → Prop) : Prop where
  addItem : ∀ s s' i, I s → s.addItem i = .ok s' → I s'
  setState : ∀ s p st, I s → I { s with reg := s.reg.setState p st }

theorem Closed.reach2 {I : State → Prop} (hI : Closed I) {s s1 : State} {owner : Path}
    (hr : C02.Reach2 s s1 owner) (hs : I s) : I s1 := by
  rcases hr with rfl | ⟨vis, fns, item, _, _, ha⟩
  · exact hs
  · exact hI.addItem s s1 item hs ha

theorem Closed.attempt {I : State → Prop} (hI : Closed I) (s : State) (p : Path) (hs : I s) :
    I (attemptItem s p).1 :=
  attemptItem_induct hs (fun _ d _ _ => hI.reach2 (attemptDef_reach2 s p d) hs)
    (fun _ _ s1 r _ _ _ h1 => hI.setState s1 p (.res r) h1)

theorem Closed.loop {I : State → Prop} (hI : Closed I) (prio : List Path) (fuel : Nat) (s : State)
    (hs : I s) (s' : State) (hl : resolveLoop prio fuel s = .ok s') : I s' :=
  resolveLoop_induct (runRound_induct hI.attempt) hs hl

theorem Closed.init {I : State → Prop} (hI : Closed I) (ps : Nat)
    (h0 : I { modules := [([], ({} : Mod))], reg := { ps := ps } }) : I (State.new ps) :=
  State.new_induct h0 (fun s s' _ _ hs ha => hI.addItem s s' _ hs ha)

theorem Closed.addMod {I : State → Prop} (hI : Closed I) (s s' : State) (m : G.Module) (path : Path)
    (hput : ∀ xvals doc, Res.mapM' C14.xvalStep m.xvals = .ok xvals → I (s.putModule path (C14.newMod m path xvals doc)))
    (h : s.addModule m path = .ok s') : I s' :=
  State.addModule_of_addItem hput (fun b i b' hb _ ha => hI.addItem b b' i hb ha) h

theorem Closed.run {I : State → Prop} (hI : Closed I) {c : Case}
    (h0 : I { modules := [([], ({} : Mod))], reg := { ps := c.ps } })
    (hput : ∀ s path file m xvals doc, ModEnt.ast path file m ∈ c.modules → I s →
      I (s.putModule path (C14.newMod m path xvals doc)))
    {s : State} (h : c.run = .ok s) :
    ∃ s1 ms, I s1 ∧ Res.mapM' (C20.xvalPass s1.reg) s1.modules = .ok ms ∧ s = { s1 with modules := ms } :=
  Case.run_induct (hI.init c.ps h0)
    (fun b b' path file m hm hb ha => hI.addMod b b' m path (fun xvals doc _ => hput b path file m xvals doc hm hb) ha)
    hI.attempt h

end CaseLift2

end PyxisVerif
