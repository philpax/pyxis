import PyxisVerif.Spec.C09
/-!
# What the model reads of the registry

A lookup (`resolveString`, `paddingType`, `resolveTy`) reads only which of a few candidate paths are keys: `["u8"]` and
`candidates scope nm` for the identifiers `nm` of the type expression (`Probed`); its answer is one of them
(`resolveString_answer`, `resolveTy_byValue`).  The functions that build arguments, functions, vftable blocks and
statements in a scope read the registry through such lookups only.  Everything after a lookup reads the pointer size
and, of the entry at a by-value dependency of the type at hand, only whether it is there and what it is resolved to
(`Registry.seen`).  Each reader is stated once, with exactly what it reads as hypothesis; a relation between two
registries is used by showing that it gives that hypothesis: equal entries give equal `seen`, and so does `ResLe`
(the resolved entries are kept) at an entry that is resolved.
-/
namespace PyxisVerif

/-- all a reader can tell of the entry at `p`: no entry, an unresolved one, or what it is resolved to -/
def Registry.seen (r : Registry) (p : Path) : Option (Option Resolved) := (r.get p).map (·.resolved?)

theorem Registry.seen_of_get {s t : Registry} {p : Path} (h : t.get p = s.get p) : t.seen p = s.seen p := by
  unfold Registry.seen; rw [h]

theorem Registry.seen_cases {s t : Registry} {p : Path} (h : t.seen p = s.seen p) :
    (t.get p = none ∧ s.get p = none) ∨ ∃ i j, t.get p = some i ∧ s.get p = some j ∧ i.resolved? = j.resolved? := by
  unfold Registry.seen at h
  cases ht : t.get p with
  | none =>
    cases hs : s.get p with
    | none => exact .inl ⟨rfl, rfl⟩
    | some j => rw [ht, hs] at h; cases h
  | some i =>
    cases hs : s.get p with
    | none => rw [ht, hs] at h; cases h
    | some j => rw [ht, hs] at h; exact .inr ⟨i, j, rfl, rfl, Option.some.inj h⟩

theorem Registry.bind_resolved {β} (r : Registry) (p : Path) (f : Resolved → β) :
    ((r.get p).bind fun i => i.resolved?.map f) = (r.seen p).bind (·.map f) := by
  unfold Registry.seen; cases r.get p <;> rfl

namespace C19

/-- `t` keeps the resolved entries of `s` -/
def ResLe (s t : Registry) : Prop :=
  ∀ q i res, s.get q = some i → i.resolved? = some res → ∃ i', t.get q = some i' ∧ i'.resolved? = some res

theorem ResLe.refl (s : Registry) : ResLe s s := fun _ i _ hi hr => ⟨i, hi, hr⟩

theorem ResLe.trans {s t u : Registry} (h1 : ResLe s t) (h2 : ResLe t u) : ResLe s u := by
  intro q i res hi hr
  obtain ⟨i', hi', hr'⟩ := h1 q i res hi hr
  exact h2 q i' res hi' hr'

theorem ResLe.seen {s t : Registry} (hle : ResLe s t) {p : Path}
    (hk : ∃ i res, s.get p = some i ∧ i.resolved? = some res) : t.seen p = s.seen p := by
  obtain ⟨i, res, hi, hr⟩ := hk
  obtain ⟨i', hi', hr'⟩ := hle p i res hi hr
  simp only [Registry.seen, hi, hi', Option.map_some, hr, hr']

theorem mapM'_congr {α β} (f g : α → Res β) (l : List α) (h : ∀ a ∈ l, f a = g a) :
    Res.mapM' f l = Res.mapM' g l := by
  induction l with
  | nil => rfl
  | cons a l ih =>
    unfold Res.mapM'
    rw [h a List.mem_cons_self, ih (fun x hx => h x (List.mem_cons_of_mem _ hx))]

end C19

namespace Mono

theorem foldlM_congr {α β} (f g : β → α → Res β) (l : List α) (b : β) (h : ∀ b, ∀ a ∈ l, f b a = g b a) :
    Res.foldlM f b l = Res.foldlM g b l := by
  induction l generalizing b with
  | nil => rfl
  | cons a l ih =>
    unfold Res.foldlM
    rw [h b a List.mem_cons_self]
    split
    · exact ih _ (fun b x hx => h b x (List.mem_cons_of_mem _ hx))
    all_goals rfl

theorem defaultablePath_mem (t : DTy) (p : Path) (h : t.defaultablePath = some p) : p ∈ C09.byValue t := by
  induction t with
  | raw q => simp only [DTy.defaultablePath, Option.some.injEq] at h; subst h; simp [C09.byValue]
  | cptr t _ => simp [DTy.defaultablePath] at h
  | mptr t _ => simp [DTy.defaultablePath] at h
  | arr t n ih => simp only [DTy.defaultablePath] at h; simp only [C09.byValue]; exact ih h

end Mono

namespace C02

def byValueR : RTy → List Path
  | .data t => C09.byValue t
  | .fn .. => []

end C02

namespace C09
open C02

def tyIdents : G.Ty → List String
  | .cptr t => tyIdents t
  | .mptr t => tyIdents t
  | .arr t _ => tyIdents t
  | .ident s => [s]
  | .unk _ => []

def argIdents : G.Arg → List String
  | .named _ t => tyIdents t
  | _ => []

def funcIdents (f : G.Func) : List String :=
  f.args.flatMap argIdents ++ (match f.ret with | some t => tyIdents t | none => [])

def stmtIdents (st : G.Stmt) : List String :=
  match st.field with
  | .field _ _ ty => tyIdents ty
  | .vftable fns => fns.flatMap funcIdents

/-- the keys that lookups of the type identifiers `ids` in `scope`, and of `u8` for a padding type, may test -/
def Probed (scope : List Path) (ids : List String) (q : Path) : Prop :=
  q = ["u8"] ∨ ∃ nm ∈ ids, q ∈ candidates scope nm

theorem Probed.mono {scope : List Path} {ids ids' : List String} (h : ∀ nm ∈ ids, nm ∈ ids') {q : Path} :
    Probed scope ids q → Probed scope ids' q
  | .inl e => .inl e
  | .inr ⟨nm, hnm, hq⟩ => .inr ⟨nm, h nm hnm, hq⟩

theorem find?_congr' {α} (p q : α → Bool) (l : List α) (h : ∀ x ∈ l, p x = q x) :
    l.find? p = l.find? q := by
  induction l with
  | nil => rfl
  | cons a l ih =>
    simp only [List.find?_cons, h a (List.mem_cons_self ..)]
    rw [ih (fun x hx => h x (List.mem_cons_of_mem _ hx))]

section keys
variable {s t : Registry} {scope : List Path}

theorem resolveString_congr {name : String} (h : ∀ p ∈ candidates scope name, t.contains p = s.contains p) :
    t.resolveString scope name = s.resolveString scope name := by
  unfold Registry.resolveString
  have hsc : ∀ p ∈ scope, t.contains p = s.contains p := fun p hp => h p (by simp [candidates, hp])
  have e1 : scope.filter t.contains = scope.filter s.contains := List.filter_congr hsc
  have e2 : scope.filter (fun p => !t.contains p) = scope.filter (fun p => !s.contains p) :=
    List.filter_congr (fun p hp => by rw [hsc p hp])
  have e3 : ((([] : Path) :: scope.filter (fun p => !s.contains p)).map (· ++ [name])).find? t.contains
      = ((([] : Path) :: scope.filter (fun p => !s.contains p)).map (· ++ [name])).find? s.contains := by
    apply find?_congr'
    intro p hp
    apply h
    simp only [List.map_cons, List.nil_append, List.mem_cons, List.mem_map, List.mem_filter] at hp
    simp only [candidates, List.mem_append, List.mem_singleton, List.mem_map]
    rcases hp with rfl | ⟨u, ⟨hu, _⟩, rfl⟩
    · exact .inl (.inr rfl)
    · exact .inr ⟨u, hu, rfl⟩
  simp only [e1, e2, e3]

theorem paddingType_congr (h : t.contains ["u8"] = s.contains ["u8"]) : t.paddingType = s.paddingType := by
  funext n
  have e : t.resolveString [] "u8" = s.resolveString [] "u8" :=
    resolveString_congr (fun p hp => by
      simp only [candidates, List.nil_append, List.map_nil, List.append_nil, List.mem_singleton] at hp
      rw [hp, h])
  simp only [Registry.paddingType, e]

theorem resolveTy_congr {ty : G.Ty} (h : ∀ q, Probed scope (tyIdents ty) q → t.contains q = s.contains q) :
    t.resolveTy scope ty = s.resolveTy scope ty := by
  induction ty with
  | cptr ty ih => simp only [Registry.resolveTy, ih h]
  | mptr ty ih => simp only [Registry.resolveTy, ih h]
  | arr ty n ih => simp only [Registry.resolveTy, ih h]
  | ident nm =>
    simp only [Registry.resolveTy,
      resolveString_congr (fun q hq => h q (.inr ⟨nm, List.mem_singleton.mpr rfl, hq⟩))]
  | unk n => simp only [Registry.resolveTy, paddingType_congr (h _ (.inl rfl))]

theorem buildArg_congr {a : G.Arg} (h : ∀ q, Probed scope (argIdents a) q → t.contains q = s.contains q) :
    buildArg t scope a = buildArg s scope a := by
  cases a with
  | constSelf => rfl
  | mutSelf => rfl
  | named n ty => simp only [buildArg, resolveTy_congr (ty := ty) h]

theorem buildFunction_congr {f : G.Func} (h : ∀ q, Probed scope (funcIdents f) q → t.contains q = s.contains q)
    (isV : Bool) : buildFunction t scope isV f = buildFunction s scope isV f := by
  unfold buildFunction
  have e1 : Res.mapM' (buildArg t scope) f.args = Res.mapM' (buildArg s scope) f.args :=
    C19.mapM'_congr _ _ _ fun a ha => buildArg_congr fun q hq =>
      h q (hq.mono fun nm hnm => List.mem_append.mpr (.inl (List.mem_flatMap.mpr ⟨a, ha, hnm⟩)))
  rw [e1]
  cases hr : f.ret with
  | none => rfl
  | some ty =>
    simp only [resolveTy_congr (ty := ty) fun q hq => h q (hq.mono fun nm hnm => by
      unfold funcIdents; rw [hr]; exact List.mem_append.mpr (.inr hnm))]

theorem convertVfuncs_congr {fns : List G.Func}
    (h : ∀ f ∈ fns, ∀ q, Probed scope (funcIdents f) q → t.contains q = s.contains q) (size : Option Nat) :
    convertVfuncs t scope size fns = convertVfuncs s scope size fns := by
  unfold convertVfuncs
  congr 1
  apply Mono.foldlM_congr
  intro out f hf
  simp only [buildFunction_congr (h f hf)]

theorem stmtStep_congr (acc : StmtAcc) {ist : Nat × G.Stmt}
    (h : ∀ q, Probed scope (stmtIdents ist.2) q → t.contains q = s.contains q) :
    stmtStep t scope acc ist = stmtStep s scope acc ist := by
  obtain ⟨idx, st⟩ := ist
  unfold stmtStep
  unfold stmtIdents at h
  simp only [] at h ⊢
  cases hf : st.field with
  | field vis name ty =>
    rw [hf] at h
    simp only [resolveTy_congr h]
  | vftable fns =>
    rw [hf] at h
    simp only [convertVfuncs_congr fun f hf q hq => h q (hq.mono fun nm hnm => List.mem_flatMap.mpr ⟨f, hf, hnm⟩)]

theorem addImplFns_congr (impl : Option G.Impl)
    (h : ∀ im, impl = some im → ∀ f ∈ im.fns, ∀ q, Probed scope (funcIdents f) q → t.contains q = s.contains q)
    (acc : InjAcc) : addImplFns t scope impl acc = addImplFns s scope impl acc := by
  unfold addImplFns
  cases impl with
  | none => rfl
  | some im =>
    simp only []
    exact Mono.foldlM_congr _ _ im.fns acc fun b f hf => by simp only [buildFunction_congr (h im rfl f hf)]

theorem nameRegions_congr (h : t.paddingType = s.paddingType) : nameRegions t = nameRegions s := by
  funext off ps
  induction ps generalizing off with
  | nil => simp only [nameRegions]
  | cons p ps ih =>
    unfold nameRegions
    simp only [h, ih]

end keys

/-- the answer of a lookup is a candidate, and a key -/
theorem resolveString_answer {r : Registry} {scope : List Path} {name : String} {d : DTy}
    (h : r.resolveString scope name = some d) :
    ∃ p, d = .raw p ∧ p ∈ candidates scope name ∧ r.contains p = true := by
  unfold Registry.resolveString at h
  simp only at h
  split at h
  · next p hf =>
    cases h
    have hm := List.mem_of_find?_eq_some hf
    rw [List.mem_reverse, List.mem_filter] at hm
    exact ⟨p, rfl, by simp [candidates, hm.1], hm.2⟩
  · split at h
    · next p hf =>
      cases h
      refine ⟨p, rfl, ?_, List.find?_some hf⟩
      have hm := List.mem_of_find?_eq_some hf
      simp only [List.map_cons, List.nil_append, List.mem_cons, List.mem_map, List.mem_filter] at hm
      simp only [candidates, List.mem_append, List.mem_singleton, List.mem_map]
      rcases hm with rfl | ⟨u, ⟨hu, _⟩, rfl⟩
      · exact .inl (.inr rfl)
      · exact .inr ⟨u, hu, rfl⟩
    · cases h

theorem paddingType_answer {r : Registry} {n : Nat} {d : DTy} (h : r.paddingType n = .ok d) :
    d = .arr (.raw ["u8"]) n ∧ r.contains ["u8"] = true := by
  unfold Registry.paddingType at h
  split at h
  · next d' hd' =>
    cases h
    obtain ⟨p, rfl, hc, hk⟩ := resolveString_answer hd'
    simp only [candidates, List.nil_append, List.map_nil, List.append_nil, List.mem_singleton] at hc
    subst hc
    exact ⟨rfl, hk⟩
  · cases h

/-- a successful `resolveTy` follows the type expression down to a lookup or a padding type -/
theorem resolveTy_ok_induct {r : Registry} {scope : List Path} {P : G.Ty → DTy → Prop}
    (ident : ∀ s dt, r.resolveString scope s = some dt → P (.ident s) dt)
    (unk : ∀ n dt, r.paddingType n = .ok dt → P (.unk n) dt)
    (cptr : ∀ t dt, P t dt → P (.cptr t) (.cptr dt)) (mptr : ∀ t dt, P t dt → P (.mptr t) (.mptr dt))
    (arr : ∀ t n dt, P t dt → P (.arr t n) (.arr dt n))
    {t : G.Ty} {dt : DTy} (h : r.resolveTy scope t = .ok dt) : P t dt := by
  induction t generalizing dt with
  | cptr t ih =>
    unfold Registry.resolveTy at h
    split at h
    · next t' ht' => cases h; exact cptr t t' (ih ht')
    · next hne => exact absurd h (hne dt)
  | mptr t ih =>
    unfold Registry.resolveTy at h
    split at h
    · next t' ht' => cases h; exact mptr t t' (ih ht')
    · next hne => exact absurd h (hne dt)
  | arr t n ih =>
    unfold Registry.resolveTy at h
    split at h
    · next t' ht' => cases h; exact arr t n t' (ih ht')
    · next hne => exact absurd h (hne dt)
  | ident s =>
    unfold Registry.resolveTy at h
    split at h
    · next t' ht' => cases h; exact ident s _ ht'
    · cases h
  | unk n => exact unk n dt h

theorem resolveTy_byValue {r : Registry} {scope : List Path} {ty : G.Ty} {d : DTy} (h : r.resolveTy scope ty = .ok d) :
    ∀ q ∈ byValue d, r.contains q = true ∧ Probed scope (tyIdents ty) q := by
  refine resolveTy_ok_induct (P := fun ty d => ∀ q ∈ byValue d, r.contains q = true ∧ Probed scope (tyIdents ty) q)
    ?_ ?_ ?_ ?_ ?_ h
  · intro nm d hd q hq
    obtain ⟨p, rfl, hc, hk⟩ := resolveString_answer hd
    rw [List.mem_singleton.mp hq]
    exact ⟨hk, .inr ⟨nm, List.mem_singleton.mpr rfl, hc⟩⟩
  · intro n d hd q hq
    obtain ⟨rfl, hk⟩ := paddingType_answer hd
    rw [List.mem_singleton.mp hq]
    exact ⟨hk, .inl rfl⟩
  · intro _ _ _ q hq; cases hq
  · intro _ _ _ q hq; cases hq
  · intro _ _ _ ih; exact ih

section resolved
variable {s t : Registry}

theorem dsize_congr (hps : t.ps = s.ps) {d : DTy} (h : ∀ p ∈ byValue d, t.seen p = s.seen p) :
    d.size t = d.size s ∧ d.align t = d.align s := by
  induction d with
  | raw p =>
    simp only [DTy.size, DTy.align, Registry.bind_resolved, h p (List.mem_singleton.mpr rfl), and_self]
  | cptr d _ => simp only [DTy.size, DTy.align, hps, and_self]
  | mptr d _ => simp only [DTy.size, DTy.align, hps, and_self]
  | arr d n ih => simp only [DTy.size, DTy.align, (ih h).1, (ih h).2, and_self]

theorem rsize_congr (hps : t.ps = s.ps) {r : RTy} (h : ∀ p ∈ byValueR r, t.seen p = s.seen p) :
    r.size t = r.size s ∧ r.align t = r.align s := by
  cases r with
  | data d => exact dsize_congr hps h
  | fn cc args ret => simp only [RTy.size, RTy.align, hps, and_self]

theorem toPField_congr (hps : t.ps = s.ps) (addr : Option Nat) {r : Region}
    (h : ∀ p ∈ byValueR r.ty, t.seen p = s.seen p) : toPField t addr r = toPField s addr r := by
  unfold toPField
  rw [(rsize_congr hps h).1, (rsize_congr hps h).2]

theorem regionNameAndTypeDef_congr {r : Region} (h : ∀ p ∈ byValueR r.ty, t.seen p = s.seen p) :
    regionNameAndTypeDef t r = regionNameAndTypeDef s r := by
  unfold regionNameAndTypeDef
  cases hn : r.name with
  | none => rfl
  | some name =>
    simp only []
    cases hty : r.ty with
    | fn cc args ret => rfl
    | data d =>
      cases d with
      | raw p =>
        rw [hty] at h
        rcases Registry.seen_cases (h p (List.mem_singleton.mpr rfl)) with ⟨e1, e2⟩ | ⟨i, j, e1, e2, e3⟩
        · simp only [e1, e2]
        · simp only [e1, e2, e3]
      | cptr d => rfl
      | mptr d => rfl
      | arr d n => rfl

theorem checkDefaultable_congr (regions : List Region)
    (h : ∀ r ∈ regions, ∀ p ∈ byValueR r.ty, t.seen p = s.seen p) :
    checkDefaultable t regions = checkDefaultable s regions := by
  unfold checkDefaultable
  apply Mono.foldlM_congr
  intro _ reg hreg
  cases hd : defaultablePath reg.ty with
  | none => rfl
  | some p =>
    simp only []
    have hp : p ∈ byValueR reg.ty := by
      cases hty : reg.ty with
      | fn cc args ret => rw [hty] at hd; simp [defaultablePath] at hd
      | data d => rw [hty] at hd; exact Mono.defaultablePath_mem d p hd
    rcases Registry.seen_cases (h reg hreg p hp) with ⟨e1, e2⟩ | ⟨i, j, e1, e2, e3⟩
    · simp only [e1, e2]
    · simp only [e1, e2, e3]

theorem injectBases_congr (regions : List Region) (acc : InjAcc)
    (h : ∀ r ∈ regions, ∀ p ∈ byValueR r.ty, t.seen p = s.seen p) :
    injectBases t regions acc = injectBases s regions acc := by
  unfold injectBases
  apply Mono.foldlM_congr
  intro acc ib hib
  have hmem : ib.2 ∈ regions := by
    obtain ⟨p, hp, rfl⟩ := List.mem_map.mp hib
    obtain ⟨x, i⟩ := p
    rw [List.mem_zipIdx_iff_getElem?] at hp
    exact (List.mem_filter.mp (List.mem_of_getElem? hp)).1
  simp only [regionNameAndTypeDef_congr (h _ hmem)]

theorem baseVftable_congr (fb : Option Region) (h : ∀ b, fb = some b → ∀ p ∈ byValueR b.ty, t.seen p = s.seen p) :
    baseVftable t fb = baseVftable s fb := by
  unfold baseVftable
  cases fb with
  | none => rfl
  | some b => simp only [regionNameAndTypeDef_congr (h b rfl)]

end resolved

end C09
end PyxisVerif
