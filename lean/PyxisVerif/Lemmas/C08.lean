import PyxisVerif.Spec.C08
import PyxisVerif.Lemmas.Build
import PyxisVerif.Lemmas.C14
/-!
# Enums (C08)

`integer_type_range` reads the table `intTypes` (`intTypeRange_raw`), the case loop computes `specValues` and the
marker indices (`enumLoop`); `buildEnum_spec` puts the inversion of `enum_definition::build` and these together.
-/
namespace PyxisVerif.C08
open Gen

/-- the range `integer_type_range` gives a type of that signedness and width -/
def intRange (signed : Bool) (bits : Nat) : Option (Int × Int) :=
  if bits = 128 then some (-(2 ^ 127), 2 ^ 127 - 1)
  else if signed then some (-(2 ^ (bits - 1)), 2 ^ (bits - 1) - 1)
  else some (-(2 ^ (bits - 1)), 2 ^ bits - 1)

theorem ite_eq_bind {β γ} {c : Prop} [Decidable c] {x : β} {f : β → Option γ} {a e : Option γ} {t : Option β}
    (ha : a = f x) (he : e = t.bind f) : (if c then a else e) = (if c then some x else t).bind f := by
  split
  · exact ha
  · exact he

theorem intTypeRange_raw (name : String) :
    intTypeRange (.raw [name]) = (intTypes.lookup name).bind fun sb => intRange sb.1 sb.2 := by
  simp only [intTypes, C14.lookup_cons_ite, List.lookup_nil]
  unfold intTypeRange
  dsimp only
  repeat refine ite_eq_bind rfl ?_
  rfl

theorem two_pow_eq (bits : Nat) (hb : 0 < bits) : (2 : Int) ^ bits = 2 * 2 ^ (bits - 1) := by
  obtain ⟨k, rfl⟩ : ∃ k, bits = k + 1 := ⟨bits - 1, by omega⟩
  rw [Int.pow_succ, Nat.add_sub_cancel, Int.mul_comm]

theorem intRange_spec {signed : Bool} {bits : Nat} {range : Int × Int} (h : intRange signed bits = some range)
    (hb : 0 < bits) :
    -(2 ^ (bits - 1)) ≤ range.1 ∧ range.2 < 2 ^ bits ∧ (signed = true → range = rustRange true bits) := by
  have hP := two_pow_eq bits hb
  have hH : (0 : Int) < 2 ^ (bits - 1) := Int.pow_pos (by decide)
  unfold intRange at h
  split at h
  · next h128 =>
    subst h128
    cases h
    exact ⟨Int.le_refl _, by change (2 : Int) ^ 127 - 1 < _; rw [hP]; change _ < 2 * (2 : Int) ^ 127; omega, fun _ => rfl⟩
  · split at h
    · cases h; exact ⟨Int.le_refl _, by dsimp only; omega, fun _ => rfl⟩
    · next hs => cases h; exact ⟨Int.le_refl _, by dsimp only; omega, fun h => absurd h hs⟩

theorem intTypeRange_spec (ty : DTy) (range : Int × Int) (h : intTypeRange ty = some range) :
    ∃ name signed bits, ty = .raw [name] ∧ (name, signed, bits) ∈ intTypes ∧ 0 < bits ∧
      -(2 ^ (bits - 1)) ≤ range.1 ∧ range.2 < 2 ^ bits ∧
      (signed = true → range = rustRange true bits) := by
  obtain ⟨name, rfl⟩ : ∃ name, ty = .raw [name] := by
    unfold intTypeRange at h
    split at h
    · exact ⟨_, rfl⟩
    · cases h
  rw [intTypeRange_raw, Option.bind_eq_some_iff] at h
  obtain ⟨⟨signed, bits⟩, hl, hr⟩ := h
  have hm := C14.mem_of_lookup _ _ _ hl
  have hb : 0 < bits := (by decide : ∀ e ∈ intTypes, 0 < e.2.2) _ hm
  exact ⟨name, signed, bits, rfl, hm, hb, intRange_spec hr hb⟩

/-- `markerIdxs` with an explicit first index -/
def markerFrom (n : Nat) (stmts : List G.EnumStmt) : List Nat :=
  ((stmts.zipIdx n).filter fun p => hasMarker p.1).map (·.2)

theorem markerIdxs_eq (stmts : List G.EnumStmt) : markerIdxs stmts = markerFrom 0 stmts := rfl

theorem markerFrom_cons (n : Nat) (st : G.EnumStmt) (rest : List G.EnumStmt) :
    markerFrom n (st :: rest) =
      if hasMarker st then n :: markerFrom (n + 1) rest else markerFrom (n + 1) rest := by
  simp only [markerFrom, List.zipIdx_cons, List.filter_cons]
  split <;> simp

theorem specValues_cons (nxt value : Int) (st : G.EnumStmt) (rest : List G.EnumStmt)
    (hv : st.expr = some (.int value) ∨ (st.expr = none ∧ value = nxt)) :
    specValues nxt (st :: rest) = (st.name, value) :: specValues (value + 1) rest := by
  rcases hv with hv | ⟨hv, rfl⟩ <;> simp [specValues, hv]

theorem enumLoop (range : Int × Int) (stmts : List G.EnumStmt) (acc acc' : EnumAcc) (nxt : Int)
    (hl : ∀ v, acc.last = some v → v = nxt)
    (h : Res.foldlM (enumStmtStep range) acc stmts = .ok acc') :
    acc'.fields = acc.fields ++ specValues nxt stmts ∧
    ((∀ nv ∈ acc.fields, range.1 ≤ nv.2 ∧ nv.2 ≤ range.2) →
      ∀ nv ∈ acc'.fields, range.1 ≤ nv.2 ∧ nv.2 ≤ range.2) ∧
    acc'.defaultIdx.toList = acc.defaultIdx.toList ++ markerFrom acc.fields.length stmts := by
  induction stmts generalizing acc nxt with
  | nil =>
    cases Res.foldlM_nil_ok.mp h
    simp [specValues, markerFrom]
  | cons st rest ih =>
    obtain ⟨acc1, h1, h⟩ := Res.foldlM_cons_ok.mp h
    · obtain ⟨value, hv, hlo, hhi, hf, hlast, hdef, _⟩ := enumStmtStep_ok range acc acc1 st h1
      have hl1 : ∀ v, acc1.last = some v → v = value + 1 := by
        intro v hv1
        rw [hlast] at hv1
        split at hv1
        · cases hv1
        · exact (Option.some.inj hv1).symm
      obtain ⟨i1, i2, i3⟩ := ih acc1 (value + 1) hl1 h
      have hv' : st.expr = some (.int value) ∨ (st.expr = none ∧ value = nxt) := by
        rcases hv with hv | ⟨hv, hv2⟩
        · exact Or.inl hv
        · exact Or.inr ⟨hv, hl _ hv2⟩
      refine ⟨?_, ?_, ?_⟩
      · rw [i1, hf, specValues_cons nxt value st rest hv', List.append_assoc]
        rfl
      · intro hacc
        apply i2
        intro nv hnv
        rw [hf, List.mem_append] at hnv
        rcases hnv with hnv | hnv
        · exact hacc nv hnv
        · simp only [List.mem_singleton] at hnv
          subst hnv
          exact ⟨hlo, hhi⟩
      · rw [i3, hf, markerFrom_cons, List.length_append, List.length_singleton]
        split at hdef
        · rename_i hm
          rw [hdef.1, hdef.2, if_pos hm]
          rfl
        · rename_i hm
          rw [hdef, if_neg hm]

/-! ## `enum_definition::build` -/

/-- an accepted enum: base type, size and alignment; the declared discriminants, within the range of the base
    type; the declared default marker -/
theorem buildEnum_spec (s : State) (p : Path) (d : G.EnumDef) (r : Resolved) (h : buildEnum s p d = .ok r) :
    ∃ ed name signed bits, r.inner = .enum ed ∧ ed.ty = .raw [name] ∧ (name, signed, bits) ∈ intTypes ∧ 0 < bits ∧
      DTy.size s.reg ed.ty = .ok (some r.size) ∧ DTy.align s.reg ed.ty = some r.align ∧
      ed.fields = specValues 0 d.stmts ∧
      (∀ nv ∈ ed.fields, -(2 ^ (bits - 1)) ≤ nv.2 ∧ nv.2 < 2 ^ bits ∧ (signed = true → Fits signed bits nv.2)) ∧
      ed.defaultable = isDefaultable d.attrs ∧ ed.defaultIdx.toList = markerIdxs d.stmts ∧
      ed.defaultable = ed.defaultIdx.isSome := by
  obtain ⟨ed, _, range, acc, ea, hr, E⟩ := CaseLift.buildEnum_ok_inv h
  obtain ⟨i1, i2, i3⟩ := enumLoop range d.stmts {} acc 0 (fun v hv => by cases hv; rfl) E.stmts
  obtain ⟨name, signed, bits, hty, hmem, hpos, hlo, hhi, hsg⟩ := intTypeRange_spec ed.ty range E.range
  rw [← E.fields] at i1 i2
  rw [← E.defaultIdx] at i3
  refine ⟨ed, name, signed, bits, hr, hty, hmem, hpos, E.size, E.align, by simpa using i1, fun nv hnv => ?_,
    E.defaultable.trans (enumAttrs_ok E.attrs).2.2.2, by rw [markerIdxs_eq]; simpa using i3,
    E.defaultable.trans (E.marked.trans (congrArg Option.isSome E.defaultIdx.symm))⟩
  obtain ⟨h1, h2⟩ := i2 (fun _ h => by cases h) nv hnv
  refine ⟨Int.le_trans hlo h1, Int.lt_of_le_of_lt h2 hhi, fun hs => ?_⟩
  rw [hsg hs] at h1 h2
  exact hs ▸ ⟨h1, h2⟩

end PyxisVerif.C08
