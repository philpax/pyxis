import PyxisVerif.Spec.C07
/-! `addFunctions`, one base function at a time -/
namespace PyxisVerif.C07
open Gen

def injStep (baseName : String) (acc : InjAcc) (f : SFunc) : InjAcc :=
  let name := if acc.used.contains f.name then fmtRenamed baseName f.name else f.name
  let f' := { f with name, body := .field baseName f.name }
  { fns := acc.fns ++ [f'], used := name :: acc.used }

theorem addFunctions_nil (base : String) (acc : InjAcc) : addFunctions base acc [] = acc := rfl

theorem addFunctions_cons (base : String) (acc : InjAcc) (f : SFunc) (fs : List SFunc) :
    addFunctions base acc (f :: fs)
      = if reexposable f then addFunctions base (injStep base acc f) fs else addFunctions base acc fs := by
  unfold addFunctions
  rw [List.filter_cons]
  by_cases c : reexposable f = true
  · have c' : (f.isPublic && !f.isInternal) = true := c
    simp only [c, c', if_true, List.foldl_cons]; rfl
  · have c' : (f.isPublic && !f.isInternal) = false := by
      have : reexposable f = false := by simpa using c
      exact this
    simp only [c, c']; rfl

theorem dfs_unfold_lem (reg : Registry) (fuel : Nat) (td : TypeDefn) (fields : List String) :
    Emit.dfsHierarchy reg (fuel + 1) td fields =
      (td.regions.filter (·.isBase)).flatMap fun r =>
        match regionNameAndTypeDef reg r with
        | .ok (some (name, btd)) => (fields ++ [name], r.ty) :: Emit.dfsHierarchy reg fuel btd (fields ++ [name])
        | _ => [] := by
  rw [Emit.dfsHierarchy]
  rfl

end PyxisVerif.C07
