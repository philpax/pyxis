import PyxisVerif.Spec.C13
import PyxisVerif.Lemmas.Build
import PyxisVerif.Lemmas.Readers
/-! invariants of the statement loop of `type_definition::build` (`PendingOk`) and of the case loop of
`enum_definition::build` (`CasesOk`); a resolved name is a registered path -/
namespace PyxisVerif.C13
open Gen

/-! ## the statement loop of `type_definition::build` -/

/-- the invariant of the statement loop: named fields have distinct names, base fields are named -/
def PendingOk (acc : StmtAcc) : Prop := (acc.pending.filterMap (·.2.name)).Nodup ∧ C12.PendOk acc

theorem pendingOk_step (reg : Registry) (scope : List Path) (acc : StmtAcc) (ist : Nat × G.Stmt) (acc' : StmtAcc)
    (hacc : PendingOk acc) (h : stmtStep reg scope acc ist = .ok acc') : PendingOk acc' := by
  refine ⟨?_, C12.stmtStep_pend reg scope acc acc' ist hacc.2 h⟩
  obtain ⟨idx, st⟩ := ist
  rcases stmtStep_ok h with ⟨vis, name, ty, doc, fa, t, ident, _, _, _, _, _, _, hdup, rfl⟩ |
    ⟨_, _, _, _, _, _, _, _, rfl⟩
  · -- a name was not among the earlier ones
    have hn : ∀ n, ident = some n → ∀ p ∈ acc.pending, p.2.name ≠ some n := fun n hn p hp hpn => by
      rw [hn, Option.isSome_some, Bool.true_and] at hdup
      exact List.any_eq_false.mp hdup p hp (by rw [hpn]; exact beq_self_eq_true _)
    rw [List.filterMap_append, List.nodup_append]
    refine ⟨hacc.1, ?_, fun x hx y hy hxy => ?_⟩
    · cases ident <;> simp
    · subst hxy
      obtain ⟨p, hp, hpx⟩ := List.mem_filterMap.mp hx
      obtain ⟨q, hq, hqx⟩ := List.mem_filterMap.mp hy
      cases List.mem_singleton.mp hq
      exact hn x hqx p hp hpx
  · exact hacc.1

theorem pendingOk_loop (reg : Registry) (scope : List Path) (stmts : List (Nat × G.Stmt)) (sa : StmtAcc)
    (h : Res.foldlM (stmtStep reg scope) {} stmts = .ok sa) : PendingOk sa :=
  Res.foldlM_induct (P := PendingOk) (show PendingOk {} from ⟨List.nodup_nil, fun _ hp => nomatch hp⟩)
    (fun acc ist acc' _ hacc hs => pendingOk_step reg scope acc ist acc' hacc hs) h

def CasesOk (acc : EnumAcc) : Prop := (acc.fields.map (·.1)).Nodup ∧ (acc.fields.map (·.2)).Nodup

theorem casesOk_step (range : Int × Int) (acc : EnumAcc) (st : G.EnumStmt) (acc' : EnumAcc)
    (hacc : CasesOk acc) (h : enumStmtStep range acc st = .ok acc') : CasesOk acc' := by
  obtain ⟨value, _, _, _, e, _, _, hn⟩ := C08.enumStmtStep_ok range acc acc' st h
  have hn' : ∀ nv ∈ acc.fields, nv.1 ≠ st.name ∧ nv.2 ≠ value := by
    intro nv hnv
    have := List.any_eq_false.mp hn nv hnv
    simpa using this
  unfold CasesOk
  rw [e, List.map_append, List.map_append, List.nodup_append, List.nodup_append]
  refine ⟨⟨hacc.1, by simp, ?_⟩, ⟨hacc.2, by simp, ?_⟩⟩
  · intro x hx y hy
    rw [List.mem_map] at hx
    obtain ⟨nv, hnv, rfl⟩ := hx
    simp only [List.map_cons, List.map_nil, List.mem_singleton] at hy
    subst hy
    exact (hn' nv hnv).1
  · intro x hx y hy
    rw [List.mem_map] at hx
    obtain ⟨nv, hnv, rfl⟩ := hx
    simp only [List.map_cons, List.map_nil, List.mem_singleton] at hy
    subst hy
    exact (hn' nv hnv).2

end PyxisVerif.C13
