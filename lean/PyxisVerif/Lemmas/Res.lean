import PyxisVerif.Model.Basic
/-!
# `Res`: what a successful outcome says about its parts

The model writes `match x with | .ok a => k a | e => e.cast` for Rust's `?`; a proof about an accepted
input meets one such `match` per check.  Here: the fall-through branch is never `ok`, a successful loop
is a chain of successful iterations (`foldlM_rel` carries a relation to a pure fold along it), a
successful `collect` is pointwise.
-/
namespace PyxisVerif.Res
universe u
variable {α : Type u} {β γ : Type}

theorem cast_ne_ok {α β : Type} (e : Res α) (b : β) : (e.cast : Res β) ≠ .ok b := by
  cases e <;> exact nofun

theorem isOk_eq_false_iff {α : Type} {r : Res α} : r.isOk = false ↔ ∀ a, r ≠ .ok a := by
  cases r <;> simp [isOk]

theorem bind_eq_ok {α β : Type} {x : Res α} {f : α → Res β} {b : β} :
    (x >>= f) = .ok b ↔ ∃ a, x = .ok a ∧ f a = .ok b := by
  cases x <;> simp [bind, Bind.bind]

theorem bind_congr {α β} {x : Res α} {k k' : α → Res β} (hk : ∀ a, x = .ok a → k' a = k a) :
    x.bind k' = x.bind k := by
  cases x with
  | ok a => exact hk a rfl
  | _ => rfl

theorem foldlM_nil_ok {f : β → α → Res β} {b b' : β} : foldlM f b [] = .ok b' ↔ b = b' := by
  simp [foldlM]

theorem foldlM_cons_ok {f : β → α → Res β} {b b' : β} {a : α} {as : List α} :
    foldlM f b (a :: as) = .ok b' ↔ ∃ b1, f b a = .ok b1 ∧ foldlM f b1 as = .ok b' := by
  rw [foldlM]
  cases f b a <;> simp

theorem foldlM_cons (f : β → α → Res β) (b : β) (a : α) (as : List α) :
    foldlM f b (a :: as) = (match f b a with
      | .ok b' => foldlM f b' as
      | .defer => .defer
      | .err m => .err m
      | .panic s => .panic s) := rfl

theorem foldlM_induct {P : β → Prop} {f : β → α → Res β} {l : List α} {b b' : β}
    (h0 : P b) (step : ∀ b a b', a ∈ l → P b → f b a = .ok b' → P b')
    (h : foldlM f b l = .ok b') : P b' := by
  induction l generalizing b with
  | nil => exact foldlM_nil_ok.mp h ▸ h0
  | cons a as ih =>
    obtain ⟨b1, h1, h2⟩ := foldlM_cons_ok.mp h
    exact ih (step b a b1 List.mem_cons_self h0 h1) (fun b a b' ha => step b a b' (List.mem_cons_of_mem _ ha)) h2

theorem foldlM_rel {f : β → α → Res β} {g : γ → α → γ} {R : β → γ → Prop}
    (step : ∀ b a b' c, R b c → f b a = .ok b' → R b' (g c a))
    {l : List α} {b b' : β} {c : γ} (h : foldlM f b l = .ok b') (h0 : R b c) : R b' (l.foldl g c) := by
  induction l generalizing b c with
  | nil => exact foldlM_nil_ok.mp h ▸ h0
  | cons a as ih =>
    obtain ⟨b1, h1, h2⟩ := foldlM_cons_ok.mp h
    exact ih h2 (step b a b1 c h0 h1)

theorem foldlM_ok_mem {f : β → α → Res β} {l : List α} {b b' : β} (h : foldlM f b l = .ok b') :
    ∀ a ∈ l, ∃ b1 b2, f b1 a = .ok b2 := by
  induction l generalizing b with
  | nil => exact nofun
  | cons x xs ih =>
    obtain ⟨b1, h1, h2⟩ := foldlM_cons_ok.mp h
    intro a ha
    rcases List.mem_cons.mp ha with rfl | ha
    · exact ⟨b, b1, h1⟩
    · exact ih h2 a ha

theorem foldlM_any {f : β → α → Res β} {flag : β → Bool} {p : α → Bool}
    (step : ∀ b a b', f b a = .ok b' → flag b' = (flag b || p a))
    {l : List α} {b b' : β} (h : foldlM f b l = .ok b') : flag b' = (flag b || l.any p) := by
  induction l generalizing b with
  | nil => rw [foldlM_nil_ok.mp h, List.any_nil, Bool.or_false]
  | cons a as ih =>
    obtain ⟨b1, h1, h2⟩ := foldlM_cons_ok.mp h
    rw [ih h2, step b a b1 h1, List.any_cons, Bool.or_assoc]

theorem foldlM_collect {σ : Type} {f : σ → α → Res σ} {g : α → Res β} {out : σ → List β}
    (step : ∀ s a s', f s a = .ok s' → ∃ b, g a = .ok b ∧ out s' = out s ++ [b])
    {l : List α} {s s' : σ} (h : foldlM f s l = .ok s') :
    ∃ bs, mapM' g l = .ok bs ∧ out s' = out s ++ bs := by
  induction l generalizing s with
  | nil => exact ⟨[], rfl, by rw [foldlM_nil_ok.mp h, List.append_nil]⟩
  | cons a as ih =>
    obtain ⟨s1, h1, h2⟩ := foldlM_cons_ok.mp h
    obtain ⟨b, hb, e1⟩ := step s a s1 h1
    obtain ⟨bs, hbs, e2⟩ := ih h2
    exact ⟨b :: bs, by simp only [mapM', hb, hbs], by rw [e2, e1, List.append_assoc, List.singleton_append]⟩

theorem mapM'_cons_ok {f : α → Res β} {a : α} {as : List α} {l' : List β} :
    mapM' f (a :: as) = .ok l' ↔ ∃ b bs, f a = .ok b ∧ mapM' f as = .ok bs ∧ l' = b :: bs := by
  rw [mapM']
  cases f a with
  | ok b => cases mapM' f as <;> simp [eq_comm]
  | _ => simp

theorem mapM'_induct {f : α → Res β} {P : List α → List β → Prop} (nil : P [] [])
    (cons : ∀ a b as bs, f a = .ok b → mapM' f as = .ok bs → P as bs → P (a :: as) (b :: bs))
    {l : List α} {l' : List β} (h : mapM' f l = .ok l') : P l l' := by
  induction l generalizing l' with
  | nil => cases h; exact nil
  | cons a as ih =>
    obtain ⟨b, bs, hb, hbs, rfl⟩ := mapM'_cons_ok.mp h
    exact cons a b as bs hb hbs (ih hbs)

/-- `collect::<Result<Vec<_>>>()` is pointwise and keeps the length -/
theorem mapM'_ok {f : α → Res β} {l : List α} {l' : List β} (h : mapM' f l = .ok l') :
    l'.length = l.length ∧ ∀ k (hk : k < l.length) (hk' : k < l'.length), f l[k] = .ok l'[k] := by
  refine mapM'_induct (P := fun l l' => l'.length = l.length ∧ ∀ k (hk : k < l.length) (hk' : k < l'.length),
    f l[k] = .ok l'[k]) ⟨rfl, fun k hk => absurd hk (Nat.not_lt_zero k)⟩ ?_ h
  intro a b as bs hb _ ⟨hl, hp⟩
  refine ⟨by rw [List.length_cons, List.length_cons, hl], fun k hk hk' => ?_⟩
  cases k with
  | zero => exact hb
  | succ k => exact hp k _ _

end PyxisVerif.Res
