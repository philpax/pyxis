import PyxisVerif.Lemmas.Pipeline
import PyxisVerif.Lemmas.C06
import PyxisVerif.Lemmas.C14
/-!
# What `SemanticState::new`, `add_module` and one attempt do to a state

`Lemmas/Pipeline.lean` reduces an argument about a whole run to `SemanticState::new`, one `add_module` and one
attempt.  `new` calls `add_item` for every predefined type.  `add_module` stores the module and then calls `add_item`,
under a key that is free, for every definition (unresolved) and every extern type (resolved with the declared layout).
An attempt runs the build function of the definition stored in an unresolved entry (`attemptDef`); that changes the
state only by registering the generated vftable item (`Reach2`), and a result is stored with `setState`
(`finishAttempt`).  So a predicate on states is kept by a run as soon as `putModule`, `add_item` and that `setState`
keep it (`State.new_induct`, `State.addModule_induct`, `attemptItem_induct`).
-/
namespace PyxisVerif

theorem Registry.get_add_some {r : Registry} {i j : ItemDef} {p : Path} (h : (r.add i).get p = some j) :
    (p = i.path ∧ j = i) ∨ (p ≠ i.path ∧ r.get p = some j) := by
  rw [C14.get_add] at h
  by_cases hp : p = i.path
  · rw [if_pos hp] at h; cases h; exact .inl ⟨hp, rfl⟩
  · rw [if_neg hp] at h; exact .inr ⟨hp, h⟩

theorem State.addItem_ok_or_err (s : State) (i : ItemDef) : (∃ s', s.addItem i = .ok s') ∨ ∃ m, s.addItem i = .err m := by
  unfold State.addItem
  split
  · exact .inr ⟨_, rfl⟩
  · split
    · exact .inr ⟨_, rfl⟩
    · exact .inl ⟨_, rfl⟩

theorem Path.parent?_concat (path : Path) (name : String) : Path.parent? (path ++ [name]) = some path := by
  simp [Path.parent?]

namespace C02
open Gen

def predefItem (nm : String × Nat) : ItemDef :=
  { vis := G.Vis.pub, path := [nm.1],
    state := IState.res { size := nm.2, align := predefinedAlign nm.2,
                          inner := SInner.type { cloneable := true, copyable := true, defaultable := true } },
    cat := Cat.predefined }

def newStep (s : State) (nm : String × Nat) : State :=
  match s.addItem (predefItem nm) with
  | .ok s' => s'
  | _ => s

theorem new_eq (ps : Nat) :
    State.new ps = predefinedTypes.foldl newStep { modules := [([], ({} : Mod))], reg := { ps := ps } } := rfl

end C02

theorem State.new_induct {P : State → Prop} {ps : Nat} (h0 : P { modules := [([], ({} : Mod))], reg := { ps := ps } })
    (add : ∀ s s' nm, nm ∈ Gen.predefinedTypes → P s → s.addItem (C02.predefItem nm) = .ok s' → P s') :
    P (State.new ps) := by
  rw [C02.new_eq]
  refine List.foldlRecOn (motive := P) _ _ h0 ?_
  intro s hs nm hnm
  unfold C02.newStep
  split
  · next s' ha => exact add s s' nm hnm hs ha
  · exact hs

namespace C20

/-- the part of `add_module` that touches the registry -/
def addCore (path : Path) (s1 : State) (defs : List G.Item) (xtypes : List (String × List G.Attr)) : Res State :=
  Res.bind (Res.foldlM (C14.defStep path) s1 defs) (fun s2 => Res.foldlM (C14.xtypeStep path) s2 xtypes)

def isTypeDef (d : G.Item) : Bool := match d.inner with | .type _ => true | .enum _ => false

def implCheck (m : G.Module) : Bool :=
  m.impls.any (fun b => !(m.defs.any fun d => d.name == b.name && isTypeDef d))

theorem addModule_eq (s : State) (m : G.Module) (path : Path) :
    s.addModule m path =
      Res.bind (Res.mapM' C14.xvalStep m.xvals) (fun xvals =>
        Res.bind (match G.docOf m.attrs with
                  | none => Res.err "doc attribute must be a string literal"
                  | some doc => Res.ok doc) (fun doc =>
          if implCheck m then .err "impl block does not belong to a type defined in that module"
          else addCore path (s.putModule path (C14.newMod m path xvals doc)) m.defs m.xtypes)) := by
  unfold State.addModule
  change (match Res.mapM' C14.xvalStep m.xvals with | .ok xvals => _ | e => e.cast) = _
  cases Res.mapM' C14.xvalStep m.xvals with
  | ok xvals =>
    simp only [Res.bind]
    cases G.docOf m.attrs with
    | none => rfl
    | some doc =>
      simp only []
      change (if implCheck m = true then _ else _) = _
      by_cases hc : implCheck m = true
      · rw [if_pos hc, if_pos hc]
      · rw [if_neg hc, if_neg hc]
        unfold addCore C14.newMod
        change (match Res.foldlM (C14.defStep path) _ m.defs with | .ok s2 => _ | e => e) = _
        cases Res.foldlM (C14.defStep path) _ m.defs <;> rfl
  | _ => rfl

end C20

theorem State.addModule_induct {P : State → Prop} {s s' : State} {m : G.Module} {path : Path}
    (put : ∀ xvals doc, Res.mapM' C14.xvalStep m.xvals = .ok xvals → P (s.putModule path (C14.newMod m path xvals doc)))
    (defs : ∀ b b' d, d ∈ m.defs → P b → C14.defStep path b d = .ok b' → P b')
    (xtypes : ∀ b b' xt, xt ∈ m.xtypes → P b → C14.xtypeStep path b xt = .ok b' → P b')
    (h : s.addModule m path = .ok s') : P s' := by
  obtain ⟨xvals, doc, s2, hx, h1, h2⟩ := C14.addModule_inv s s' m path h
  exact Res.foldlM_induct (Res.foldlM_induct (put xvals doc hx) (fun b d b' hd => defs b b' d hd) h1)
    (fun b xt b' hxt => xtypes b b' xt hxt) h2

theorem State.addModule_of_addItem {P : State → Prop} {s s' : State} {m : G.Module} {path : Path}
    (put : ∀ xvals doc, Res.mapM' C14.xvalStep m.xvals = .ok xvals → P (s.putModule path (C14.newMod m path xvals doc)))
    (add : ∀ b i b', P b → b.reg.get i.path = none → b.addItem i = .ok b' → P b')
    (h : s.addModule m path = .ok s') : P s' := by
  refine State.addModule_induct put ?_ ?_ h
  · intro b b' d _ hb hd
    obtain ⟨hfree, ha⟩ := C14.defStep_ok_inv hd
    exact add b _ b' hb hfree ha
  · intro b b' xt _ hb hx
    obtain ⟨_, _, _, _, _, _, hfree, ha⟩ := C14.xtypeStep_ok_inv hx
    exact add b _ b' hb hfree ha

namespace C02

/-- the only way a build function changes the state: the generated vftable item of `owner` is added, under a key
    that was free or already held that very item -/
def Reach2 (s s1 : State) (owner : Path) : Prop :=
  s1 = s ∨ ∃ vis fns item, buildVftableItem s.reg owner vis fns = some item ∧
    (s.reg.get item.path = none ∨ s.reg.get item.path = some item) ∧ s.addItem item = .ok s1

theorem Reach2.ps {s s1 : State} {owner : Path} (hr : Reach2 s s1 owner) : s1.reg.ps = s.reg.ps := by
  rcases hr with rfl | ⟨_, _, item, _, _, ha⟩
  · rfl
  · rw [C14.addItem_reg s s1 item ha]; rfl

theorem Reach2.get {s s1 : State} {owner : Path} (hr : Reach2 s s1 owner) {p : Path} {i : ItemDef}
    (hg : s.reg.get p = some i) : s1.reg.get p = some i := by
  rcases hr with rfl | ⟨_, _, item, _, hfree, ha⟩
  · exact hg
  · rw [C14.addItem_reg s s1 item ha, C14.get_add]
    split
    · next e =>
      subst e
      rcases hfree with hf | hf
      · rw [hf] at hg; cases hg
      · rw [hf] at hg; exact hg
    · exact hg

theorem Reach2.moduleFor {s s1 : State} {owner : Path} (hr : Reach2 s s1 owner) {p : Path} {m : Mod}
    (hm : s.moduleFor p = some m) : ∃ dp, s1.moduleFor p = some { m with defPaths := dp } := by
  rcases hr with rfl | ⟨_, _, item, _, _, ha⟩
  · exact ⟨m.defPaths, hm⟩
  · unfold State.moduleFor at hm ⊢
    cases hp : Path.parent? p with
    | none => simp [hp] at hm
    | some parent =>
      simp only [hp] at hm ⊢
      exact C14.addItem_getModule s s1 item ha parent m hm

end C02
open C02 (Reach2)

def C20.conflict (r : Registry) (item : ItemDef) : Bool :=
  match r.get item.path with
  | some e => e != item
  | none => false
open C20 (conflict)

theorem C20.conflict_false {r : Registry} {item : ItemDef} (h : conflict r item = false) :
    r.get item.path = none ∨ r.get item.path = some item := by
  unfold conflict at h
  split at h
  · next e he => exact .inr (by rw [he, bne_eq_false_iff_eq.mp h])
  · next he => exact .inl he

theorem buildVftable_none_item (s : State) (owner : Path) (vis : Vis) (fb : Option Region) (fns : List SFunc)
    (hi : buildVftableItem s.reg owner vis fns = none) :
    buildVftable s owner vis fb (some fns) = (s, .ok (none, none)) := by
  unfold buildVftable
  simp only [hi]

theorem buildVftable_conflict (s : State) (owner : Path) (vis : Vis) (fb : Option Region) (fns : List SFunc)
    (item : ItemDef) (hi : buildVftableItem s.reg owner vis fns = some item) (hc : conflict s.reg item = true) :
    buildVftable s owner vis fb (some fns)
      = (s, .err "generated vftable type conflicts with another definition of that name") := by
  unfold buildVftable
  simp only [hi]
  rw [if_pos (by exact hc)]

theorem buildVftable_added (s s1 : State) (owner : Path) (vis : Vis) (fb : Option Region) (fns : List SFunc)
    (item : ItemDef) (hi : buildVftableItem s.reg owner vis fns = some item) (hc : conflict s.reg item = false)
    (ha : s.addItem item = .ok s1) :
    buildVftable s owner vis fb (some fns) = (s1, C06.vftCheck s1.reg fb fns item.path) :=
  C06.buildVftable_eq s s1 owner vis fb fns item hi hc ha

theorem buildVftable_addfail (s : State) (owner : Path) (vis : Vis) (fb : Option Region) (fns : List SFunc)
    (item : ItemDef) (hi : buildVftableItem s.reg owner vis fns = some item) (hc : conflict s.reg item = false)
    (ha : ∀ s1, s.addItem item ≠ .ok s1) :
    buildVftable s owner vis fb (some fns) = (s, (s.addItem item).cast) := by
  unfold buildVftable
  simp only [hi]
  rw [if_neg (by rw [Bool.not_eq_true]; exact hc)]

/-- `vftable::build` for a type with a `vftable` block: there is no generated item and the answer is `Ok((None, None))`;
    or it fails and registers nothing; or the generated item is registered, under a key that was free or held that very
    item, and the answer is that of the base checks -/
theorem buildVftable_some_cases (s : State) (owner : Path) (vis : Vis) (fb : Option Region) (fns : List SFunc) :
    (buildVftableItem s.reg owner vis fns = none ∧ buildVftable s owner vis fb (some fns) = (s, .ok (none, none))) ∨
    (∃ m, buildVftable s owner vis fb (some fns) = (s, .err m)) ∨
    ∃ item s1, buildVftableItem s.reg owner vis fns = some item ∧
      (s.reg.get item.path = none ∨ s.reg.get item.path = some item) ∧ s.addItem item = .ok s1 ∧
      buildVftable s owner vis fb (some fns) = (s1, C06.vftCheck s1.reg fb fns item.path) := by
  cases hi : buildVftableItem s.reg owner vis fns with
  | none => exact .inl ⟨rfl, buildVftable_none_item s owner vis fb fns hi⟩
  | some item =>
    cases hc : conflict s.reg item with
    | true => exact .inr (.inl ⟨_, buildVftable_conflict s owner vis fb fns item hi hc⟩)
    | false =>
      rcases s.addItem_ok_or_err item with ⟨s1, ha⟩ | ⟨m, ha⟩
      · exact .inr (.inr ⟨item, s1, rfl, C20.conflict_false hc, ha, buildVftable_added s s1 owner vis fb fns item hi hc ha⟩)
      · refine .inr (.inl ⟨m, ?_⟩)
        rw [buildVftable_addfail s owner vis fb fns item hi hc (fun s1 h => by rw [ha] at h; cases h), ha]
        rfl

theorem vftablePath_of_item {reg : Registry} {owner : Path} {vis : Vis} {fns : List SFunc} {item : ItemDef}
    (h : buildVftableItem reg owner vis fns = some item) : vftablePath owner = some item.path := by
  obtain ⟨q, hq, rfl⟩ := Option.map_eq_some_iff.mp h
  exact hq

/-- the ways `vftable::build` succeeds for a type at `owner` whose first `#[base]` field is `fb` and whose vftable
    block (if any) converted to `vfns`: the type's table `v` and the pointer region `ptr` handed to the layout core -/
theorem buildVftable_ok {s s1 : State} {owner : Path} {vis : Vis} {fb : Option Region} {vfns : Option (List SFunc)}
    {v : Option Vft} {ptr : Option Region} (h : buildVftable s owner vis fb vfns = (s1, .ok (v, ptr))) :
    -- no block: the table of the first base, if it has one, and no pointer of its own
    (vfns = none ∧ s1 = s ∧ ptr = none ∧
      ((baseVftable s.reg fb = .ok none ∧ v = none) ∨
        ∃ bn bv, baseVftable s.reg fb = .ok (some (bn, bv)) ∧
          v = some { fns := bv.fns, baseField := some bn, ty := bv.ty })) ∨
    -- a block on a type without a parent path: ignored
    (∃ fns, vfns = some fns ∧ vftablePath owner = none ∧ s1 = s ∧ ptr = none ∧ v = none) ∨
    -- a block: the generated struct is registered under a key that was free or held that very item; then, read in
    -- the new registry, either no base table (own table, own pointer) or one whose slots are a prefix (its pointer)
    (∃ fns item, vfns = some fns ∧ buildVftableItem s.reg owner vis fns = some item ∧
      (s.reg.get item.path = none ∨ s.reg.get item.path = some item) ∧ s.addItem item = .ok s1 ∧
      ((baseVftable s1.reg fb = .ok none ∧ ptr = some (C06.ownPointer item.path) ∧
          v = some { fns := fns, baseField := none, ty := .cptr (.raw item.path) }) ∨
        ∃ bn bv, baseVftable s1.reg fb = .ok (some (bn, bv)) ∧ bv.fns <+: fns ∧ ptr = none ∧
          v = some { fns := fns, baseField := some bn, ty := .cptr (.raw item.path) })) := by
  cases vfns with
  | none =>
    unfold buildVftable at h
    simp only [Prod.mk.injEq] at h
    obtain ⟨rfl, h⟩ := h
    refine .inl ⟨rfl, rfl, ?_⟩
    split at h
    · next bn bv hb => cases h; exact ⟨rfl, .inr ⟨bn, bv, hb, rfl⟩⟩
    · next hb => cases h; exact ⟨rfl, .inl ⟨hb, rfl⟩⟩
    · exact absurd h (Res.cast_ne_ok _ _)
  | some fns =>
    right
    rcases buildVftable_some_cases s owner vis fb fns with ⟨hi, e⟩ | ⟨m, e⟩ | ⟨item, s1', hi, hfree, ha, e⟩
    · rw [e] at h
      cases h
      exact .inl ⟨fns, rfl, by simpa [buildVftableItem] using hi, rfl, rfl, rfl⟩
    · rw [e] at h
      cases h
    · rw [e] at h
      obtain ⟨rfl, hck⟩ := Prod.mk.inj h
      refine .inr ⟨fns, item, rfl, hi, hfree, ha, ?_⟩
      rcases C06.vftCheck_ok hck with ⟨bn, bv, hb, hpre, hr⟩ | ⟨hb, hr⟩
      · cases hr; exact .inr ⟨bn, bv, hb, hpre, rfl, rfl⟩
      · cases hr; exact .inl ⟨hb, rfl, rfl⟩

namespace C02

theorem buildVftable_reach2 (s : State) (owner : Path) (vis : Vis) (fb : Option Region)
    (vfns : Option (List SFunc)) : Reach2 s (buildVftable s owner vis fb vfns).1 owner := by
  cases vfns with
  | none => exact .inl rfl
  | some fns =>
    rcases buildVftable_some_cases s owner vis fb fns with ⟨_, e⟩ | ⟨_, e⟩ | ⟨item, s1, hi, hfree, ha, e⟩
    · rw [e]; exact .inl rfl
    · rw [e]; exact .inl rfl
    · rw [e]; exact .inr ⟨vis, fns, item, hi, hfree, ha⟩

theorem resolveRegions_reach2 (s : State) (owner : Path) (vis : Vis) (target : Option Nat)
    (pending : List (Option Nat × Region)) (vfns : Option (List SFunc)) :
    Reach2 s (resolveRegions s owner vis target pending vfns).1 owner := by
  have hb := buildVftable_reach2 s owner vis ((pending.map (·.2)).find? (·.isBase)) vfns
  unfold resolveRegions
  simp only []
  split
  · exact .inl rfl
  · exact .inl rfl
  · exact .inl rfl
  · exact .inl rfl
  · split
    · next s1 vft vregion e => rw [e] at hb; exact hb
    · next s1 x _ e => rw [e] at hb; exact hb

theorem buildType_reach2 (s : State) (path : Path) (vis : Vis) (d : G.TypeDef) :
    Reach2 s (buildType s path vis d).1 path := by
  unfold buildType
  split
  · exact .inl rfl
  · split
    · exact .inl rfl
    · split
      · next ta _ =>
        split
        · next sa _ =>
          have hr := resolveRegions_reach2 s path vis ta.targetSize sa.pending sa.vfns
          split
          · next s1 regions vft size placed e => rw [e] at hr; exact hr
          · next s1 x _ e => rw [e] at hr; exact hr
        · exact .inl rfl
      · exact .inl rfl

end C02

namespace C20

/-- what `attemptItem` computes from the definition stored in an unresolved entry -/
def attemptDef (s : State) (p : Path) (d : G.Item) : State × Res Resolved :=
  match d.inner with
  | .type td => buildType s p d.vis td
  | .enum ed => (s, buildEnum s p ed)

/-- … and what it does with the answer: a result is stored, `Ok(None)` becomes `Ok(())` -/
def finishAttempt (p : Path) : State × Res Resolved → State × Res Unit
  | (s1, .ok r) => ({ s1 with reg := s1.reg.setState p (.res r) }, .ok ())
  | (s1, .defer) => (s1, .ok ())
  | (s1, .err m) => (s1, .err m)
  | (s1, .panic m) => (s1, .panic m)

end C20
open C20 (attemptDef finishAttempt)

theorem C20.attemptDef_type (s : State) (p : Path) {d : G.Item} {td : G.TypeDef} (hd : d.inner = .type td) :
    attemptDef s p d = buildType s p d.vis td := by
  unfold attemptDef; rw [hd]

theorem C20.attemptDef_enum (s : State) (p : Path) {d : G.Item} {ed : G.EnumDef} (hd : d.inner = .enum ed) :
    attemptDef s p d = (s, buildEnum s p ed) := by
  unfold attemptDef; rw [hd]

theorem attemptItem_of_none {s : State} {p : Path} (hg : s.reg.get p = none) :
    attemptItem s p = (s, .err "failed to get type") := by
  unfold attemptItem; rw [hg]

theorem attemptItem_of_res {s : State} {p : Path} {i : ItemDef} {r : Resolved} (hg : s.reg.get p = some i)
    (hr : i.state = .res r) : attemptItem s p = (s, .ok ()) := by
  unfold attemptItem; simp only [hg, hr]

theorem attemptItem_of_unres {s : State} {p : Path} {i : ItemDef} {d : G.Item} (hg : s.reg.get p = some i)
    (hd : i.state = .unres d) : attemptItem s p = finishAttempt p (attemptDef s p d) := by
  unfold attemptItem attemptDef
  simp only [hg, hd]
  cases d.inner with
  | type td => simp only []; rcases buildType s p d.vis td with ⟨s1, x⟩; cases x <;> rfl
  | enum ed => simp only []; cases buildEnum s p ed <;> rfl

theorem attemptDef_reach2 (s : State) (p : Path) (d : G.Item) : Reach2 s (attemptDef s p d).1 p := by
  cases hd : d.inner with
  | type td => rw [C20.attemptDef_type s p hd]; exact C02.buildType_reach2 s p d.vis td
  | enum ed => rw [C20.attemptDef_enum s p hd]; exact .inl rfl

theorem attemptItem_induct {P : State → Prop} {s : State} {p : Path} (h : P s)
    (build : ∀ i d, s.reg.get p = some i → i.state = .unres d → P (attemptDef s p d).1)
    (store : ∀ i d s1 r, s.reg.get p = some i → i.state = .unres d → attemptDef s p d = (s1, .ok r) → P s1 →
      P { s1 with reg := s1.reg.setState p (.res r) }) :
    P (attemptItem s p).1 := by
  cases hg : s.reg.get p with
  | none => rw [attemptItem_of_none hg]; exact h
  | some i =>
    cases hd : i.state with
    | res r => rw [attemptItem_of_res hg hd]; exact h
    | unres d =>
      have hb := build i d hg hd
      rw [attemptItem_of_unres hg hd]
      cases hx : attemptDef s p d with
      | mk s1 x =>
        rw [hx] at hb
        cases x with
        | ok r => exact store i d s1 r hg hd hx hb
        | defer => exact hb
        | err m => exact hb
        | panic m => exact hb

theorem xvalPass_ok_inv {reg : Registry} {e e' : Path × Mod} (h : C20.xvalPass reg e = .ok e') :
    ∃ m', resolveXVals reg e.2 = .ok m' ∧ e' = (e.1, m') := by
  unfold C20.xvalPass at h
  split at h
  · next m' hm' => cases h; exact ⟨m', hm', rfl⟩
  · exact (Res.cast_ne_ok _ _ h).elim

end PyxisVerif
