import PyxisVerif.Lemmas.C12
import PyxisVerif.Model.Full
/-!
# C12 – the parser model only produces `isize` literals

Inversion of the parser (`Model/Parser.lean`): every `.int z` that `pExpr` returns has passed the
`base10_parse::<isize>` range check; attribute lists are built from `pExpr` results only; items carry
the attribute list that `pAttrs` returned.
-/
namespace PyxisVerif.C12
open Lex (K Delim)
open Parse (R R0 ModItem)

def ExprB (e : G.Expr) : Prop := ∀ z, e = .int z → isizeMin ≤ z ∧ z ≤ isizeMax

def AttrB (a : G.Attr) : Prop := ∀ n args z, a = .fn n args → G.Expr.int z ∈ args → isizeMin ≤ z ∧ z ≤ isizeMax

theorem attrsBounded_of_all {attrs : List G.Attr} (h : ∀ a ∈ attrs, AttrB a) : AttrsBounded attrs :=
  fun n args z ha hz => h _ ha n args z rfl hz

theorem pExpr_bounded (ts : List K) (e : G.Expr) (r : List K) (h : Parse.pExpr ts = .ok (e, r)) :
    ExprB e := by
  unfold Parse.pExpr at h
  split at h
  · split at h
    · cases h
    · cases h; intro z hz; cases hz
  · cases h; intro z hz; cases hz
  · split at h
    · rename_i neg v r' _
      split at h
      · split at h
        · cases h
          intro z hz
          cases hz
          rename_i hv _
          simp only [Parse.isizeMax] at hv
          simp only [isizeMin, isizeMax]
          omega
        · cases h
      · split at h
        · cases h
          intro z hz
          cases hz
          rename_i hv _
          simp only [Parse.isizeMax] at hv
          simp only [isizeMin, isizeMax]
          omega
        · cases h
    · cases h

/-! The inversions below go through the branches of a parser function (`fun_cases`, `fun_induction`):
    `cases h` closes those that end in an error and names the result of the others. -/

theorem pTerm_inv {α : Type} (P : α → Prop) (p : List K → Option Nat → R α) (sep : Char)
    (hp : ∀ ts u x r u', p ts u = .ok (x, r, u') → P x)
    (f : Nat) (ts : List K) (u : Option Nat) (xs : List α) (r : List K) (u' : Option Nat)
    (h : Parse.pTerm p sep f ts u = .ok (xs, r, u')) : ∀ x ∈ xs, P x := by
  revert xs h
  fun_induction Parse.pTerm p sep f ts u <;> intro xs h <;> cases h
  · intro x hx; cases hx
  · intro x hx
    rw [List.mem_singleton.mp hx]
    exact hp _ _ _ _ _ ‹_›
  · rename_i ih h1
    intro x hx
    rcases List.mem_cons.mp hx with e | e
    · subst e; exact hp _ _ _ _ _ ‹_›
    · exact ih _ h1 x e

theorem pGroup_inv {α : Type} (P : α → Prop) (d : Delim) (p : List K → Option Nat → R α) (sep : Char)
    (hp : ∀ ts u x r u', p ts u = .ok (x, r, u') → P x)
    (f : Nat) (ts : List K) (u : Option Nat) (xs : List α) (r : List K) (u' : Option Nat)
    (h : Parse.pGroup d p sep f ts u = .ok (xs, r, u')) : ∀ x ∈ xs, P x := by
  revert h
  fun_cases Parse.pGroup d p sep f ts u <;> intro h <;> cases h
  exact pTerm_inv P p sep hp _ _ _ _ _ _ ‹_›

theorem lift_inv {α : Type} (P : α → Prop) (p : List K → R0 α) (hp : ∀ ts x r, p ts = .ok (x, r) → P x)
    (ts : List K) (u : Option Nat) (x : α) (r : List K) (u' : Option Nat)
    (h : Parse.lift p ts u = .ok (x, r, u')) : P x := by
  revert h
  fun_cases Parse.lift p ts u <;> intro h <;> cases h
  exact hp _ _ _ ‹_›

theorem pAttrPart_bounded (f : Nat) (ts : List K) (a : G.Attr) (r : List K)
    (h : Parse.pAttrPart f ts = .ok (a, r)) : AttrB a := by
  unfold Parse.pAttrPart at h
  split at h
  · cases h
  · split at h
    · split at h
      · rename_i args r' _ hg
        cases h
        intro n args' z ha hz
        cases ha
        have := pGroup_inv ExprB .paren (Parse.lift Parse.pExpr) ','
          (fun ts u x r u' hh => lift_inv ExprB Parse.pExpr (fun ts x r h => pExpr_bounded ts x r h)
            ts u x r u' hh) _ _ _ _ _ _ hg
        exact this _ hz z rfl
      · cases h
    · split at h
      · split at h
        · cases h; intro n args z ha; cases ha
        · cases h
      · cases h; intro n args z ha; cases ha
    · cases h; intro n args z ha; cases ha

theorem pAttrBody_bounded (f : Nat) (ts : List K) (as : List G.Attr) (r : List K)
    (h : Parse.pAttrBody f ts = .ok (as, r)) : ∀ a ∈ as, AttrB a := by
  revert h
  fun_cases Parse.pAttrBody f ts <;> intro h <;> cases h
  exact pGroup_inv AttrB .bracket (Parse.lift (Parse.pAttrPart f)) ','
    (fun ts u x r u' hh => lift_inv AttrB (Parse.pAttrPart f)
      (fun ts x r h => pAttrPart_bounded f ts x r h) ts u x r u' hh) _ _ _ _ _ _ ‹_›

theorem pAttrs_bounded (inner : Bool) (f : Nat) (ts : List K) (as : List G.Attr) (r : List K)
    (h : Parse.pAttrs inner f ts = .ok (as, r)) : ∀ a ∈ as, AttrB a := by
  revert as h
  fun_induction Parse.pAttrs inner f ts <;> intro as h <;> cases h <;> intro a ha
  any_goals cases ha
  -- left: `#[…]` or `#![…]`, then more attributes
  all_goals
    rename_i ih h2
    rcases List.mem_append.mp ha with e | e
    · exact pAttrBody_bounded _ _ _ _ ‹_› a e
    · exact ih _ h2 a e

/-- what `ModuleBounded` asks of one item of the `Module::parse` loop -/
def ModItemB : ModItem → Prop
  | .defn i => ItemBounded i
  | .xtype _ attrs => AttrsBounded attrs
  | _ => True

theorem pTypeDef_attrs (f : Nat) (attrs : List G.Attr) (ts : List K) (u : Option Nat) (d : G.TypeDef)
    (r : List K) (u' : Option Nat) (h : Parse.pTypeDef f attrs ts u = .ok (d, r, u')) :
    d.attrs = attrs := by
  revert h
  fun_cases Parse.pTypeDef f attrs ts u <;> intro h <;> cases h <;> rfl

theorem pItemDef_bounded (f : Nat) (vis : G.Vis) (attrs : List G.Attr) (ts : List K) (u : Option Nat)
    (i : G.Item) (r : List K) (u' : Option Nat) (hb : AttrsBounded attrs)
    (h : Parse.pItemDef f vis attrs ts u = .ok (i, r, u')) : ItemBounded i := by
  revert h
  fun_cases Parse.pItemDef f vis attrs ts u <;> intro h <;> cases h <;> simp only [ItemBounded]
  rw [pTypeDef_attrs _ _ _ _ _ _ _ ‹_›]
  exact hb

theorem pVisItem_bounded (f : Nat) (attrs : List G.Attr) (vis : G.Vis) (ts : List K) (u : Option Nat)
    (x : ModItem) (r : List K) (u' : Option Nat) (hb : AttrsBounded attrs)
    (h : Parse.pVisItem f attrs vis ts u = .ok (x, r, u')) : ModItemB x := by
  revert h
  fun_cases Parse.pVisItem f attrs vis ts u <;> intro h <;> cases h
  · trivial
  · exact pItemDef_bounded _ _ _ _ _ _ _ _ hb ‹_›

theorem pAttrItem_bounded (f : Nat) (attrs : List G.Attr) (ts : List K) (u : Option Nat)
    (x : ModItem) (r : List K) (u' : Option Nat) (hb : AttrsBounded attrs)
    (h : Parse.pAttrItem f attrs ts u = .ok (x, r, u')) : ModItemB x := by
  revert h
  fun_cases Parse.pAttrItem f attrs ts u <;> intro h <;> try cases h
  · exact hb
  · trivial
  · exact pVisItem_bounded _ _ _ _ _ _ _ _ hb h

theorem pItem_bounded (f : Nat) (ts : List K) (u : Option Nat) (x : ModItem) (r : List K)
    (u' : Option Nat) (h : Parse.pItem f ts u = .ok (x, r, u')) : ModItemB x := by
  revert h
  fun_cases Parse.pItem f ts u <;> intro h <;> try cases h
  · trivial
  · trivial
  · exact pAttrItem_bounded _ _ _ _ _ _ _ (attrsBounded_of_all (pAttrs_bounded false _ _ _ _ ‹_›)) h

theorem pItems_bounded (fuel f : Nat) (ts : List K) (u : Option Nat) (xs : List ModItem)
    (r : List K) (u' : Option Nat) (h : Parse.pItems fuel f ts u = .ok (xs, r, u')) :
    ∀ x ∈ xs, ModItemB x := by
  revert xs h
  fun_induction Parse.pItems fuel f ts u <;> intro xs h <;> cases h <;> intro x hx
  · cases hx
  · rename_i ih h1
    rcases List.mem_cons.mp hx with e | e
    · subst e; exact pItem_bounded _ _ _ _ _ _ ‹_›
    · exact ih _ h1 x e

theorem assemble_bounded (attrs : List G.Attr) (items : List ModItem) (h : ∀ x ∈ items, ModItemB x) :
    ModuleBounded (Parse.assemble attrs items) := by
  constructor
  · intro d hd
    simp only [Parse.assemble, List.mem_filterMap] at hd
    obtain ⟨x, hx, hs⟩ := hd
    cases x <;> simp only [Parse.selDef, Option.some.injEq, reduceCtorEq] at hs
    subst hs
    exact h _ hx
  · intro xt hd
    simp only [Parse.assemble, List.mem_filterMap] at hd
    obtain ⟨x, hx, hs⟩ := hd
    cases x <;> simp only [Parse.selXType, Option.some.injEq, reduceCtorEq] at hs
    subst hs
    exact h _ hx

theorem parseK_bounded (ts : List K) (m : G.Module) (h : Parse.parseK ts = .ok m) : ModuleBounded m := by
  revert h
  fun_cases Parse.parseK ts <;> intro h <;> cases h
  exact assemble_bounded _ _ (pItems_bounded _ _ _ _ _ _ _ ‹_›)

theorem parseStr_bounded (s : String) (m : G.Module) (h : Parse.parseStr s = .ok m) :
    ModuleBounded m := by
  revert h
  fun_cases Parse.parseStr s <;> intro h
  · cases h
  · revert h
    fun_cases Parse.parseModule ‹_› <;> intro h <;> cases h
    exact parseK_bounded _ _ ‹_›

theorem mapM_inv {α β : Type} (f : α → Except String β) (P : β → Prop) :
    ∀ (l : List α) (r : List β), (∀ a b, a ∈ l → f a = .ok b → P b) → l.mapM f = .ok r → ∀ b ∈ r, P b := by
  intro l
  induction l with
  | nil =>
    intro r _ h
    simp only [List.mapM_nil, pure, Except.pure, Except.ok.injEq] at h
    subst h; intro b hb; cases hb
  | cons a l ih =>
    intro r hf h
    simp only [List.mapM_cons, bind, Except.bind, pure, Except.pure] at h
    split at h
    · cases h
    · rename_i b hb
      split at h
      · cases h
      · rename_i bs hbs
        cases h
        intro x hx
        rcases List.mem_cons.mp hx with e | e
        · subst e; exact hf a _ (by simp) hb
        · exact ih bs (fun a' b' ha' => hf a' b' (by simp [ha'])) hbs x e

theorem resolveTexts_bounded (c c' : Case) (ht : c.allText = true) (h : resolveTexts c = .ok c') :
    CaseBounded c' ∧ c'.ps = c.ps := by
  unfold resolveTexts at h
  simp only [bind, Except.bind, pure, Except.pure] at h
  split at h
  · cases h
  · rename_i mods hm
    cases h
    refine ⟨?_, rfl⟩
    intro path file m hmem
    have := mapM_inv _ (fun me => ∀ path file m, me = ModEnt.ast path file m → ModuleBounded m)
      c.modules mods ?_ hm _ hmem path file m rfl
    · exact this
    · intro a b ha hab
      simp only [Case.allText, List.all_eq_true] at ht
      have hta := ht a ha
      cases a with
      | ast p f m => simp at hta
      | text file text =>
        simp only [] at hab
        split at hab
        · rename_i m' hp
          cases hab
          intro path file' m'' e
          cases e
          exact parseStr_bounded _ _ hp
        · cases hab

end PyxisVerif.C12
